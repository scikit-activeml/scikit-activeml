import SkaModel.Lemmas.Budget

/-!
# C10 — stream update commits exactly what query simulated

Models: `SkaModel/Core/Budget.lean`, `Core/Stream.lean`. The theorems about the single managers are the instances of
`Refines.query_wellformed`, `Refines.update_commits`, `Refines.chunk_invariance` (`Lemmas/SimLoop.lean`) at `X_refines`
of `Lemmas/Budget.lean`.

* `…_query_wellformed`: queried indices strictly increasing and in range, one utility per candidate;
* `…_update_accepts_query`: `update(candidates, query(candidates))` never raises;
* `…_update_commits`: the state after that `update` is the state the query simulated;
* `chunk_invariance_…`: labels granted over a whole stream and the final state do not depend on how the
  stream is cut into `query`/`update` chunks — for fixed, variable (current code, after eebfd1c6), split,
  random, BIQF, periodic, stream random sampling; for the two managers that consume normal draws the
  claim is not made (the property excludes them), only `u`/`theta` commitment is proved;
* CognitiveDualQueryStrategy: `cognitive_update_accepts` (current code, after a01696e6) at full strength;
  the counterexamples about the code before that commit live in `Ska.C10.Regressions`, the second with its
  twin on the current code (`cognitive_update_repaired_example`);
* `density_chunk_dependence_counterexample`: the density / cognitive strategies judge every instance of a
  chunk against the manager state from before the chunk — their grants depend on the chunking.

Everything except the concrete counterexamples holds over every numeric carrier with the operations
used by the models (no field axioms needed), all parameters, utility streams incl. NaN, random streams.
-/

set_option linter.unusedSectionVars false

namespace Ska.C10
open Ska Ska.Budget

section Managers
variable {α : Type} [Add α] [Sub α] [Mul α] [Div α] [LT α] [DecidableLT α] [OfNat α 0] [OfNat α 1]

theorem fixed_query_wellformed (p : ZParams α) (s : ZState α) (us : List (Option α)) :
    ((fixedMgr p).query s us).1.Pairwise (· < ·) ∧ ∀ i ∈ ((fixedMgr p).query s us).1, i < us.length :=
  (fixed_refines p).query_wellformed s us

theorem variable_query_wellformed (p : ZParams α) (s : ZState α) (us : List (Option α)) :
    ((varMgr p).query s us).1.Pairwise (· < ·) ∧ ∀ i ∈ ((varMgr p).query s us).1, i < us.length :=
  (var_refines p).query_wellformed s us

theorem split_query_wellformed (p : ZParams α) (uni : Nat → α) (s : ZState α) (us : List (Option α)) :
    ((splitMgr p uni).query s us).1.Pairwise (· < ·) ∧ ∀ i ∈ ((splitMgr p uni).query s us).1, i < us.length :=
  (split_refines p uni).query_wellformed s us

theorem random_query_wellformed (p : ZParams α) (uni : Nat → α) (s : ZState α) (us : List (Option α)) :
    ((randomMgr p uni).query s us).1.Pairwise (· < ·) ∧ ∀ i ∈ ((randomMgr p uni).query s us).1, i < us.length :=
  (random_refines p uni).query_wellformed s us

theorem randVar_query_wellformed (p : ZParams α) (nrm : Nat → α) (s : ZState α) (us : List (Option α)) :
    ((randVarMgr p nrm).query s us).1.Pairwise (· < ·) ∧ ∀ i ∈ ((randVarMgr p nrm).query s us).1, i < us.length :=
  wellformed_simLoop (randVarBody p nrm) us s

theorem fixed_update_commits (p : ZParams α) (s : ZState α) (us : List (Option α)) :
    (fixedMgr p).update ((fixedMgr p).query s us).2 us ((fixedMgr p).query s us).1 = .ok (simLoop (fixedBody p) s us).2 :=
  (fixed_refines p).update_commits s us

/-- current code (after eebfd1c6): `theta_` and `u_t_` after update are the simulated `tmp_theta`, `tmp_u_t` -/
theorem variable_update_commits (p : ZParams α) (s : ZState α) (us : List (Option α)) :
    (varMgr p).update ((varMgr p).query s us).2 us ((varMgr p).query s us).1 = .ok (simLoop (varBody p) s us).2 :=
  (var_refines p).update_commits s us

/-- the generator is advanced by exactly the draws the query simulated -/
theorem split_update_commits (p : ZParams α) (uni : Nat → α) (s : ZState α) (us : List (Option α)) :
    (splitMgr p uni).update ((splitMgr p uni).query s us).2 us ((splitMgr p uni).query s us).1
      = .ok (simLoop (splitBody p uni) s us).2 :=
  (split_refines p uni).update_commits s us

theorem random_update_commits (p : ZParams α) (uni : Nat → α) (s : ZState α) (us : List (Option α)) :
    (randomMgr p uni).update ((randomMgr p uni).query s us).2 us ((randomMgr p uni).query s us).1
      = .ok (simLoop (randomBody p uni) s us).2 :=
  (random_refines p uni).update_commits s us

/-- RandomVariableUncertaintyBudgetManager: update accepts the query result and commits the simulated
`u_t_` and `theta_`; the generator is advanced by `len(candidates)` uniform draws, *not* by the normal
draws of the simulation (hence no chunk-invariance claim, as the property says). -/
theorem randVar_update_accepts_query (p : ZParams α) (nrm : Nat → α) (s : ZState α) (us : List (Option α)) :
    (randVarMgr p nrm).update ((randVarMgr p nrm).query s us).2 us ((randVarMgr p nrm).query s us).1
      = .ok { u := (simLoop (randVarBody p nrm) s us).2.u, theta := (simLoop (randVarBody p nrm) s us).2.theta,
              rng := s.rng + us.length } :=
  randVar_update_sim p nrm s us

theorem chunk_invariance_fixed (p : ZParams α) (s : ZState α) (c1 c2 : List (List (Option α)))
    (hc : c1.flatten = c2.flatten) :
    runChunked (fixedMgr p) s c1 0 = runChunked (fixedMgr p) s c2 0 ∧ ∃ r, runChunked (fixedMgr p) s c1 0 = .ok r :=
  (fixed_refines p).chunk_invariance s c1 c2 hc

/-- true of the current code (the `theta_` loop of `update` advances its copy of `u_t_`); on the code
before commit eebfd1c6 this statement was false. -/
theorem chunk_invariance_variable (p : ZParams α) (s : ZState α) (c1 c2 : List (List (Option α)))
    (hc : c1.flatten = c2.flatten) :
    runChunked (varMgr p) s c1 0 = runChunked (varMgr p) s c2 0 ∧ ∃ r, runChunked (varMgr p) s c1 0 = .ok r :=
  (var_refines p).chunk_invariance s c1 c2 hc

theorem chunk_invariance_split (p : ZParams α) (uni : Nat → α) (s : ZState α) (c1 c2 : List (List (Option α)))
    (hc : c1.flatten = c2.flatten) :
    runChunked (splitMgr p uni) s c1 0 = runChunked (splitMgr p uni) s c2 0 ∧
      ∃ r, runChunked (splitMgr p uni) s c1 0 = .ok r :=
  (split_refines p uni).chunk_invariance s c1 c2 hc

theorem chunk_invariance_random (p : ZParams α) (uni : Nat → α) (s : ZState α) (c1 c2 : List (List (Option α)))
    (hc : c1.flatten = c2.flatten) :
    runChunked (randomMgr p uni) s c1 0 = runChunked (randomMgr p uni) s c2 0 ∧
      ∃ r, runChunked (randomMgr p uni) s c1 0 = .ok r :=
  (random_refines p uni).chunk_invariance s c1 c2 hc

variable [NatCast α]

theorem dbSplit_query_wellformed (p : DParams α) (nrm : Nat → α) (s : DState α) (us : List (Option α)) :
    ((dbMgr p nrm).query s us).1.Pairwise (· < ·) ∧ ∀ i ∈ ((dbMgr p nrm).query s us).1, i < us.length :=
  wellformed_simLoop (dbBody p nrm) us s

/-- DensityBasedSplitBudgetManager: update accepts the query result and commits the simulated `u_`,
`t_`, `theta_`; the generator is advanced by `len(candidates)` uniform draws. -/
theorem dbSplit_update_accepts_query (p : DParams α) (nrm : Nat → α) (s : DState α) (us : List (Option α)) :
    (dbMgr p nrm).update ((dbMgr p nrm).query s us).2 us ((dbMgr p nrm).query s us).1
      = .ok { (simLoop (dbBody p nrm) s us).2 with rng := s.rng + us.length } :=
  db_update_sim p nrm s us

theorem biqf_query_wellformed (p : QParams α) (qf : List (Option α) → Option α) (s : QState α) (us : List (Option α)) :
    ((biqfMgr p qf).query s us).1.Pairwise (· < ·) ∧ ∀ i ∈ ((biqfMgr p qf).query s us).1, i < us.length :=
  (biqf_refines p qf).query_wellformed s us

/-- BIQF (with the chunk's utilities handed to `update`, as `StreamProbabilisticAL` requires) -/
theorem biqf_update_commits (p : QParams α) (qf : List (Option α) → Option α) (s : QState α) (us : List (Option α)) :
    (biqfMgr p qf).update ((biqfMgr p qf).query s us).2 us ((biqfMgr p qf).query s us).1
      = .ok (simLoop (biqfBody p qf) s us).2 :=
  (biqf_refines p qf).update_commits s us

/-- for every quantile function (`np.quantile` is an oracle of the model) -/
theorem chunk_invariance_biqf (p : QParams α) (qf : List (Option α) → Option α) (s : QState α)
    (c1 c2 : List (List (Option α))) (hc : c1.flatten = c2.flatten) :
    runChunked (biqfMgr p qf) s c1 0 = runChunked (biqfMgr p qf) s c2 0 ∧
      ∃ r, runChunked (biqfMgr p qf) s c1 0 = .ok r :=
  (biqf_refines p qf).chunk_invariance s c1 c2 hc

/-- StreamRandomSampling.query: indices well-formed, `utilities` has one entry per candidate. -/
theorem streamRandom_query_wellformed (allow : Bool) (b : α) (uni : Nat → α) (s : CState) (n : Nat) :
    (srsQuery allow b uni s n).1.1.Pairwise (· < ·) ∧ (∀ i ∈ (srsQuery allow b uni s n).1.1, i < n) ∧
    (srsQuery allow b uni s n).1.2.length = n := by
  have h := wellformed_simLoop (srsBody allow b) (draws uni s.rng n) s
  rw [draws_length] at h
  exact ⟨h.1, h.2, draws_length _ _ _⟩

theorem periodic_query_wellformed (b : α) (s : CState) (n : Nat) :
    (perQuery b s n).1.1.Pairwise (· < ·) ∧ (∀ i ∈ (perQuery b s n).1.1, i < n) ∧ (perQuery b s n).1.2.length = n := by
  have h := wellformed_simLoop (perBody b) (List.replicate n ()) s
  rw [List.length_replicate] at h
  exact ⟨h.1, h.2, by simp only [perQuery, List.length_map, simLoop_length, List.length_replicate]⟩

theorem streamRandom_update_commits (allow : Bool) (b : α) (uni : Nat → α) (s : CState) (c : List Unit) :
    (srsMgr allow b uni).update ((srsMgr allow b uni).query s c).2 c ((srsMgr allow b uni).query s c).1
      = .ok (simLoop (srsStep allow b uni) s c).2 :=
  (srs_refines allow b uni).update_commits s c

theorem periodic_update_commits (b : α) (s : CState) (c : List Unit) :
    (perMgr b).update ((perMgr b).query s c).2 c ((perMgr b).query s c).1 = .ok (simLoop (perBody b) s c).2 :=
  (per_refines b).update_commits s c

theorem chunk_invariance_streamRandom (allow : Bool) (b : α) (uni : Nat → α) (s : CState)
    (c1 c2 : List (List Unit)) (hc : c1.flatten = c2.flatten) :
    runChunked (srsMgr allow b uni) s c1 0 = runChunked (srsMgr allow b uni) s c2 0 ∧
      ∃ r, runChunked (srsMgr allow b uni) s c1 0 = .ok r :=
  (srs_refines allow b uni).chunk_invariance s c1 c2 hc

theorem chunk_invariance_periodic (b : α) (s : CState) (c1 c2 : List (List Unit)) (hc : c1.flatten = c2.flatten) :
    runChunked (perMgr b) s c1 0 = runChunked (perMgr b) s c2 0 ∧ ∃ r, runChunked (perMgr b) s c1 0 = .ok r :=
  (per_refines b).chunk_invariance s c1 c2 hc

end Managers

section Glue
variable {σ ι κ : Type}

/-- UncertaintyZliobaite / StreamProbabilisticAL: whatever the classifier reports as utilities, update
accepts the query result and the strategy commits what its manager commits. -/
theorem utilStrategy_update_commits (util : κ → ι) {M : Mgr σ ι} {step : σ → ι → Bool × σ} (h : Refines M step)
    (s : σ) (c : List κ) :
    (utilStrategy util M).update ((utilStrategy util M).query s c).2 c ((utilStrategy util M).query s c).1
      = .ok (simLoop step s (c.map util)).2 :=
  h.update_commits s (c.map util)

theorem utilStrategy_query_wellformed (util : κ → ι) {M : Mgr σ ι} {step : σ → ι → Bool × σ} (h : Refines M step)
    (s : σ) (c : List κ) :
    ((utilStrategy util M).query s c).1.Pairwise (· < ·) ∧ ∀ i ∈ ((utilStrategy util M).query s c).1, i < c.length := by
  have := h.query_wellformed s (c.map util)
  rwa [List.length_map] at this

/-- StreamDensityBasedAL / CognitiveDualQueryStrategy: the indices returned by query are well-formed
positions of the unfiltered chunk. -/
theorem density_query_wellformed (M : Mgr σ (Option ι)) (s : σ) (c : List (Bool × Option ι)) :
    (densityQuery M s c).1.Pairwise (· < ·) ∧ ∀ i ∈ (densityQuery M s c).1, i < c.length := by
  have := idxOf_wellformed (densityDecisions M s c)
  rwa [densityDecisions_length] at this

/-- **density_update_accepts** — `StreamDensityBasedAL`: failing instances are kept as NaN placeholders,
`new_candidates` has the length of the chunk, so a manager whose `update` only fails on out-of-range
indices accepts every query result. (`hM` holds for all seven managers: "`bitsOf n idx`, then commit".) -/
theorem density_update_accepts (M : Mgr σ (Option ι)) (s : σ) (c : List (Bool × Option ι))
    (hM : ∀ s (xs : List (Option ι)) idx, (∀ i ∈ idx, i < xs.length) → ∃ s', M.update s xs idx = .ok s') :
    ∃ s', (densityStrategy true M).update ((densityStrategy true M).query s c).2 c
      ((densityStrategy true M).query s c).1 = .ok s' := by
  apply hM  -- `densityUpdate` is `M.update` on `newCandidates`, by definition
  rw [newCandidates_keepAll, List.length_map]
  exact (density_query_wellformed M s c).2

/-- **cognitive_update_accepts** (current code, commit a01696e6), full strength: for both values of
`force_full_budget`, every chunk, every pattern of density-filter outcomes and every manager state,
`update(chunk, query(chunk))` hands the manager a list of indices `js`, one per queried instance, such
that `js[t]` is in range of `new_candidates` **and `new_candidates[js[t]]` is the entry appended for the
queried instance `idx[t]`** (each label is booked on the same instance); hence a manager that only
fails on out-of-range indices accepts. -/
theorem cognitive_update_accepts (ffb : Bool) (M : Mgr σ (Option ι)) (s : σ) (c : List (Bool × Option ι))
    (hM : ∀ s (xs : List (Option ι)) idx, (∀ i ∈ idx, i < xs.length) → ∃ s', M.update s xs idx = .ok s') :
    ∃ js, remap (newPositions ffb c 0) ((cognitiveStrategy ffb M).query s c).1 = .ok js ∧
      List.Forall₂ (fun i j => ∃ hi : i < c.length, (newCandidates ffb c)[j]? = some (entryOf c[i]))
        ((cognitiveStrategy ffb M).query s c).1 js ∧
      ∃ s', (cognitiveStrategy ffb M).update ((cognitiveStrategy ffb M).query s c).2 c
        ((cognitiveStrategy ffb M).query s c).1 = .ok s' := by
  have hspec : ∀ i ∈ (densityQuery M s c).1, ∃ j, (newPositions ffb c 0).getD i none = some j ∧
      ∃ hi : i < c.length, (newCandidates ffb c)[j]? = some (entryOf c[i]) := by
    intro i hi
    obtain ⟨hlt, hpass⟩ := densityDecisions_pass M s c i ((mem_idxOf_zero _ i).mp hi)
    obtain ⟨j, h1, h2⟩ := newPositions_spec ffb c 0 i hlt (by rw [passedOn, hpass, Bool.or_true])
    exact ⟨j, Nat.zero_add j ▸ h1, hlt, h2⟩
  obtain ⟨js, hjs, hf⟩ := remap_ok hspec
  have hrange : ∀ j ∈ js, j < (newCandidates ffb c).length :=
    forall₂_right (Q := fun j => j < (newCandidates ffb c).length) hf
      (fun _ _ h => (List.getElem?_eq_some_iff.mp h.2).1)
  obtain ⟨s', hs'⟩ := hM s (newCandidates ffb c) js hrange
  exact ⟨js, hjs, hf, s', (cognitiveUpdate_of_remap hjs).trans hs'⟩

/-- the hypothesis `hM` of the two theorems above holds for the managers (here: fixed; the others
have the same shape `match bitsOf n idx with …`) -/
theorem fixed_update_total {α : Type} [Add α] [Sub α] [Mul α] [Div α] [LT α] [DecidableLT α] [OfNat α 0]
    [OfNat α 1] (p : ZParams α) (s : ZState α) (xs : List (Option α)) (idx : List Nat)
    (h : ∀ i ∈ idx, i < xs.length) : ∃ s', (fixedMgr p).update s xs idx = .ok s' := by
  simp only [fixedMgr, fixedUpdate, bitsOf_of_lt h]
  exact ⟨_, rfl⟩

end Glue

namespace Regressions

/-- **cognitive_update_counterexample** — for `CognitiveDualQueryStrategy(force_full_budget=False)`
*before* commit a01696e6 (`update` = `densityUpdate false`: indices handed over untranslated) the
statement "`update(chunk, query(chunk))` does not raise" was FALSE: a chunk whose first instance fails the
density filter (always the case for the very first instance of a stream) and whose second instance is
queried gives `queried_indices = [1]` while `new_candidates` has length 1 → IndexError.
Manager: FixedUncertainty, `w = 4`, budget `1/4`, over ℚ. -/
theorem cognitive_update_counterexample :
    let M := densityStrategy false (fixedMgr (α := ℚ) { w := 4, b := 1/4, s := 0, v := 0, nc := 2 })
    let s : ZState ℚ := { u := 0, theta := 0, rng := 0 }
    let chunk : List (Bool × Option ℚ) := [(false, some 1), (true, some 1)]
    (M.query s chunk).1 = [1] ∧ M.update (M.query s chunk).2 chunk (M.query s chunk).1 = .error .indexError := by
  decide +kernel

/-- … and when no exception was raised the label was booked on another instance: instance 1 was
queried, the manager was told that its second remaining candidate (instance 2) was. -/
theorem cognitive_update_misaddressed_counterexample :
    let M := densityStrategy false (fixedMgr (α := ℚ) { w := 4, b := 1/4, s := 0, v := 0, nc := 2 })
    let s : ZState ℚ := { u := 0, theta := 0, rng := 0 }
    let chunk : List (Bool × Option ℚ) := [(false, some 1), (true, some 1), (true, none)]
    (M.query s chunk).1 = [1] ∧
    bitsOf (newCandidates false chunk).length (M.query s chunk).1 = .ok [false, true] := by
  decide +kernel

/-- the second chunk on the current code (the repaired twin of the counterexample above): accepted, and
instance 1 is booked at position 0 = its position among the instances passed on. -/
theorem cognitive_update_repaired_example :
    let M := cognitiveStrategy false (fixedMgr (α := ℚ) { w := 4, b := 1/4, s := 0, v := 0, nc := 2 })
    let s : ZState ℚ := { u := 0, theta := 0, rng := 0 }
    let chunk : List (Bool × Option ℚ) := [(false, some 1), (true, some 1), (true, none)]
    (M.query s chunk).1 = [1] ∧ remap (newPositions false chunk 0) (M.query s chunk).1 = .ok [0] ∧
    M.update (M.query s chunk).2 chunk (M.query s chunk).1 = .ok { u := 3/4, theta := 0, rng := 0 } := by
  decide +kernel

end Regressions

/-- **density_chunk_dependence_counterexample.**  The statement
`∀ c1 c2, c1.flatten = c2.flatten → runChunked (densityStrategy true M) s c1 0 = runChunked (densityStrategy true M) s c2 0`
(chunk invariance of `StreamDensityBasedAL` over a deterministic manager; likewise for
`cognitiveStrategy ffb M`, which has the same `query`) is FALSE of the current code: `query` judges
every instance of a chunk by a one-element `query_by_utility` against the manager state from *before
the chunk*, so the budget guard never sees the labels granted earlier in the same chunk.
VariableUncertainty manager, `w = 4`, budget `1/4`, four instances of which the first fails the density
filter: as one chunk the instances 1, 2, 3 are granted (3 labels although `u_t_/w` reaches the budget
after the first), one by one only 1 and 3. -/
theorem density_chunk_dependence_counterexample :
    let M := densityStrategy true (varMgr (α := ℚ) { w := 4, b := 1/4, s := 1/4, v := 0, nc := 0 })
    let s : ZState ℚ := { u := 0, theta := 1, rng := 0 }
    let x0 : Bool × Option ℚ := (false, some (1/2))
    let x : Bool × Option ℚ := (true, some (1/2))
    (runChunked M s [[x0, x, x, x]] 0).map (·.1) = .ok [1, 2, 3] ∧
    (runChunked M s [[x0], [x], [x], [x]] 0).map (·.1) = .ok [1, 3] := by
  decide +kernel

/-- the same for `CognitiveDualQueryStrategy(force_full_budget=True)` -/
theorem cognitive_chunk_dependence_counterexample :
    let M := cognitiveStrategy true (varMgr (α := ℚ) { w := 4, b := 1/4, s := 1/4, v := 0, nc := 0 })
    let s : ZState ℚ := { u := 0, theta := 1, rng := 0 }
    let x0 : Bool × Option ℚ := (false, some (1/2))
    let x : Bool × Option ℚ := (true, some (1/2))
    (runChunked M s [[x0, x, x, x]] 0).map (·.1) = .ok [1, 2, 3] ∧
    (runChunked M s [[x0], [x], [x], [x]] 0).map (·.1) = .ok [1, 3] := by
  decide +kernel

/-- **density_chunk_invariance_partial**: with chunks of size one the strategies are the per-instance
process by definition, and within a chunk the *decisions* are those of one-element queries on the
state before the chunk — which is all that can be said. -/
theorem density_chunk_invariance_partial {σ ι : Type} (M : Mgr σ (Option ι)) (s : σ) (c : List (Bool × Option ι)) (i : Nat)
    (hi : i < c.length) :
    (densityDecisions M s c)[i]? = some (c[i].1 && !(M.query s [c[i].2]).1.isEmpty) := by
  rw [densityDecisions_eq_map, List.getElem?_map, List.getElem?_eq_getElem hi]; rfl

/-- concrete instance of chunk invariance over ℚ (hypotheses satisfiable; the guard boundary
`u_t_/w = budget` is crossed inside a chunk) -/
example :
    runChunked (varMgr (α := ℚ) { w := 4, b := 1/4, s := 1/2, v := 0, nc := 0 }) { u := 0, theta := 1, rng := 0 }
      [[some 1, some 1, some 1]] 0 =
    runChunked (varMgr (α := ℚ) { w := 4, b := 1/4, s := 1/2, v := 0, nc := 0 }) { u := 0, theta := 1, rng := 0 }
      [[some 1], [some 1], [some 1]] 0 :=
  (chunk_invariance_variable _ _ [[some 1, some 1, some 1]] [[some 1], [some 1], [some 1]] (by simp)).1

end Ska.C10
