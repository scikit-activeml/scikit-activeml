import SkaModel.Lemmas.Budget

/-!
# C03 — stream query is a pure simulation: it never changes strategy state

Property theorems only. The models (`SkaModel/Core/Budget.lean`, `Core/Stream.lean`) return from every
`query` the state of the object *after* the call, built the way the code builds it: the loop runs on
temporaries and on the live generator, then the generator is restored. "Query is pure" is therefore a
statement about these definitions (dropping the restore line makes it false: `unrestored_query_not_pure`).

The purity statements hold over **every numeric carrier** with the operations the models use (no
axioms on them are needed: in particular they hold at `Float`), for all states, all utility streams
incl. NaN, all parameters and all random streams.
-/

set_option linter.unusedSectionVars false

namespace Ska.C03
open Ska Ska.Budget

section Pure
variable {α : Type} [Add α] [Sub α] [Mul α] [Div α] [LT α] [DecidableLT α] [OfNat α 0] [OfNat α 1]

/-- FixedUncertaintyBudgetManager.query_by_utility leaves `u_t_` (and everything else) unchanged. -/
theorem fixed_query_pure (p : ZParams α) : PureQ (fixedMgr p) := (fixed_refines p).pureQ

/-- VariableUncertaintyBudgetManager: `u_t_`, `theta_` unchanged (the loop adapts `tmp_theta` only). -/
theorem variable_query_pure (p : ZParams α) : PureQ (varMgr p) := (var_refines p).pureQ

/-- RandomVariableUncertaintyBudgetManager: `u_t_`, `theta_` **and the generator** unchanged, although
the loop draws one normal number per instance that still has budget. (From `zQuery_eq`, there is no
`Refines`: `update` advances the generator by `len(candidates)`, not by the simulated draws — `randVar_update_sim`.) -/
theorem randVar_query_pure (p : ZParams α) (nrm : Nat → α) : PureQ (randVarMgr p nrm) :=
  fun s xs => congrArg Prod.snd (zQuery_eq (randVarBody p nrm) s xs)

/-- SplitBudgetManager: unchanged although one or two uniform numbers are drawn per instance. -/
theorem split_query_pure (p : ZParams α) (uni : Nat → α) : PureQ (splitMgr p uni) :=
  (split_refines p uni).pureQ

/-- RandomBudgetManager: unchanged although `random_sample(n)` is drawn. -/
theorem random_query_pure (p : ZParams α) (uni : Nat → α) : PureQ (randomMgr p uni) :=
  (random_refines p uni).pureQ

variable [NatCast α]

/-- DensityBasedSplitBudgetManager: `u_`, `t_`, `theta_` and the generator unchanged. (No `Refines` either:
`db_update_sim`.) -/
theorem dbSplit_query_pure (p : DParams α) (nrm : Nat → α) : PureQ (dbMgr p nrm) :=
  fun s xs => congrArg Prod.snd (dbQuery_eq p nrm s xs)

/-- BalancedIncrementalQuantileFilter: counters and the history deque unchanged (the loop appends to a copy). -/
theorem biqf_query_pure (p : QParams α) (qf : List (Option α) → Option α) : PureQ (biqfMgr p qf) :=
  (biqf_refines p qf).pureQ

/-- StreamRandomSampling.query: counters and the generator unchanged (utilities are drawn, then the
generator state is put back). -/
theorem streamRandom_query_pure (allow : Bool) (b : α) (uni : Nat → α) : PureQ (srsMgr allow b uni) :=
  (srs_refines allow b uni).pureQ

/-- PeriodicSampling.query: counters unchanged. -/
theorem periodic_query_pure (b : α) : PureQ (perMgr b) := (per_refines b).pureQ

end Pure

section Glue
variable {σ ι κ : Type}

/-- UncertaintyZliobaite (Fixed/Variable/RandomVariable/Split) and StreamProbabilisticAL:
`query` is `budget_manager_.query_by_utility(utilities)`; pure whenever the manager is. -/
theorem utilStrategy_query_pure (util : κ → ι) (M : Mgr σ ι) (h : PureQ M) : PureQ (utilStrategy util M) :=
  fun s c => h s (c.map util)

/-- The manager-facing part of StreamDensityBasedAL / CognitiveDualQueryStrategy.query (one-element
`query_by_utility` calls, results of failing instances discarded): the manager state is unchanged.
(The density window of StreamDensityBasedAL is modelled separately, `Core/Density.lean` / `Props/C03dens.lean`; the
cognition windows of CognitiveDualQueryStrategy are checked on the implementation only.) -/
theorem densityStrategy_query_pure (keepAll : Bool) (M : Mgr σ (Option ι)) : PureQ (densityStrategy keepAll M) :=
  fun _ _ => rfl

/-- the same for `CognitiveDualQueryStrategy` (it shares `query` with the density strategy model) -/
theorem cognitiveStrategy_query_pure (ffb : Bool) (M : Mgr σ (Option ι)) : PureQ (cognitiveStrategy ffb M) :=
  fun _ _ => rfl

/-- **Repeated calls with the same arguments return the same indices.** -/
theorem repeated_query_same (M : Mgr σ ι) (h : PureQ M) (s : σ) (xs : List ι) :
    (M.query (M.query s xs).2 xs).1 = (M.query s xs).1 := by
  rw [h s xs]

/-- **extra_queries_irrelevant**: take any history of `query` / `update` calls in which some calls are
marked as extra, all of them queries. Then the results of the unmarked calls (queried indices, update
success/failure) are exactly the results of the history without the extra calls, and the final state is
the same: state advances only through `update`. -/
theorem extra_queries_irrelevant (M : Mgr σ ι) (h : PureQ M) (ops : List (Bool × Op ι))
    (hq : ∀ o ∈ ops, o.1 = true → isQueryOp o.2 = true) (s : σ) :
    ((runMarked M s ops).1.filter notExtra).map (·.2) = (runOps M s ((ops.filter notExtra).map (·.2))).1 ∧
    (runMarked M s ops).2 = (runOps M s ((ops.filter notExtra).map (·.2))).2 := by
  induction ops generalizing s with
  | nil => exact ⟨rfl, rfl⟩
  | cons o ops ih =>
    have hq' : ∀ o ∈ ops, o.1 = true → isQueryOp o.2 = true := fun o ho => hq o (List.mem_cons_of_mem _ ho)
    obtain ⟨m, op⟩ := o
    cases m with
    | true =>
      -- an extra call is a query: it is dropped on both sides (`notExtra (true, _)` is `false`, `filter` drops
      -- the head by computation) and leaves the state it found (`h`)
      cases op with
      | update xs idx => exact absurd (hq _ List.mem_cons_self rfl) Bool.false_ne_true
      | query xs =>
        rw [show runMarked M s ((true, Op.query xs) :: ops) =
          ((true, Out.queried (M.query s xs).1) :: (runMarked M s ops).1, (runMarked M s ops).2) by
          rw [runMarked, h s xs]]
        exact ih hq' s
    | false =>
      cases op with
      | query xs =>
        -- `notExtra (false, _)` is `true`: `filter` keeps the head on both sides by computation
        have := ih hq' (M.query s xs).2
        exact ⟨congrArg (Out.queried (M.query s xs).1 :: ·) this.1, this.2⟩
      | update xs idx =>
        simp only [runMarked, notExtra, List.filter_cons, Bool.not_false, if_true, List.map_cons, runOps]
        cases M.update s xs idx with
        | ok s' => exact ⟨congrArg (Out.updated :: ·) (ih hq' s').1, (ih hq' s').2⟩
        | error e => exact ⟨congrArg (Out.failed :: ·) (ih hq' s).1, (ih hq' s).2⟩

end Glue

/-- every budget manager and both baselines satisfy the hypothesis of `extra_queries_irrelevant` -/
theorem all_managers_pure {α : Type} [Add α] [Sub α] [Mul α] [Div α] [LT α] [DecidableLT α] [OfNat α 0]
    [OfNat α 1] [NatCast α] (p : ZParams α) (d : DParams α) (q : QParams α) (uni nrm : Nat → α)
    (qf : List (Option α) → Option α) (allow : Bool) :
    PureQ (fixedMgr p) ∧ PureQ (varMgr p) ∧ PureQ (randVarMgr p nrm) ∧ PureQ (splitMgr p uni) ∧
    PureQ (randomMgr p uni) ∧ PureQ (dbMgr d nrm) ∧ PureQ (biqfMgr q qf) ∧ PureQ (srsMgr allow d.b uni) ∧
    PureQ (perMgr d.b) :=
  ⟨fixed_query_pure p, variable_query_pure p, randVar_query_pure p nrm, split_query_pure p uni,
   random_query_pure p uni, dbSplit_query_pure d nrm, biqf_query_pure q qf,
   streamRandom_query_pure allow d.b uni, periodic_query_pure d.b⟩

/-- The purity statements are about the restore step: the object as it is *before*
`random_state_.set_state(prior)` differs from the original as soon as one draw was made
(here: RandomBudgetManager over ℚ, one instance). -/
theorem unrestored_query_not_pure :
    let p : ZParams ℚ := { w := 4, b := 1/4, s := 0, v := 0, nc := 2 }
    let s : ZState ℚ := { u := 0, theta := 0, rng := 0 }
    ({ s with rng := (simLoop (randomBody p (fun _ => 0)) s [some 1]).2.rng } : ZState ℚ) ≠ s := by
  decide +kernel

/-- a concrete non-trivial history with two extra queries: `hq` of `extra_queries_irrelevant` holds of it
(`PureQ M` for this manager is `split_query_pure`) -/
example :
    let M := splitMgr (α := ℚ) { w := 4, b := 1/4, s := 1/100, v := 1/10, nc := 0 } (fun i => if i % 2 = 0 then 1/2 else 0)
    let ops : List (Bool × Op (Option ℚ)) :=
      [(true, .query [some 1]), (false, .query [some 1, none]), (true, .query [none]), (false, .update [some 1, none] [0])]
    ∀ o ∈ ops, o.1 = true → isQueryOp o.2 = true := by
  decide

end Ska.C03
