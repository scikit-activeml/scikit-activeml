import SkaModel.Core.SeqSelect
import SkaModel.Props.C18
import SkaModel.Lemmas.Pool

/-!
# C01 / C02 for strategies with their own sequential selection loop

`maskedSeq_valid`: **any** loop that picks with `rand_argmax` on rows which are NaN at all earlier picks
(the *mask discipline*, a decidable condition the harness evaluates on the rows captured from the real
run) and NaN outside the candidates returns pairwise distinct candidates, each attaining the maximum of
its row — whatever the rows are (distances, typicalities, densities, …), for every batch length and all
positive noise draws.  This is what makes the strategies in the harness's set `SEQ_MASKED`
(`harness/props/_pool.py`; of the GreedySampling family only GreedySamplingX — the family is checked as a
shrinking list, `C01choice.shrinkSeq_valid`) satisfy the distinctness / membership clauses of C01 and the
arg-max clause of C02; the per-strategy hypothesis is checked on every run against the arrays actually passed
to `rand_argmax`.
-/

namespace Ska.C01seq
open Ska Ska.Seq Ska.C18

section Deciders
variable {α : Type}

theorem maskOkB_iff (e : List Nat) (rows : List (List (Option α))) (ps : List Nat) :
    maskOkB e rows ps = true ↔ rows.length = ps.length ∧
      ∀ k, ∀ _ : k < ps.length, ∀ hr : k < rows.length, (e ++ ps.take k).all (isNaNAt rows[k]) = true :=
  stepsB_iff maskOkB (fun e row _ => e.all (isNaNAt row)) (fun _ => rfl) (fun _ _ _ => rfl) (fun _ _ _ => rfl)
    (fun _ _ _ _ _ => rfl) e rows ps

theorem isNaNAt_false_of_some (row : List (Option α)) (j : Nat) (v : α) (h : row[j]? = some (some v)) :
    isNaNAt row j = false := by
  rw [isNaNAt, getD_of_getElem? none h]; rfl

end Deciders

variable {α : Type} [LinearOrder α]
variable {β : Type} [LinearOrder β] [Zero β]

/-- The statement used by the check: with rows that are NaN outside the candidates, the picks are
pairwise distinct candidates and every pick attains the maximum of its row. -/
theorem maskedSeq_valid (cand : List Nat) (rows : List (List (Option α))) (noises : List (List β))
    (hlen : rows.length = noises.length)
    (hrows : ∀ k, ∀ hk : k < rows.length, ∀ hk' : k < noises.length,
        noises[k].length = rows[k].length ∧ (∀ x ∈ noises[k], 0 < x) ∧ 0 < countSome rows[k])
    (hcand : ∀ row ∈ rows, nanOutsideB cand row = true)
    (hmask : maskOkB [] rows (seqPicks rows noises) = true) :
    (seqPicks rows noises).length = rows.length ∧ (seqPicks rows noises).Nodup ∧
    (∀ p ∈ seqPicks rows noises, p ∈ cand) ∧
    (∀ k, ∀ hk : k < rows.length, ∀ hp : k < (seqPicks rows noises).length,
        ∃ m, nanmax rows[k] = some m ∧ rows[k][(seqPicks rows noises)[k]]? = some (some m)) := by
  obtain ⟨hl, hm⟩ := (maskOkB_iff _ _ _).mp hmask
  -- `seqPicks` is `randArgmaxRows`: a pick is a number in its row, so the row masks it neither as an earlier pick
  -- nor as a non-candidate
  have hmax : ∀ k, ∀ hk : k < rows.length, ∀ _ : k < (seqPicks rows noises).length,
      ∃ m, nanmax rows[k] = some m ∧ rows[k][(seqPicks rows noises)[k]]? = some (some m) := fun k hk _ =>
    (randArgmaxRows_is_max rows noises hlen.symm fun k hk => hrows k hk (hlen ▸ hk)).2 k hk
  refine ⟨hl.symm, nodup_of_fresh _ fun k hk hin => ?_, fun p hp => ?_, hmax⟩
  · obtain ⟨m, -, hget⟩ := hmax k (hl ▸ hk) hk
    have := List.all_eq_true.mp (hm k hk (hl ▸ hk)) _ hin
    rw [isNaNAt_false_of_some _ _ m hget] at this
    cases this
  · obtain ⟨k, hk, rfl⟩ := List.getElem_of_mem hp
    obtain ⟨m, -, hget⟩ := hmax k (hl ▸ hk) hk
    have := List.all_eq_true.mp (hcand _ (List.getElem_mem (hl ▸ hk))) _
      (List.mem_range.mpr (List.getElem?_eq_some_iff.mp hget).1)
    rw [isNaNAt_false_of_some _ _ m hget, Bool.or_false] at this
    exact List.contains_iff_mem.mp this

example : maskOkB (α := Int) [] [[some 1, some 5, none], [some 1, none, none]]
    (seqPicks (β := Nat) [[some 1, some 5, none], [some 1, none, none]] [[1, 1, 1], [2, 2, 2]]) = true := by decide +kernel

end Ska.C01seq
