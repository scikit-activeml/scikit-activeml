import SkaModel.Lemmas.Fit

/-!
# C12 — unlabeled samples do not influence supervised models

Statements are about the model `SkaModel/Core/Fit.lean` of what each wrapper hands to its estimator;
`harness/props/c12.py` ties it to `/repo` with spy estimators that record exactly the
`(X, y, sample_weight)` they are fitted on.
They quantify over every training set (any feature / label / weight types), every missing-label
pattern, all weights and every estimator function.

Clauses of the property:
* "adding, removing or reordering unlabeled samples … never changes the fitted model":
  `filterLabeled_insert_unlabeled`, `filterLabeled_interleave`, `fit_unlabeled_irrelevant`,
  `sklearnFit_unlabeled_irrelevant`, `regressorFit_unlabeled_irrelevant`, `nicFit_unlabeled_irrelevant`,
  `alrFit_unlabeled_irrelevant`;
* "sample weights of unlabeled samples are likewise irrelevant": `filterLabeled_unlabeled_weights`
  (and through it all the `…_unlabeled_irrelevant` theorems);
* "revealing labels in a different order": `reveal_order_irrelevant`;
* ParzenWindowClassifier with a fixed bandwidth and no neighbour limit: `pwc_freq_labeled_only`;
* the wrapper's fallback distribution: `label_counts_labeled_only`.
-/

namespace Ska.C12
open Ska Ska.Classifier Ska.Fit

section Filter
variable {ξ ζ ω : Type}

/-- inserting (read right-to-left: deleting) an unlabeled row at any position, with any features and
any weight, leaves the rows handed to the estimator unchanged. -/
theorem filterLabeled_insert_unlabeled (a b : List (ξ × Option ζ × ω)) (x : ξ) (w : ω) :
    filterLabeled (a ++ (x, none, w) :: b) = filterLabeled (a ++ b) := by
  rw [filterLabeled_append, filterLabeled_cons_of_none rfl, ← filterLabeled_append]

/-- any number of unlabeled rows `u` interleaved with `d` in any way — insertion, deletion and every
reordering of unlabeled rows relative to the labeled ones and to each other. -/
theorem filterLabeled_interleave (d u d' : List (ξ × Option ζ × ω)) (h : Interleave d u d')
    (hu : ∀ r ∈ u, r.2.1 = none) : filterLabeled d' = filterLabeled d := by
  induction h with
  | nil => rfl
  | left r _ ih =>
    cases hy : r.2.1 with
    | none => rw [filterLabeled_cons_of_none hy, filterLabeled_cons_of_none hy, ih hu]
    | some y => rw [filterLabeled_cons_of_some hy, filterLabeled_cons_of_some hy, ih hu]
  | right r _ ih =>
    rw [filterLabeled_cons_of_none (hu r List.mem_cons_self)]
    exact ih fun r hr => hu r (List.mem_cons_of_mem _ hr)

/-- two orders of the unlabeled rows (any two interleavings of the same labeled data with permuted
unlabeled rows) give the same estimator input. -/
theorem filterLabeled_reorder_unlabeled (d u₁ u₂ d₁ d₂ : List (ξ × Option ζ × ω))
    (h₁ : Interleave d u₁ d₁) (h₂ : Interleave d u₂ d₂)
    (hu₁ : ∀ r ∈ u₁, r.2.1 = none) (hu₂ : ∀ r ∈ u₂, r.2.1 = none) :
    filterLabeled d₁ = filterLabeled d₂ := by
  rw [filterLabeled_interleave d u₁ d₁ h₁ hu₁, filterLabeled_interleave d u₂ d₂ h₂ hu₂]

/-- **weights of unlabeled rows are irrelevant**. -/
theorem filterLabeled_unlabeled_weights (d d' : List (ξ × Option ζ × ω)) (h : SameUpToUnlabeledWeights d d') :
    filterLabeled d = filterLabeled d' := by
  induction (h : List.Forall₂ _ d d') with
  | nil => rfl
  | @cons r r' l l' hr _ ih =>
    obtain ⟨h1, h2, h3⟩ := hr
    cases hy : r.2.1 with
    | none => rw [filterLabeled_cons_of_none hy, filterLabeled_cons_of_none (h2 ▸ hy), ih]
    | some y =>
      rw [filterLabeled_cons_of_some hy, filterLabeled_cons_of_some (h2 ▸ hy), ih, h1, h3 (hy ▸ rfl)]

/-- **hence every fit and every prediction**: for every estimator function `est`, every prediction
function and every query, the wrapped model trained with the extra / missing / re-weighted unlabeled
rows predicts the same. -/
theorem fit_unlabeled_irrelevant {M Q R : Type} (est : List (ξ × ζ × ω) → M) (predict : M → Q → R)
    (d d' : List (ξ × Option ζ × ω)) (h : filterLabeled d' = filterLabeled d) (q : Q) :
    predict (fitWrapped est d') q = predict (fitWrapped est d) q := by
  unfold fitWrapped; rw [h]

/-- the same, starting from the labeled subset itself: training on `(X, y)` equals training on the
labeled subset only. -/
theorem fit_eq_fit_on_labeled_subset {M : Type} (est : List (ξ × ζ × ω) → M) (d : List (ξ × Option ζ × ω)) :
    fitWrapped est d = fitWrapped est ((filterLabeled d).map (fun r => (r.1, some r.2.1, r.2.2))) :=
  congrArg est (filterLabeled_map_some _).symm

/-- revealing labels commutes as long as no sample is given two different labels. -/
theorem revealAll_perm (d : List (ξ × Option ζ × ω)) (rs rs' : List (Nat × ζ)) (hp : rs.Perm rs')
    (h : ∀ x ∈ rs, ∀ y ∈ rs, x.1 = y.1 → x = y) : revealAll d rs = revealAll d rs' :=
  hp.foldl_eq' (fun x hx y hy z => by
    by_cases e : x.1 = y.1
    · rw [h x hx y hy e]
    · exact reveal_comm z x y e) d

/-- revealing the labels of distinct samples in any order produces the same training set, hence the
same fit. -/
theorem reveal_order_irrelevant (d : List (ξ × Option ζ × ω)) (rs rs' : List (Nat × ζ))
    (hp : rs.Perm rs') (hnd : (rs.map Prod.fst).Nodup) :
    revealAll d rs = revealAll d rs' :=
  revealAll_perm d rs rs' hp fun _ hx _ hy => List.inj_on_of_nodup_map hnd hx hy

end Filter

section Wrappers
set_option linter.unusedSectionVars false
variable {ξ ω : Type}

/-- `SklearnClassifier._fit`: the label counts, whether the estimator is called at all, and the
arguments it is called with depend on the labeled rows only. -/
theorem sklearnFit_unlabeled_irrelevant (k : Nat) (acceptsW hasW : Bool) (d d' : List (ξ × Option Nat × ω))
    (h : filterLabeled d' = filterLabeled d) :
    sklearnFit k acceptsW hasW d' = sklearnFit k acceptsW hasW d := by
  unfold sklearnFit labelCounts; rw [h]

/-- `SklearnClassifier`: `_label_counts[c]` is the number of labeled rows of class `c`. -/
theorem label_counts_labeled_only (k : Nat) (d : List (ξ × Option Nat × ω)) (c : Nat) (hc : c < k) :
    (labelCounts k d)[c]? = some ((d.filter (fun r => r.2.1 == some c)).length) := by
  rw [labelCounts, List.getElem?_map, List.getElem?_range hc, Option.map_some, ← List.countP_eq_length_filter,
    ← List.countP_eq_length_filter, filterLabeled, List.countP_filterMap]
  refine congrArg some (List.countP_congr fun ⟨x, y, w⟩ _ => ?_)
  cases y <;> simp [stripRow, hasClass]

variable {α : Type} [Field α] [LinearOrder α] [IsStrictOrderedRing α]

/-- `SklearnRegressor` / `SklearnNormalRegressor`. -/
theorem regressorFit_unlabeled_irrelevant (hasW : Bool) (d d' : List (ξ × Option α × α))
    (h : filterLabeled d' = filterLabeled d) : regressorFit hasW d' = regressorFit hasW d := by
  unfold regressorFit; rw [h]

/-- `NICKernelRegressor.fit` (`X_`, `y_`, `weights_`, and whether it raises). -/
theorem nicFit_unlabeled_irrelevant (hasW : Bool) (d d' : List (ξ × Option α × α))
    (h : filterLabeled d' = filterLabeled d) : nicFit hasW d' = nicFit hasW d := by
  unfold nicFit; rw [h]

end Wrappers

section Alr
variable {ξ ζ ω : Type}

/-- `AnnotatorLogisticRegression.fit`: a row that no annotator labeled (with any features and any
weights) does not reach the EM algorithm — neither its features, nor its labels, nor its weights. -/
theorem alrFit_unlabeled_irrelevant (hasW : Bool) (a b : List (ξ × List (Option ζ) × List ω)) (x : ξ)
    (ys : List (Option ζ)) (ws : List ω) (hys : ∀ y ∈ ys, y = none) :
    alrFit hasW (a ++ (x, ys, ws) :: b) = alrFit hasW (a ++ b) := by
  have : anyLabeled (x, ys, ws) = false :=
    List.any_eq_false.mpr fun y hy => by rw [hys y hy]; exact Bool.false_ne_true
  rw [alrFit, alrFit, List.filter_append, List.filter_cons_of_neg (by rw [this]; exact Bool.false_ne_true),
    ← List.filter_append]

end Alr

section Pwc
variable {ξ : Type} {α : Type} [Semiring α]

/-- `ParzenWindowClassifier`: unlabeled rows have a zero vote vector, so the kernel frequency estimate
summed over all rows equals the sum over the labeled rows — over any semiring (in particular any
ordered semiring), for every kernel function, class and weights. -/
theorem pwc_freq_labeled_only (kern : ξ → α) (d : List (ξ × Option Nat × α)) (c : Nat) :
    predictFreq kern d c = predictFreq kern (d.filter isLabeledRow) c := by
  unfold predictFreq
  induction d with
  | nil => rfl
  | cons r rs ih =>
    obtain ⟨x, y, w⟩ := r
    cases y with
    | none =>
      simp only [List.map_cons, sumL_cons, List.filter_cons, isLabeledRow, Option.isSome_none,
        Bool.false_eq_true, if_false, vote, mul_zero, zero_add]
      exact ih
    | some y =>
      simp only [List.map_cons, sumL_cons, List.filter_cons, isLabeledRow, Option.isSome_some, if_true]
      rw [ih]

/-- consequently inserting an unlabeled row (any features, any weight) changes no frequency. -/
theorem pwc_freq_insert_unlabeled (kern : ξ → α) (a b : List (ξ × Option Nat × α)) (x : ξ) (w : α) (c : Nat) :
    predictFreq kern (a ++ (x, none, w) :: b) c = predictFreq kern (a ++ b) c := by
  rw [pwc_freq_labeled_only, pwc_freq_labeled_only kern (a ++ b), List.filter_append,
    List.filter_cons_of_neg (by exact Bool.false_ne_true), ← List.filter_append]

end Pwc

/-! ## Non-vacuity -/

example : filterLabeled [((0 : Nat), some (7 : Nat), (1 : Nat)), (1, none, 5), (2, some 3, 2)] = [(0, 7, 1), (2, 3, 2)] := by
  decide +kernel

example : Interleave [((0 : Nat), some (7 : Nat), (1 : Nat))] [(1, none, 5), (2, none, 0)]
    [(1, none, 5), (0, some 7, 1), (2, none, 0)] :=
  .right _ (.left _ (.right _ .nil))

example : revealAll [((0 : Nat), (none : Option Nat), (1 : Nat)), (1, none, 1)] [(0, 4), (1, 5)] =
    revealAll [(0, none, 1), (1, none, 1)] [(1, 5), (0, 4)] := by decide +kernel

example : (sklearnFit (ξ := Nat) (ω := Nat) 2 true true [(0, some 1, 3), (1, none, 9)]).call = some ([0], [1], some [3]) := by
  decide +kernel

end Ska.C12
