import SkaModel.Lemmas.Window

/-!
# C13 (sliding-window clause) — a sliding-window classifier equals a fit on exactly the last
`window_size` samples it was given

All statements quantify over every sample type `S`, weight type `W`, wrapped estimator `fitFn`, window
size (or none), `only_labeled` setting and every call sequence.
-/

namespace Ska.C13w
open Ska Ska.Window

variable {C S W : Type}

/-- What the caller has handed over since (and including) the last `fit`: the samples (after the
`only_labeled` filter), and their weights — `none` from the first accepted call without weights on (a later call
with weights is rejected). -/
structure Given (S W : Type) where
  samples : List S
  weights : Option (List W)
  deriving Repr, DecidableEq

/-- bookkeeping of one accepted call on the specification side: `fit` starts afresh, `partial_fit` appends -/
def given (cfg : Cfg) (labeled : S → Bool) (isFit : Bool) (g : Given S W) (xs : List S) (ws : Option (List W)) :
    Given S W :=
  let b := filterBatch cfg labeled xs ws
  let g0 : Given S W := if isFit then ⟨[], some []⟩ else g
  ⟨g0.samples ++ b.1, match g0.weights, b.2 with | some a, some w => some (a ++ w) | _, _ => none⟩

/-- the object represents `g`: its buffers are the last `window_size` entries of what was given, weights
aligned with samples, and the estimator (once there is one) is a fresh fit on exactly these buffers -/
def Rel (cfg : Cfg) (fitFn : List S → Option (List W) → C) (g : Given S W) (s : St C S W) : Prop :=
  s.buf = lastN cfg.window g.samples ∧ s.sw = g.weights.map (lastN cfg.window) ∧
  (∀ w, g.weights = some w → w.length = g.samples.length) ∧
  (∀ c, s.clf = some c → c = fitFn s.buf s.sw)

theorem rel_init (cfg : Cfg) (fitFn : List S → Option (List W) → C) :
    Rel cfg fitFn ⟨[], some []⟩ (St.init : St C S W) :=
  ⟨(lastN_nil _).symm, congrArg some (lastN_nil _).symm, fun _ hw => Option.some.inj hw ▸ rfl, fun _ hc => nomatch hc⟩

/-- validation errors leave the object unchanged -/
theorem call_rejected_atomic (cfg : Cfg) (labeled : S → Bool) (fitFn : List S → Option (List W) → C) (isFit : Bool)
    (s : St C S W) (xs : List S) (ws : Option (List W)) (e : Err) (h : validate cfg xs ws = some e) :
    call cfg labeled fitFn isFit s xs ws = (s, some e) := by
  unfold call; rw [h]

/-- **one accepted call** (`fit` or `partial_fit`) keeps the object in step with the specification, and
the estimator is refitted on exactly the new window -/
theorem window_step (cfg : Cfg) (labeled : S → Bool) (fitFn : List S → Option (List W) → C) (isFit : Bool)
    (g : Given S W) (s s' : St C S W) (xs : List S) (ws : Option (List W))
    (hr : Rel cfg fitFn g s) (h : call cfg labeled fitFn isFit s xs ws = (s', none)) :
    Rel cfg fitFn (given cfg labeled isFit g xs ws) s' ∧ s'.clf = some (fitFn s'.buf s'.sw) := by
  have hv : validate cfg xs ws = none := by
    cases hv : validate cfg xs ws with
    | none => rfl
    | some e => rw [call_rejected_atomic cfg labeled fitFn isFit s xs ws e hv] at h; cases h
  have hb := filterBatch_aligned cfg labeled (aligned_of_validate_none hv)
  -- `fit` is `partial_fit` on a new object, which represents `⟨[], some []⟩`: the case `partial_fit` suffices
  suffices H : ∀ (g : Given S W) (s : St C S W), Rel cfg fitFn g s →
      call cfg labeled fitFn false s xs ws = (s', none) →
      Rel cfg fitFn (given cfg labeled false g xs ws) s' ∧ s'.clf = some (fitFn s'.buf s'.sw) by
    cases isFit with
    | false => exact H g s hr h
    | true => exact H ⟨[], some []⟩ St.init (rel_init cfg fitFn) (call_fit cfg labeled fitFn s hv ▸ h)
  rintro ⟨gx, gw⟩ s ⟨r1, r2, r3, -⟩ h
  simp only [call, hv, r1, r2, Bool.false_eq_true, if_false] at h
  simp only [given, Bool.false_eq_true, if_false]
  generalize filterBatch cfg labeled xs ws = b at h hb
  obtain ⟨bx, bw⟩ := b
  cases bw with
  | none =>
    cases h
    exact ⟨⟨lastN_lastN_append _ _ _, by cases gw <;> rfl, by cases gw <;> exact fun _ hw => (nomatch hw),
      fun _ hc => (Option.some.inj hc).symm⟩, rfl⟩
  | some w =>
    cases gw with
    | none => cases h
    | some a =>
      cases h
      refine ⟨⟨lastN_lastN_append _ _ _, congrArg some (lastN_lastN_append _ _ _), fun _ hw => ?_,
        fun _ hc => (Option.some.inj hc).symm⟩, rfl⟩
      cases hw
      rw [List.length_append, List.length_append, r3 a rfl, hb w rfl]

/-- **a raising `fit` / `partial_fit` leaves the object as it was** (validation
errors, and weights given after a call without weights) -/
theorem call_error_atomic (cfg : Cfg) (labeled : S → Bool) (fitFn : List S → Option (List W) → C) (isFit : Bool)
    (s : St C S W) (xs : List S) (ws : Option (List W))
    (h : (call cfg labeled fitFn isFit s xs ws).2 ≠ none) : (call cfg labeled fitFn isFit s xs ws).1 = s := by
  revert h
  unfold call
  cases validate cfg xs ws with
  | some e => exact fun _ => rfl
  | none =>
    dsimp only
    cases (filterBatch cfg labeled xs ws).2 with
    | none => exact fun h => absurd rfl h
    | some w =>
      cases (if isFit then some [] else s.sw) with
      | none => exact fun _ => rfl          -- weights after a call without weights
      | some d => exact fun h => absurd rfl h

/-- what has been given after a whole call sequence (raising calls add nothing) -/
def givenRun (cfg : Cfg) (labeled : S → Bool) (fitFn : List S → Option (List W) → C) :
    St C S W → Given S W → List (Op S W) → Given S W
  | _, g, [] => g
  | s, g, (f, xs, ws) :: ops =>
    let r := call cfg labeled fitFn f s xs ws
    givenRun cfg labeled fitFn r.1 (if r.2 = none then given cfg labeled f g xs ws else g) ops

/-- **after any sequence of `fit` / `partial_fit` calls** (raising calls included)
the training buffer equals the last `window_size` samples given since the last `fit` (filtered to labeled
ones if `only_labeled`), the weights — if the latest call had weights — are the weights of exactly those
samples, **and the classifier equals a fit on exactly those**, for every wrapped estimator. -/
theorem window_is_last_w (cfg : Cfg) (labeled : S → Bool) (fitFn : List S → Option (List W) → C)
    (ops : List (Op S W)) (s : St C S W) (g : Given S W) (hr : Rel cfg fitFn g s) :
    Rel cfg fitFn (givenRun cfg labeled fitFn s g ops) (run cfg labeled fitFn s ops) := by
  induction ops generalizing s g with
  | nil => exact hr
  | cons op ops ih =>
    obtain ⟨f, xs, ws⟩ := op
    simp only [run, givenRun]
    apply ih
    rcases hres : call cfg labeled fitFn f s xs ws with ⟨s', e⟩
    cases e with
    | none => exact (window_step cfg labeled fitFn f g s s' xs ws hr hres).1
    | some e =>
      have hs := call_error_atomic cfg labeled fitFn f s xs ws (by rw [hres]; exact nofun)
      rw [hres] at hs
      exact hs ▸ hr

/-- in particular: from a fresh object, every run ends with `estimator_` fitted on the last `window_size`
samples given since the last `fit` -/
theorem window_clf_is_fit_on_last_w (cfg : Cfg) (labeled : S → Bool) (fitFn : List S → Option (List W) → C)
    (ops : List (Op S W)) (c : C)
    (h : (run cfg labeled fitFn (St.init : St C S W) ops).clf = some c) :
    c = fitFn (lastN cfg.window (givenRun cfg labeled fitFn St.init ⟨[], some []⟩ ops).samples)
          ((givenRun cfg labeled fitFn St.init ⟨[], some []⟩ ops).weights.map (lastN cfg.window)) := by
  obtain ⟨r1, r2, -, r4⟩ := window_is_last_w cfg labeled fitFn ops St.init ⟨[], some []⟩ (rel_init cfg fitFn)
  rw [← r1, ← r2]
  exact r4 c h

example :
    let cfg : Cfg := ⟨some 3, true⟩
    let fitFn : List Nat → Option (List Nat) → List Nat × Option (List Nat) := fun b w => (b, w)
    let ops : List (Op Nat Nat) := [(true, [1, 0, 2], some [5, 6, 7]), (false, [3, 4], some [8, 9]), (false, [0, 5], some [1, 2])]
    (run cfg (fun x => x != 0) fitFn St.init ops).clf = some ([3, 4, 5], some [8, 9, 2]) := by
  decide +kernel

end Ska.C13w

/-! ## Regressions: statements about definitions that model code as it was before a repair -/

namespace Ska.C13w.Regressions
open Ska Ska.Window

/-- `fit` / `partial_fit` as they were before the repair: with weights after a call without weights,
`None.extend` raised `AttributeError` *after* `X_train_` / `y_train_` had been extended -/
def callV0 {C S W : Type} (cfg : Cfg) (labeled : S → Bool) (fitFn : List S → Option (List W) → C) (isFit : Bool)
    (s : St C S W) (xs : List S) (ws : Option (List W)) : St C S W × Option Err :=
  match validate cfg xs ws with
  | some e => (s, some e)
  | none =>
    let b := filterBatch cfg labeled xs ws
    let buf0 := if isFit then [] else s.buf
    let sw0 := if isFit then some [] else s.sw
    let buf' := lastN cfg.window (buf0 ++ b.1)
    match b.2 with
    | some w =>
      match sw0 with
      | some d =>
        let sw' := some (lastN cfg.window (d ++ w))
        (⟨buf', sw', some (fitFn buf' sw')⟩, none)
      | none => (⟨buf', none, s.clf⟩, some .attr)
    | none => (⟨buf', none, some (fitFn buf' none)⟩, none)

/-- old code: the estimator stayed the old one while the window held the rejected sample, and the next
`partial_fit` trained on it as well -/
theorem window_is_last_w_counterexample :
    let cfg : Cfg := ⟨some 3, false⟩
    let fitFn : List Nat → Option (List Nat) → List Nat × Option (List Nat) := fun b w => (b, w)
    let s1 := (callV0 cfg (fun _ => true) fitFn false (St.init : St _ Nat Nat) [1, 2] none).1
    let r2 := callV0 cfg (fun _ => true) fitFn false s1 [3] (some [7])
    let r3 := callV0 cfg (fun _ => true) fitFn false r2.1 [4] none
    r2.2 = some .attr ∧ r2.1.buf = [1, 2, 3] ∧ r2.1.clf = some ([1, 2], none) ∧
      r3.2 = none ∧ r3.1.clf = some ([2, 3, 4], none) := by decide +kernel

/-- the repaired code on the same input: the call is rejected (`ValueError`) and nothing changes -/
theorem window_is_last_w_repaired :
    let cfg : Cfg := ⟨some 3, false⟩
    let fitFn : List Nat → Option (List Nat) → List Nat × Option (List Nat) := fun b w => (b, w)
    let s1 := (call cfg (fun _ => true) fitFn false (St.init : St _ Nat Nat) [1, 2] none).1
    let r2 := call cfg (fun _ => true) fitFn false s1 [3] (some [7])
    let r3 := call cfg (fun _ => true) fitFn false r2.1 [4] none
    r2.2 = some .value ∧ r2.1 = s1 ∧ r3.1.clf = some ([1, 2, 4], none) := by decide +kernel

end Ska.C13w.Regressions
