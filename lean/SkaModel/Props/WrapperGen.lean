import SkaModel.Lemmas.WrapperGen

/-! # Property theorems about the model translated from the current source of `IndexClassifierWrapper`

`Gen/WrapperGen.lean` is rewritten by `harness/translate/pywrapper.py` from `skactiveml/pool/utils.py` on every run: the helpers
`_get_sw`, `_copy_sw`, `_concat_sw`, the block of the emulated `partial_fit` that computes the new training record
(`partial_fit.merge`), the attribute-storing tail of `fit` (`fit.store`) and the native branch of `partial_fit`
(`partial_fit.native`). The theorems below are about *that* text: a change of the source that alters a block changes the
definitions and the proofs have to go through again.  (C19: the wrapper's training record is the specified training list.) -/

namespace Ska.WrapperGenProps
open Ska Ska.IW Ska.PyIW Ska.Gen.IW

variable {C L W : Type}

/-- **the translated block refines the specification on training lists**: on in-step records the new record is in step,
its list of `(index, label, weight)` triples is the old list without the re-added indices (with `enforce_unique_samples`)
followed by the added triples — the surviving samples keep their order, the added ones come last —, and weights stay
absent / present. -/
theorem gen_merge_spec (u : Bool) (d : Data L W) (idx : List Int) (ay : List L) (aw : Option (List W))
    (hd : d.WF) (ha : (⟨idx, ay, aw⟩ : Data L W).WF) (d' : Data L W)
    (h : partial_fit.merge u d.idx d.y d.sw idx ay aw = .ok d') :
    d'.WF ∧ d'.triples = specPartial u d.triples (Data.triples ⟨idx, ay, aw⟩) ∧
      d'.idx = d.idx.filter (fun i => !(u && idx.contains i)) ++ idx ∧ d'.sw.isSome = d.sw.isSome := by
  rw [merge_eq] at h
  exact merge_ok_spec hd ha h

/-- the translated block succeeds whenever the weights are both absent or both given -/
theorem gen_merge_total (u : Bool) (d : Data L W) (idx : List Int) (ay : List L) (aw : Option (List W))
    (hd : d.WF) (hsw : d.sw.isSome = aw.isSome) :
    ∃ d', partial_fit.merge u d.idx d.y d.sw idx ay aw = .ok d' := by
  rw [merge_eq]
  exact (if_pos hsw).mp (merge_of_wf_cases hd)

/-- … and raises `ValueError` ("All `sample_weight` must be either None or given.") when exactly one side has weights -/
theorem gen_merge_mixed (u : Bool) (d : Data L W) (idx : List Int) (ay : List L) (aw : Option (List W))
    (hd : d.WF) (hsw : d.sw.isSome ≠ aw.isSome) :
    partial_fit.merge u d.idx d.y d.sw idx ay aw = .error .mixed := by
  rw [merge_eq]
  exact (if_neg hsw).mp (merge_of_wf_cases hd)

/-- with `enforce_unique_samples` no index occurs twice in the new record -/
theorem gen_merge_nodup (d : Data L W) (idx : List Int) (ay : List L) (aw : Option (List W)) (d' : Data L W)
    (hd : d.idx.Nodup) (hi : idx.Nodup)
    (h : partial_fit.merge true d.idx d.y d.sw idx ay aw = .ok d') : d'.idx.Nodup := by
  rw [merge_eq] at h
  exact merge_nodup hd hi h

theorem gen_copy_sw (w : Option (List W)) : _copy_sw w = .ok w := by
  cases w <;> rfl

theorem gen_get_sw_none (c : CurIdx) : _get_sw (none : Option (List W)) c = .ok none := rfl

theorem gen_concat_sw_some (a b : List W) : _concat_sw (some a) (some b) = .ok (some (a ++ b)) := rfl

/-- **the translated tail of `fit` stores what the model's `fit` stores**: whenever the model's `fit` gets past its argument
checks (so that the wrapped classifier is fitted on `⟨idx, yy, ww⟩`), the translated attribute assignments — run on the object
whose `clf_` has just been fitted — never raise and leave attributes that stand for exactly the state `Ska.IW.fit` returns:
`idx_, y_, sample_weight_` only without native `partial_fit`, the `base_*` copies only with `set_base_clf`. -/
theorem gen_fit_store_eq_fit (cfg : Cfg L W) (fitFn : Data L W → C) (o : WObj C L W)
    (idx : List Int) (y : Option (List L)) (sw : Option (List W)) (sb : Bool) (yy : List L) (ww : Option (List W))
    (hc : checkIdx cfg idx = none) (hy : resolveY cfg idx y = .ok yy) (hw : resolveSW cfg idx sw = .ok ww)
    (hx : xIndexOk cfg idx = true) :
    ∃ o', fit.store cfg.native sb { o with clf_ := some (fitFn ⟨idx, yy, ww⟩) } idx yy ww = .ok o' ∧
      absW o' = (fit cfg fitFn (absW o) idx y sw sb).1 ∧ (fit cfg fitFn (absW o) idx y sw sb).2 = none := by
  obtain ⟨o', h1, h2⟩ := fit_store_eq_store cfg.native sb { o with clf_ := some (fitFn ⟨idx, yy, ww⟩) }
    (fitFn ⟨idx, yy, ww⟩) idx yy ww rfl
  rw [fit_eq, fitArgs_eq_ok hc hy hw hx]
  exact ⟨o', h1, h2, rfl⟩

/-- **the translated native branch of `partial_fit` is the model's `partialNative`**: given the classifier to update (the argument
validation has raised `NotFittedError` otherwise), it raises `IndexError` exactly when `self.X[add_idx]` does — leaving the object
as it was — and otherwise ends in the state `partialNative` returns: `clf_` is the chosen classifier (a copy of the base
classifier with `use_base_clf`) after one native `partial_fit` on the added samples, `base_clf_` follows with `set_base_clf`,
the stored records are untouched. -/
theorem gen_native_eq_partialNative (cfg : Cfg L W) (pfit : C → Data L W → C) (ub sb : Bool) (o : WObj C L W) (c : C)
    (idx : List Int) (ay : List L) (aw : Option (List W)) (hc : (if ub then o.base_clf_ else o.clf_) = some c) :
    (match partial_fit.native cfg.n pfit ub sb o idx ay aw with
     | .ok o' => (absW o', (none : Option Err))
     | .error e => (absW o, some e)) = partialNative cfg pfit (absW o) idx ay aw ub sb :=
  native_abs cfg pfit ub sb o c idx ay aw hc

/-- the classifier after a successful native update, spelled out -/
theorem gen_native_clf (cfg : Cfg L W) (pfit : C → Data L W → C) (ub sb : Bool) (o o' : WObj C L W) (c : C)
    (idx : List Int) (ay : List L) (aw : Option (List W)) (hc : (if ub then o.base_clf_ else o.clf_) = some c)
    (h : partial_fit.native cfg.n pfit ub sb o idx ay aw = .ok o') :
    (absW o').clf = some (pfit c ⟨idx, ay, aw⟩) ∧ (absW o').cur = (absW o).cur ∧ (absW o').base = (absW o).base ∧
      (absW o').bclf = (if sb then some (pfit c ⟨idx, ay, aw⟩) else (absW o).bclf) := by
  have hn := native_abs cfg pfit ub sb o c idx ay aw hc
  rw [h, partialNative_eq] at hn
  obtain ⟨c', d, hr, hs⟩ := commit_ok hn.symm
  obtain ⟨c0, hc0, rfl, rfl⟩ := nativeOutcome_ok hr
  have hb : (if ub then (absW o).bclf else (absW o).clf) = some c := by cases ub <;> exact hc
  cases hc0.symm.trans hb
  rw [hs]
  exact ⟨rfl, rfl, by cases sb <;> rfl, rfl⟩

/-- **the two translated blocks of the emulated `partial_fit` together**: from an in-step record `d` (the current or the base
record) the new-record block yields `d'`, the closing `fit` stores it (translated tail, no native `partial_fit`), and the object
then holds exactly the specified training list: the old triples without the re-added indices (with `enforce_unique_samples`),
followed by the added triples. -/
theorem gen_emulated_partial_fit_record (u sb : Bool) (o o' : WObj C L W) (c : C) (d d' : Data L W)
    (idx : List Int) (ay : List L) (aw : Option (List W))
    (hd : d.WF) (ha : (⟨idx, ay, aw⟩ : Data L W).WF)
    (hm : partial_fit.merge u d.idx d.y d.sw idx ay aw = .ok d')
    (hc : o.clf_ = some c) (hs : fit.store false sb o d'.idx d'.y d'.sw = .ok o') :
    (absW o').cur = some d' ∧ d'.WF ∧ d'.triples = specPartial u d.triples (Data.triples ⟨idx, ay, aw⟩) := by
  obtain ⟨hwf, htr, -, -⟩ := gen_merge_spec u d idx ay aw hd ha d' hm
  obtain ⟨o2, h1, h2⟩ := fit_store_eq_store false sb o c d'.idx d'.y d'.sw hc
  rw [hs] at h1
  cases h1
  exact ⟨by rw [h2]; rfl, hwf, htr⟩

/-- non-vacuity: relabelling sample 1 of the record `[3, 1, 4]` in unique mode moves it to the end; without the flag it is
listed twice -/
example : partial_fit.merge true [3, 1, 4] [10, 11, 12] (some [1, 2, 3]) [1] [77] (some [9]) =
    .ok (⟨[3, 4, 1], [10, 12, 77], some [1, 3, 9]⟩ : Data Nat Nat) := by rfl

example : partial_fit.merge false [3, 1, 4] [10, 11, 12] (none : Option (List Nat)) [1] [77] none =
    .ok (⟨[3, 1, 4, 1], [10, 11, 12, 77], none⟩ : Data Nat Nat) := by rfl

end Ska.WrapperGenProps
