import SkaModel.Lemmas.Classifier

/-!
# C11 — classifier outputs are valid probabilities and consistent decisions

All statements are about the executable model `SkaModel/Core/Classifier.lean`, which the correspondence
of `harness/props/c11.py` ties to `/repo` on every run.  They quantify over every frequency / kernel /
vote / probability matrix over an arbitrary linear ordered field `α` (exact arithmetic), every class
list, cost matrix, prior, number of query points and every tie-breaking noise.

Clauses of the property:
* "predict_proba … non-negative rows summing to one, shape (n, k)": `normalizeFreq_simplex`
  (frequency estimators), `remap_simplex`, `fallback_simplex`, `nan_fallback` (sklearn wrapper),
  `ensembleSoft_simplex`, `ensembleHard_simplex`, `Classifier.divRow_simplex` (softmax);
* "columns ordered as classes_": `remap_columns`;
* "predict_freq is non-negative": `freq_nonneg`, `freq_nonneg_neighbors`, `freq_nonneg_mixture`;
* "predict returns only members of classes_ that minimise the expected cost (the most probable class
  by default)": `predict_min_cost`, `predict_most_probable`, `sklearn_predict_cost_branch`,
  `sklearn_predict_min_cost` (all three branches of the sklearn wrapper), `cost_matrix_by_label`
  (declared class order vs `cost_matrix_`); the pre-repair sampling branch is recorded in
  `Regressions.sklearn_unfitted_predict_counterexample`;
* "declared classes and no labels ⇒ uniform": `normalizeFreq_uniform_of_zero`, `no_labels_uniform`,
  `prior_only_uniform`, `fallback_uniform`, `divRow_uniform`.
-/

set_option linter.unusedSectionVars false

namespace Ska.C11
open Ska Ska.Classifier

variable {α : Type} [Field α] [LinearOrder α] [IsStrictOrderedRing α]

/-- for non-negative frequencies `F` (shape `(n, k)`) and a non-negative prior,
`ClassFrequencyEstimator.predict_proba` returns an `(n, k)` matrix whose rows are non-negative and sum
to one — including the rows whose frequencies and prior are all zero (uniform fallback). -/
theorem normalizeFreq_simplex (k : Nat) (hk : 0 < k) (F : List (List α)) (prior : List α)
    (hF : ∀ r ∈ F, r.length = k ∧ ∀ x ∈ r, 0 ≤ x) (hp : prior.length = k ∧ ∀ x ∈ prior, 0 ≤ x) :
    (normalizeFreq k F prior).length = F.length ∧ ∀ r ∈ normalizeFreq k F prior, IsSimplex k r := by
  refine ⟨List.length_map _, fun r hr => ?_⟩
  obtain ⟨f, hf, rfl⟩ := List.mem_map.mp hr
  obtain ⟨hl, hnn⟩ := hF f hf
  exact normalizeRow_simplex k hk _ (by rw [addRow_length, hl, hp.1, Nat.min_self]) (addRow_nonneg f prior hnn hp.2)

theorem normalizeFreq_uniform_of_zero (k : Nat) (F : List (List α)) (prior : List α)
    (hF : ∀ r ∈ F, ∀ x ∈ r, x = 0) (hp : ∀ x ∈ prior, x = 0) :
    ∀ r ∈ normalizeFreq k F prior, r = uniformRow k ∧ r.length = k ∧ ∀ x ∈ r, x = 1 / (k : α) := by
  intro r hr
  obtain ⟨f, hf, rfl⟩ := List.mem_map.mp hr
  rw [normalizeRow_of_sum_eq_zero k _ (sumL_eq_zero_of_all_zero _ (addRow_eq_zero f prior (hF f hf) hp))]
  exact ⟨rfl, uniformRow_spec k⟩

/-- `predict_freq ≥ 0` for the kernel classifier: `K ≥ 0`, `V ≥ 0` ⇒ `K @ V ≥ 0`, shape `(n, k)`. -/
theorem freq_nonneg (k : Nat) (K V : List (List α)) (hK : ∀ r ∈ K, ∀ x ∈ r, 0 ≤ x)
    (hV : ∀ r ∈ V, ∀ x ∈ r, 0 ≤ x) :
    (pwcFreq k K V).length = K.length ∧ ∀ r ∈ pwcFreq k K V, r.length = k ∧ ∀ x ∈ r, 0 ≤ x :=
  ⟨List.length_map _, matMul_nonneg k K V hK hV⟩

/-- the `n_neighbors` branch sums a sub-selection of the same non-negative terms. -/
theorem freq_nonneg_neighbors (k : Nat) (K V : List (List α)) (indices : List (List Nat))
    (hK : ∀ r ∈ K, ∀ x ∈ r, 0 ≤ x) (hV : ∀ r ∈ V, ∀ x ∈ r, 0 ≤ x) :
    ∀ r ∈ pwcFreqNeighbors k K V indices, r.length = k ∧ ∀ x ∈ r, 0 ≤ x := by
  refine forall_mem_zipWith (Q := fun _ => True) (fun krow idx hkrow _ =>
    ⟨rowMul_length k _ _, rowMul_nonneg k _ _ (fun x hx => ?_) fun row hrow => ?_⟩) hK fun _ _ => trivial
  · obtain ⟨j, -, rfl⟩ := List.mem_map.mp hx
    exact forall_getD hkrow le_rfl j
  · obtain ⟨j, -, rfl⟩ := List.mem_map.mp hrow
    exact forall_getD (P := fun row => ∀ x ∈ row, 0 ≤ x) hV (fun _ h => absurd h List.not_mem_nil) j

/-- mixture-model classifier: responsibilities `R, S ≥ 0`, votes `V ≥ 0` ⇒ `predict_freq ≥ 0`. -/
theorem freq_nonneg_mixture (k m : Nat) (S R V : List (List α)) (hS : ∀ r ∈ S, ∀ x ∈ r, 0 ≤ x)
    (hR : ∀ r ∈ R, ∀ x ∈ r, 0 ≤ x) (hV : ∀ r ∈ V, ∀ x ∈ r, 0 ≤ x) :
    ∀ r ∈ mmcFreq k S (mmcComponents k m R V), r.length = k ∧ ∀ x ∈ r, 0 ≤ x := by
  have hT : ∀ r ∈ transposeM m R, ∀ x ∈ r, 0 ≤ x := fun r hr x hx => by
    obtain ⟨j, -, rfl⟩ := List.mem_map.mp hr
    obtain ⟨row, hrow, rfl⟩ := List.mem_map.mp hx
    exact forall_getD (hR row hrow) le_rfl j
  unfold mmcFreq
  split
  · exact matMul_nonneg k S _ hS fun r hr => (matMul_nonneg k _ V hT hV r hr).2
  · intro r hr
    obtain ⟨a, -, rfl⟩ := List.mem_map.mp hr
    exact ⟨List.length_replicate, fun x hx => (List.eq_of_mem_replicate hx).ge⟩

/-- **declared classes, no labels ⇒ uniform**: without any vote (`V = 0`, which is what
`compute_vote_vectors` yields for missing labels, see C12/C17) and with the default prior the
frequency classifier predicts exactly `1/k` for every class. -/
theorem no_labels_uniform (k : Nat) (K V : List (List α)) (prior : List α)
    (hV : ∀ r ∈ V, ∀ x ∈ r, x = 0) (hp : ∀ x ∈ prior, x = 0) :
    ∀ r ∈ normalizeFreq k (pwcFreq k K V) prior, r.length = k ∧ ∀ x ∈ r, x = 1 / (k : α) := by
  refine fun r hr => (normalizeFreq_uniform_of_zero k _ prior (fun f hf => ?_) hp r hr).2
  obtain ⟨a, -, rfl⟩ := List.mem_map.mp hf
  exact rowMul_eq_zero k a V hV

/-- a constant positive prior alone (no votes) also gives the uniform distribution. -/
theorem prior_only_uniform (k : Nat) (hk : 0 < k) (c : α) (hc : 0 < c) (n : Nat) :
    ∀ r ∈ normalizeFreq k (List.replicate n (List.replicate k (0 : α))) (List.replicate k c),
      r.length = k ∧ ∀ x ∈ r, x = 1 / (k : α) := by
  intro r hr
  simp only [normalizeFreq, List.map_replicate, List.mem_replicate, addRow, List.zipWith_replicate, Nat.min_self,
    zero_add] at hr
  have hpos : 0 < sumL (List.replicate k c) := by
    rw [sumL_replicate]; exact mul_pos (Nat.cast_pos.mpr hk) hc
  rw [hr.2, normalizeRow_of_sum_pos k _ hpos, divRow_replicate k c hc.ne']
  exact uniformRow_spec k

/-- equal scores (`W_ = 0`, no label seen by `AnnotatorLogisticRegression`) ⇒ uniform. -/
theorem divRow_uniform (k : Nat) (hk : 0 < k) (e : α) (he : 0 < e) :
    ∀ x ∈ divRow (List.replicate k e), x = 1 / (k : α) :=
  divRow_replicate k e he.ne' ▸ (uniformRow_spec k).2

/-- **fallback** of `SklearnClassifier.predict_proba`: an unfitted wrapped estimator yields the
label-count distribution, a probability row for every count vector; with no counts at all it is uniform. -/
theorem fallback_simplex (k n : Nat) (hk : 0 < k) (estP : List (List (Option α))) (ci : List Nat)
    (counts : List α) (hl : counts.length = k) (hc : ∀ x ∈ counts, 0 ≤ x) :
    ∃ Q, sklearnPredictProba k n false estP ci counts = .ok Q ∧ Q.length = n ∧ ∀ r ∈ Q, IsSimplex k r := by
  refine ⟨_, rfl, ?_⟩
  rw [labelCountProba_eq_replicate k n counts (sumL_nonneg counts hc)]
  exact ⟨List.length_replicate, fun r hr => List.eq_of_mem_replicate hr ▸ normalizeRow_simplex k hk counts hl hc⟩

theorem fallback_uniform (k n : Nat) (counts : List α) (hc : ∀ x ∈ counts, x = 0) :
    labelCountProba k n counts = List.replicate n (uniformRow k) := by
  rw [labelCountProba_eq_replicate k n counts (sumL_eq_zero_of_all_zero counts hc).ge,
    normalizeRow_of_sum_eq_zero k counts (sumL_eq_zero_of_all_zero counts hc)]

/-- NaN anywhere in a full-width estimator output ⇒ the label-count fallback (still a simplex). -/
theorem nan_fallback (k n : Nat) (estP : List (List (Option α))) (ci : List Nat) (counts : List α)
    (hw : ∀ r ∈ estP, r.length = k) (hnan : allNumbers estP = none) :
    sklearnPredictProba k n true estP ci counts = .ok (labelCountProba k n counts) := by
  unfold sklearnPredictProba
  cases estP with
  | nil => simp [hnan]
  | cons r rs =>
    have : r.length = k := hw r (List.mem_cons_self ..)
    simp [this, hnan]

/-- if the fitted estimator returns probability rows over its own `m` classes (`m = len(class_indices)`,
the classes it has seen, distinct positions inside `classes_`), the wrapper returns an `(n, k)` matrix
of probability rows — whether `m = k` (no re-mapping), `m = 1` (one class seen) or `1 < m < k`
(declared but unobserved classes get probability 0). -/
theorem remap_simplex (k n : Nat) (Pe : List (List α)) (ci : List Nat) (counts : List α)
    (hn : Pe.length = n) (hne : 0 < n) (hnd : ci.Nodup) (hlt : ∀ i ∈ ci, i < k)
    (hP : ∀ p ∈ Pe, IsSimplex ci.length p) :
    ∃ Q, sklearnPredictProba k n true (Pe.map (fun r => r.map some)) ci counts = .ok Q ∧
      Q.length = n ∧ ∀ r ∈ Q, IsSimplex k r := by
  refine ⟨_, sklearnPredictProba_fitted k n Pe ci counts fun p hp => (hP p hp).1, ?_⟩
  by_cases hk : ci.length = k
  · rw [if_pos hk]; exact ⟨hn, hk ▸ hP⟩
  · rw [if_neg hk]
    refine ⟨by rw [List.length_map, hn], fun r hr => ?_⟩
    obtain ⟨p, hp, rfl⟩ := List.mem_map.mp hr
    exact remapCols_simplex k ci p hnd hlt (hP p hp)

/-- with `classes_` strictly increasing and the estimator's classes a duplicate-free sub-list of it,
`class_indices[j]` is the position of the estimator's class `j` in `classes_`, the re-mapped row
carries the estimator's column `j` exactly there and `0` in the column of every class the estimator
has not seen. -/
theorem remap_columns {γ : Type} [LinearOrder γ] (cls est : List γ) (hs : cls.Pairwise (· < ·))
    (hsub : ∀ c ∈ est, c ∈ cls) (hnd : est.Nodup) (p : List α) (hp : p.length = est.length) :
    let ci := classIndices cls est
    ci.length = est.length ∧ ci.Nodup ∧ (∀ i ∈ ci, i < cls.length) ∧
    (∀ j, ∀ hj : j < est.length, cls[ci.getD j 0]? = some est[j] ∧
        (scatterCols (List.replicate cls.length (0 : α)) ci p)[ci.getD j 0]? = p[j]?) ∧
    (∀ c, c < cls.length → c ∉ ci → (scatterCols (List.replicate cls.length (0 : α)) ci p)[c]? = some 0) := by
  have hci := classIndices_eq_map cls est hsub
  have hnd' := hci ▸ classIndices_nodup cls est hsub hnd
  have hlt := hci ▸ classIndices_lt cls est hsub
  simp only [hci]
  have hlen : (est.map (searchsorted cls)).length = est.length := List.length_map _
  refine ⟨hlen, hnd', hlt, fun j hj => ?_, fun c hc hnot => ?_⟩
  · rw [getD_eq_getElem _ 0 (hlen.symm ▸ hj)]
    refine ⟨by rw [List.getElem_map]; exact getElem?_searchsorted cls hs _ (hsub _ (List.getElem_mem hj)), ?_⟩
    exact getElem?_scatterCols_of_mem _ _ p hnd' (hp.trans hlen.symm) (by rwa [List.length_replicate]) j (hlen.symm ▸ hj)
  · rw [getElem?_scatterCols_of_not_mem _ _ _ _ hnot, List.getElem?_replicate, if_pos hc]

section Predict
variable {β : Type} [LinearOrder β] [Zero β] {γ : Type}

/-- for every probability matrix `P`, cost matrix `C`, class list and strictly positive tie-breaking
noise of the right shape, `SkactivemlClassifier.predict` returns for each query row a member of
`classes_` whose expected cost `(P @ C)[i, ·]` is minimal. -/
theorem predict_min_cost (classes : List γ) (P C : List (List α)) (noise : List (List β))
    (hk : 0 < classes.length) (hn : noise.length = P.length)
    (hnoise : ∀ nz ∈ noise, nz.length = classes.length ∧ ∀ x ∈ nz, 0 < x) :
    (predictDecision classes P C noise).length = P.length ∧
    ∀ i, i < P.length → ∃ idx c, (predictIdx classes.length P C noise)[i]? = some idx ∧
      idx < classes.length ∧ classes[idx]? = some c ∧ c ∈ classes ∧
      (predictDecision classes P C noise)[i]? = some (some c) ∧
      ∀ j, j < classes.length → costAt classes.length P C i idx ≤ costAt classes.length P C i j := by
  simp only [predictDecision, decode, predictIdx_eq, List.length_map, List.length_zipWith, hn, Nat.min_self,
    List.getElem?_map, true_and]
  intro i hi
  have hin : i < noise.length := hn ▸ hi
  obtain ⟨hnl, hnp⟩ := hnoise noise[i] (List.getElem_mem hin)
  have hrl : (rowMul classes.length P[i] C).length = classes.length := rowMul_length ..
  obtain ⟨m, hget, hmin⟩ := C18.randArgmin_map_some (rowMul classes.length P[i] C) noise[i] (hnl.trans hrl.symm) hnp
    (List.ne_nil_of_length_pos (hrl ▸ hk))
  have hlt := hrl ▸ (List.getElem?_eq_some_iff.mp hget).1
  have hidx := List.getElem?_zipWith (f := fun p nz => randArgmin ((rowMul classes.length p C).map some) nz)
    (as := P) (bs := noise) (i := i)
  rw [List.getElem?_eq_getElem hi, List.getElem?_eq_getElem hin] at hidx
  refine ⟨_, classes[_]'hlt, hidx, hlt, List.getElem?_eq_getElem hlt, List.getElem_mem hlt, ?_, fun j hj => ?_⟩
  · rw [hidx, Option.map_some, List.getElem?_eq_getElem hlt]
  · rw [costAt_eq _ _ _ _ _ hi, costAt_eq _ _ _ _ _ hi, getD_of_getElem? 0 hget,
      getD_eq_getElem _ 0 (hrl.symm ▸ hj : j < (rowMul classes.length P[i] C).length)]
    exact hmin _ (List.getElem_mem _)

/-- **cost matrix by label**: for pairwise distinct declared `classes` (in any order) the matrix
`cost_matrix_` used by `predict` holds, at the positions of two labels inside the sorted `classes_`
(position = number of smaller labels), exactly the user's entry for these two labels: the cost of
predicting `classes[j]` for true class `classes[i]` is `cost_matrix[i][j]` whatever the declared order. -/
theorem cost_matrix_by_label {γ : Type} [LinearOrder γ] (cls : List γ) (hnd : cls.Nodup) (C : List (List α))
    (i j : Nat) (hi : i < cls.length) (hj : j < cls.length) :
    ((permuteCost cls C).getD (searchsorted cls cls[i]) []).getD (searchsorted cls cls[j]) 0 =
      (C.getD i []).getD j 0 := by
  rw [permuteCost_getD cls C _ _ (searchsorted_lt_length cls _ (List.getElem_mem hi))
    (searchsorted_lt_length cls _ (List.getElem_mem hj)), argsortL_rank cls hnd i hi, argsortL_rank cls hnd j hj]

/-- **most probable class by default**: with `cost_matrix_ = 1 - eye(k)` the returned class has the
largest probability in its row. -/
theorem predict_most_probable (classes : List γ) (P : List (List α)) (noise : List (List β))
    (hk : 0 < classes.length) (hn : noise.length = P.length)
    (hnoise : ∀ nz ∈ noise, nz.length = classes.length ∧ ∀ x ∈ nz, 0 < x)
    (hP : ∀ p ∈ P, p.length = classes.length) :
    ∀ i, ∀ hi : i < P.length, ∃ idx c, (predictIdx classes.length P (zeroOne classes.length) noise)[i]? = some idx ∧
      (predictDecision classes P (zeroOne classes.length) noise)[i]? = some (some c) ∧ classes[idx]? = some c ∧
      ∀ j, j < classes.length → P[i].getD j 0 ≤ P[i].getD idx 0 := by
  intro i hi
  obtain ⟨idx, c, h1, hlt, h3, -, h5, hmin⟩ :=
    (predict_min_cost classes P (zeroOne classes.length) noise hk hn hnoise).2 i hi
  refine ⟨idx, c, h1, h5, h3, fun j hj => ?_⟩
  have hp := hP _ (List.getElem_mem hi)
  have := hmin j hj
  rw [costAt_eq _ _ _ _ _ hi, costAt_eq _ _ _ _ _ hi, rowMul_zeroOne _ _ hp _ hlt, rowMul_zeroOne _ _ hp _ hj] at this
  exact (sub_le_sub_iff_left _).mp this

/-- `SklearnClassifier.predict`, cost-matrix branch and unfitted branch (`is_fitted_ = False`, with or
without a user cost matrix): the decoded minimum-cost decision of the base class on `predict_proba`. -/
theorem sklearn_predict_cost_branch (classes : List γ) (fitted hasCost : Bool) (estPred : List γ) (P C : List (List α))
    (noise : List (List β)) (h : fitted = false ∨ hasCost = true) :
    sklearnPredict classes fitted hasCost estPred P C noise = predictDecision classes P C noise := by
  rcases h with rfl | rfl
  · rfl
  · cases fitted <;> rfl

/-- default branch: the wrapped estimator's own `predict` is passed through unchanged. -/
theorem sklearn_predict_default_branch (classes : List γ) (estPred : List γ) (P C : List (List α))
    (noise : List (List β)) :
    sklearnPredict classes true false estPred P C noise = estPred.map some :=
  rfl

/-- **all three branches**: `SklearnClassifier.predict` returns, for every query row, a member of
`classes_` of minimal expected cost under `predict_proba` — unconditionally in the cost-matrix branch
and in the unfitted branch; in the default branch (the estimator's own `predict` is passed through)
exactly when the wrapped estimator's predictions are such minimisers (`hest`: a consistent estimator
predicts a most probable class; this is the estimator's contract, not the wrapper's). -/
theorem sklearn_predict_min_cost (classes : List γ) (fitted hasCost : Bool) (estPred : List γ) (P C : List (List α))
    (noise : List (List β)) (hk : 0 < classes.length) (hn : noise.length = P.length)
    (hnoise : ∀ nz ∈ noise, nz.length = classes.length ∧ ∀ x ∈ nz, 0 < x)
    (hest : fitted = true → hasCost = false → ∀ i, i < P.length → ∃ idx c, estPred[i]? = some c ∧
        idx < classes.length ∧ classes[idx]? = some c ∧
        ∀ j, j < classes.length → costAt classes.length P C i idx ≤ costAt classes.length P C i j) :
    ∀ i, i < P.length → ∃ idx c, (sklearnPredict classes fitted hasCost estPred P C noise)[i]? = some (some c) ∧
      idx < classes.length ∧ classes[idx]? = some c ∧ c ∈ classes ∧
      ∀ j, j < classes.length → costAt classes.length P C i idx ≤ costAt classes.length P C i j := by
  intro i hi
  by_cases hb : fitted = false ∨ hasCost = true
  · rw [sklearn_predict_cost_branch classes fitted hasCost estPred P C noise hb]
    obtain ⟨idx, c, -, h2, h3, h4, h5, h6⟩ := (predict_min_cost classes P C noise hk hn hnoise).2 i hi
    exact ⟨idx, c, h5, h2, h3, h4, h6⟩
  · obtain ⟨rfl, rfl⟩ : fitted = true ∧ hasCost = false :=
      ⟨Bool.eq_true_of_not_eq_false (not_or.mp hb).1, Bool.eq_false_of_not_eq_true (not_or.mp hb).2⟩
    obtain ⟨idx, c, h1, h2, h3, h4⟩ := hest rfl rfl i hi
    exact ⟨idx, c, by rw [sklearn_predict_default_branch, List.getElem?_map, h1]; rfl, h2, h3,
      List.mem_of_getElem? h3, h4⟩

end Predict

/-- `AnnotatorEnsembleClassifier`, **soft voting**: at least one member, each returning probability
rows ⇒ a probability row. -/
theorem ensembleSoft_simplex (k : Nat) (Ps : List (List (List α)))
    (h : ∀ rows ∈ Ps, rows ≠ [] ∧ ∀ r ∈ rows, IsSimplex k r) :
    ∀ q ∈ ensembleSoft k Ps, IsSimplex k q := by
  intro q hq
  obtain ⟨rows, hrows, rfl⟩ := List.mem_map.mp hq
  obtain ⟨hne, hs⟩ := h rows hrows
  obtain ⟨hl, hnn, hsum⟩ := addRows_spec k rows hs
  have := divRow_simplex _ hnn (hsum ▸ Nat.cast_pos.mpr (List.length_pos_of_ne_nil hne))
  rwa [hl] at this

/-- **hard voting**: at least one member whose predictions are class indices below `k` (i.e. members
of `classes_`) ⇒ the normalised vote counts are a probability row. -/
theorem ensembleHard_simplex (k : Nat) (preds : List (List Nat))
    (h : ∀ p ∈ preds, p ≠ [] ∧ ∀ c ∈ p, c < k) :
    ∀ q ∈ ensembleHard (α := α) k preds, IsSimplex k q := by
  intro q hq
  obtain ⟨p, hp, rfl⟩ := List.mem_map.mp hq
  obtain ⟨hne, hlt⟩ := h p hp
  have := divRow_simplex _ (voteCounts_nonneg (α := α) k p)
    (sumL_voteCounts (α := α) k p hlt ▸ Nat.cast_pos.mpr (List.length_pos_of_ne_nil hne))
  rwa [voteCounts_length] at this

/-! ## Non-vacuity -/

example : IsSimplex (α := Rat) 3 [1/2, 1/2, 0] := by
  unfold IsSimplex; decide +kernel

/-- classes declared as `[20, 30, 10]` with an asymmetric cost matrix: `cost_matrix_` in sorted order. -/
example : permuteCost (α := Int) [20, 30, 10] [[0, 1, 2], [3, 0, 4], [5, 6, 0]] = [[0, 5, 6], [2, 0, 1], [4, 3, 0]] := by
  decide +kernel

/-- declared classes `[10,20,30]`, estimator has seen `[10,30]`: positions `[0,2]`. -/
example : classIndices [10, 20, 30] [10, 30] = [0, 2] := by decide +kernel

example : scatterCols [0, 0, 0] [0, 2] [3, 4] = [3, 0, 4] := by decide +kernel

example : predictDecision (α := Int) (β := Nat) [10, 20, 30] [[1, 2, 1]] (zeroOne 3) [[1, 1, 1]] = [some 20] := by
  decide +kernel

end Ska.C11

/-! ## Regressions: statements about definitions that model code as it was before a repair -/

namespace Ska.C11.Regressions
open Ska Ska.Classifier

/-- before commit b88b57ad the unfitted branch of `SklearnClassifier.predict` sampled a label from the
label-count distribution.  With no labels (`P` uniform; written over `Int` as the doubled row `[1, 1]` —
the comparison of expected costs is scale invariant) and the cost matrix `[[0,1],[5,0]]`, the draw
`choice = [0]` (probability 1/2) returned class `10` of expected cost `5/2` although class `20` costs
`1/2`; the current definition returns `20`. -/
theorem sklearn_unfitted_predict_counterexample :
    sklearnPredictOld (α := Int) (β := Nat) [10, 20] false true ([] : List Nat)
        [[1, 1]] [[0, 1], [5, 0]] [[1, 1]] [0] = [some 10] ∧
    expectedCosts (α := Int) 2 [[1, 1]] [[0, 1], [5, 0]] = [[5, 1]] ∧
    sklearnPredict (α := Int) (β := Nat) [10, 20] false true ([] : List Nat)
        [[1, 1]] [[0, 1], [5, 0]] [[1, 1]] = [some 20] := by
  decide +kernel

end Ska.C11.Regressions
