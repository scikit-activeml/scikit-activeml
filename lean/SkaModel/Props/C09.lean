import SkaModel.Lemmas.Label
import Mathlib.Data.Int.Order.Basic

/-!
# C09 — results do not depend on how labels and missing labels are encoded

Property theorems (the encoding algebra); helper lemmas about the model are in
`SkaModel/Lemmas/Label.lean`.

Setting: two label types `γ`, `γ'` (arbitrary linear orders — numbers, strings, `Lbl α` …), a
renaming `φ : γ → γ'` of the classes, an old sentinel `m : γ` and a new one `m' : γ'`.  The label
array `y` is re-encoded by `relabel φ m m'` (sentinel ↦ sentinel, label ↦ `φ label`), the class list
by `φ`.  "Set consistently" is: `φ` preserves and reflects `<` on the labels that occur
(`MonoOn φ L`, e.g. `0,1,2 ↦ 10,20,30 ↦ 'a','b','c'`), and the new sentinel is not the name of a
class (`φ x ≠ m'`).

What a strategy / classifier sees of the labels is `ExtLabelEncoder.transform` (integer codes) and
`is_unlabeled` (a mask); `encode_monotone_invariant` and `isUnlabeled_invariant` show both are
*identical* under the two encodings, so everything computed from them (indices, utilities,
probabilities) is identical — `factors_through_encoding` — and decoded predictions are the re-encoded
originals — `decode_relabel`, `predictions_reencoded`.  That a given strategy only looks at the
labels through these two functions is checked on the real code by paired runs (harness/props/c09.py).
-/

namespace Ska.C09
open Ska Ska.Label

variable {γ γ' : Type} [LinearOrder γ] [LinearOrder γ']

/-- `missing_label` test of an encoding with sentinel `m`. -/
def isSentinel (m : γ) (x : γ) : Bool := decide (x = m)

/-- The hypotheses "classes and missing_label are set consistently" for a class list and an array. -/
structure Consistent (φ : γ → γ') (m : γ) (m' : γ') (cls y : List γ) : Prop where
  /-- `φ` is strictly increasing on the labels that occur (classes and non-missing entries). -/
  mono : MonoOn φ (cls ++ y.filter (fun x => !decide (x = m)))
  /-- the new sentinel is not the new name of a label. -/
  fresh : ∀ x ∈ cls ++ y, x ≠ m → φ x ≠ m'
  /-- the old sentinel is not a class (`check_classifier_params`). -/
  notClass : m ∉ cls

theorem isSentinel_relabel (φ : γ → γ') (m : γ) (m' : γ') (x : γ) (h : x ≠ m → φ x ≠ m') :
    isSentinel m' (relabel φ m m' x) = isSentinel m x :=
  decide_eq_decide.mpr (relabel_eq_sentinel φ m m' x h)

/-- **The missing-label mask is the same under both encodings.** -/
theorem isUnlabeled_invariant (φ : γ → γ') (m : γ) (m' : γ') (y : List γ)
    (hfresh : ∀ x ∈ y, x ≠ m → φ x ≠ m') :
    (y.map (relabel φ m m')).map (isSentinel m') = y.map (isSentinel m) := by
  rw [List.map_map]
  exact List.map_congr_left fun x hx => isSentinel_relabel φ m m' x (hfresh x hx)

/-- On `Lbl` the model's `isMissing` is this sentinel test, so the theorem applies to `is_unlabeled`
for every supported sentinel (NaN, None, numbers, strings). -/
theorem isMissing_eq_isSentinel {α : Type} [LinearOrder α] (ml x : Lbl α) :
    isMissing ml x = isSentinel ml x :=
  Bool.eq_iff_iff.mpr ((isMissing_iff ml x).trans decide_eq_true_iff.symm)

/-- **The encoded array is identical**: for every strictly increasing relabeling `φ` of the classes
and any two sentinels, encoding the relabeled array with the relabeled classes gives exactly the
codes of the original (including the same `unseen label` error when `y` contains a non-class). -/
theorem encode_monotone_invariant (φ : γ → γ') (m : γ) (m' : γ') (cls y : List γ)
    (h : Consistent φ m m' cls y) :
    transformFlat (sortDedup (cls.map φ)) (isSentinel m') (y.map (relabel φ m m')) =
      transformFlat (sortDedup cls) (isSentinel m) y := by
  have hmc : MonoOn φ cls := h.mono.mono (fun x hx => List.mem_append_left _ hx)
  rw [sortDedup_map φ cls hmc, transformFlat_eq_mapE, transformFlat_eq_mapE]
  -- `encode1_relabel` has the tests as `fun z => decide (z = m')`, which `isSentinel m'` unfolds to
  refine mapE_map_congr fun x hx => encode1_relabel φ m m' _ x
    (h.fresh x (List.mem_append_right _ hx)) fun hxm a ha =>
      h.mono.inj x a ?_ (List.mem_append_left _ ((mem_sortDedup cls a).mp ha))
  exact List.mem_append_right _ (List.mem_filter.mpr ⟨hx, by rw [decide_eq_false hxm]; rfl⟩)

theorem present_labels_relabel (φ : γ → γ') (m : γ) (m' : γ') (y : List γ)
    (hfresh : ∀ x ∈ y, x ≠ m → φ x ≠ m') :
    (y.map (relabel φ m m')).filter (fun x => !isSentinel m' x) =
      (y.filter (fun x => !isSentinel m x)).map φ := by
  have hf : y.filter ((fun x => !isSentinel m' x) ∘ relabel φ m m') =
      y.filter (fun x => !isSentinel m x) :=
    List.filter_congr fun x hx => congrArg not (isSentinel_relabel φ m m' x (hfresh x hx))
  rw [List.filter_map, hf]
  refine List.map_congr_left fun x hx => relabel_of_ne φ m' ?_
  exact of_decide_eq_false ((Bool.not_eq_true' _).mp (List.mem_filter.mp hx).2)

/-- Same with the classes inferred from the data (`classes=None`): the relabeled array's inferred
classes are the relabeled inferred classes, and the codes are identical. -/
theorem encode_inferred_invariant (φ : γ → γ') (m : γ) (m' : γ') (y : List γ)
    (hmono : MonoOn φ (y.filter (fun x => !isSentinel m x)))
    (hfresh : ∀ x ∈ y, x ≠ m → φ x ≠ m') :
    transformFlat (sortDedup ((y.map (relabel φ m m')).filter (fun x => !isSentinel m' x)))
        (isSentinel m') (y.map (relabel φ m m')) =
      transformFlat (sortDedup (y.filter (fun x => !isSentinel m x))) (isSentinel m) y := by
  rw [present_labels_relabel φ m m' y hfresh]
  refine encode_monotone_invariant φ m m' _ y ⟨?_, fun x hx hxm => ?_, by simp [isSentinel]⟩
  · -- the class list is the very filter `Consistent.mono` appends: `isSentinel m x` is `decide (x = m)`
    exact hmono.mono fun x hx => (List.mem_append.mp hx).elim id id
  · exact hfresh x ((List.mem_append.mp hx).elim (fun h => (List.mem_filter.mp h).1) id) hxm

/-- **Decoding under the new encoding gives the re-encoded original**: `inverse_transform` of the same
codes with the relabeled classes / new sentinel is `relabel` of the old result (same error behaviour). -/
theorem decode_relabel (φ : γ → γ') (m : γ) (m' : γ') (cls : List γ)
    (hmono : MonoOn φ cls) (hm : m ∉ cls) (es : List Int) :
    decodeFlat (sortDedup (cls.map φ)) m' es =
      (decodeFlat (sortDedup cls) m es).map (List.map (relabel φ m m')) := by
  rw [sortDedup_map φ cls hmono, decodeFlat_eq_mapE, decodeFlat_eq_mapE]
  exact mapE_map_result es
    (decode1_relabel φ m m' _ fun h => hm ((mem_sortDedup cls m).mp h))

/-- A class prediction (a code `≥ 0`) decodes to `φ` of the original prediction. -/
theorem decode_class_relabel (φ : γ → γ') (m : γ) (m' : γ') (cls : List γ)
    (hmono : MonoOn φ cls) (c : Nat) (x : γ) (h : decode1 (sortDedup cls) m (c : Int) = .ok x) :
    decode1 (sortDedup (cls.map φ)) m' (c : Int) = .ok (φ x) := by
  rw [sortDedup_map φ cls hmono]
  exact decode1_map φ m m' _ c x h

/-- **Factoring through the encoding**: any computation `g` that sees the labels only through the
encoder output and the missing-label mask — selected indices, utilities, predicted probabilities —
gives the same result under both encodings. -/
theorem factors_through_encoding {R : Type} (g : Except LErr (List Int) → List Bool → R)
    (φ : γ → γ') (m : γ) (m' : γ') (cls y : List γ) (h : Consistent φ m m' cls y) :
    g (transformFlat (sortDedup (cls.map φ)) (isSentinel m') (y.map (relabel φ m m')))
        ((y.map (relabel φ m m')).map (isSentinel m')) =
      g (transformFlat (sortDedup cls) (isSentinel m) y) (y.map (isSentinel m)) := by
  rw [encode_monotone_invariant φ m m' cls y h,
    isUnlabeled_invariant φ m m' y (fun x hx => h.fresh x (List.mem_append_right _ hx))]

/-- **Predictions are the re-encoded originals**: if the predicted codes are any function `p` of the
encoded training labels and the mask, the decoded predictions under the new encoding are `relabel` of
the decoded predictions under the old one. -/
theorem predictions_reencoded (p : Except LErr (List Int) → List Bool → List Int)
    (φ : γ → γ') (m : γ) (m' : γ') (cls y : List γ) (h : Consistent φ m m' cls y) :
    decodeFlat (sortDedup (cls.map φ)) m'
        (p (transformFlat (sortDedup (cls.map φ)) (isSentinel m') (y.map (relabel φ m m')))
          ((y.map (relabel φ m m')).map (isSentinel m'))) =
      (decodeFlat (sortDedup cls) m
        (p (transformFlat (sortDedup cls) (isSentinel m) y) (y.map (isSentinel m)))).map
          (List.map (relabel φ m m')) := by
  rw [factors_through_encoding p φ m m' cls y h]
  exact decode_relabel φ m m' cls (h.mono.mono (fun x hx => List.mem_append_left _ hx)) h.notClass _

/-- **The cost-matrix permutation of `SkactivemlClassifier._validate_data` is invariant**:
`cost_matrix[argsort(classes)][:, argsort(classes)]` is the same matrix for the renamed classes. -/
theorem costMatrix_perm_invariant {β : Type} [Inhabited β] (φ : γ → γ') (cls : List γ)
    (hmono : MonoOn φ cls) (c : List (List β)) :
    permuteMatrix c (argsort (cls.map φ)) = permuteMatrix c (argsort cls) := by
  rw [argsort_map φ cls hmono]

/-! ## Non-vacuity: the encodings used by the paired runs -/

section Examples
open Lbl

/-- `0,1,2 / NaN  ↦  'a','b','c' / None` on `Lbl Int` (strings as codes 0,1,2). -/
def numToStr : Lbl Int → Lbl Int
  | .num x => .str x
  | l => l

example : Consistent numToStr (.nanv : Lbl Int) .none_ [.num 0, .num 1, .num 2]
    [.num 1, .nanv, .num 0, .num 2, .nanv] := by
  refine ⟨?_, by decide +kernel, by decide +kernel⟩
  unfold MonoOn
  decide +kernel

/-- `0,1,2 / NaN  ↦  10,20,30 / -1`. -/
def times10 : Lbl Int → Lbl Int
  | .num x => .num (10 * x + 10)
  | l => l

example : transformFlat (sortDedup ([Lbl.num 2, .num 0, .num 1].map times10)) (isSentinel (.num (-1)))
      ([Lbl.num 1, .nanv, .num 0, .num 2].map (relabel times10 .nanv (.num (-1)))) = .ok [1, -1, 0, 2] ∧
    transformFlat (sortDedup [Lbl.num 2, .num 0, .num (1 : Int)]) (isSentinel .nanv)
      [Lbl.num 1, .nanv, .num 0, .num 2] = .ok [1, -1, 0, 2] := by decide +kernel

example : argsort [Lbl.str 2, .str 0, .str (1 : Int)] = [1, 2, 0] ∧
    argsort ([Lbl.str 2, .str 0, .str (1 : Int)].map times10) = [1, 2, 0] := by decide +kernel

end Examples

end Ska.C09
