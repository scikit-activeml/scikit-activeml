import SkaModel.Lemmas.AnnotGen
import SkaModel.Props.C07

/-! # Property theorems about the model translated from the current source of `_n_to_assign_annotators`

`Gen/AnnotGen.lean` is rewritten by `harness/translate/pyannot.py` from `skactiveml/pool/multiannotator/_wrapper.py` on every
run.  The theorems below are about *that* text: termination, filling and saturation of the loop, carried over from
`Props/C07.lean` through `n_to_assign_eq`, and, from `assignIter_some`, fuel-independence. -/

namespace Ska.AnnotGenProps
open Ska Ska.MultiAnnot Ska.Gen.Annot

/-- `np.sum(A, axis=1)[s_indices]` -/
def nmaxOf (A : List (List Bool)) (s : List Nat) : List Nat := s.map (fun i => countRow (A.getD i []))

/-- `n_to_assign_eq` with `nmaxOf`: the translated function computes the hand-written `nToAssign`, for all inputs
(evidence/C07.json cites it under this name) -/
theorem gen_n_to_assign_eq (fuel b : Nat) (A : List (List Bool)) (s pref : List Nat) :
    _n_to_assign_annotators fuel b A s pref = nToAssign fuel b (nmaxOf A s) pref :=
  n_to_assign_eq fuel b A s pref

/-- **the translated `while` loop terminates**, for every batch size, availability matrix, chosen samples and preference
vector: after at most `Σ nmax` passes it has returned, with the result described at `C07.nToAssign_terminates`. -/
theorem gen_n_to_assign_terminates (fuel b : Nat) (A : List (List Bool)) (s pref : List Nat)
    (hlen : s.length = pref.length) (hf : (nmaxOf A s).sum ≤ fuel) :
    ∃ r, _n_to_assign_annotators fuel b A s pref = some r ∧ (b ≤ r.sum ∨ r = nmaxOf A s) ∧ LeL r (nmaxOf A s) ∧
      LeL (assignInit (nmaxOf A s) pref) r ∧
      (b ≤ (assignInit (nmaxOf A s) pref).sum → r = assignInit (nmaxOf A s) pref) := by
  rw [gen_n_to_assign_eq]
  exact Ska.C07.nToAssign_terminates fuel b (nmaxOf A s) pref ((List.length_map _).trans hlen) hf

/-- if the chosen samples together have at least `batch_size` available annotators, the translated function fills the batch -/
theorem gen_n_to_assign_fills (fuel b : Nat) (A : List (List Bool)) (s pref : List Nat)
    (hlen : s.length = pref.length) (hb : b ≤ (nmaxOf A s).sum) (hf : (nmaxOf A s).sum ≤ fuel) :
    ∃ r, _n_to_assign_annotators fuel b A s pref = some r ∧ b ≤ r.sum := by
  rw [gen_n_to_assign_eq]
  exact Ska.C07.nToAssign_fills fuel b (nmaxOf A s) pref ((List.length_map _).trans hlen) hb hf

/-- otherwise every chosen sample gets all its available annotators -/
theorem gen_n_to_assign_saturated (fuel b : Nat) (A : List (List Bool)) (s pref : List Nat)
    (hlen : s.length = pref.length) (hb : (nmaxOf A s).sum < b) (hf : (nmaxOf A s).sum ≤ fuel) :
    _n_to_assign_annotators fuel b A s pref = some (nmaxOf A s) := by
  rw [gen_n_to_assign_eq]
  exact Ska.C07.nToAssign_saturated fuel b (nmaxOf A s) pref ((List.length_map _).trans hlen) hb hf

/-- the result does not depend on the fuel once it suffices (the `while` loop has one behaviour) -/
theorem gen_n_to_assign_fuel_irrelevant (f1 f2 b : Nat) (A : List (List Bool)) (s pref : List Nat)
    (hlen : s.length = pref.length) (h1 : (nmaxOf A s).sum ≤ f1) (h2 : (nmaxOf A s).sum ≤ f2) :
    _n_to_assign_annotators f1 b A s pref = _n_to_assign_annotators f2 b A s pref := by
  obtain ⟨r, hr, -⟩ := assignIter_some b (nmaxOf A s) _ (assignInit_le _ pref ((List.length_map _).trans hlen))
  rw [gen_n_to_assign_eq, gen_n_to_assign_eq, nToAssign, nToAssign, hr f1 (Nat.le_add_left_of_le h1),
    hr f2 (Nat.le_add_left_of_le h2)]

/-- non-vacuity: two chosen samples with 2 and 1 available annotators, one preferred, batch of 3: the loop runs once -/
example : _n_to_assign_annotators 3 3 [[true, true], [false, true], [false, false]] [0, 1] [1, 1] = some [2, 1] := by decide
/-- the all-False row that made the loop diverge before repair 6c5fda89 -/
example : _n_to_assign_annotators 0 1 [[false, false]] [0] [1] = some [0] := by decide

end Ska.AnnotGenProps
