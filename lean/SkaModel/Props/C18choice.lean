import SkaModel.Props.C18
import SkaModel.Props.C01choice

/-!
# C18 — `RandomState.choice(n, size, replace=False, p=p)` as numpy computes it

The proportional branch of `simple_batch` hands the selection to numpy's `choice` without replacement.  In
`Props/C18.lean` the result of that call is an oracle with a checked contract; here the algorithm itself is modelled
(`Core/SeqChoice.lean: choiceNR`) and the contract is proved:

* `choiceNR_sound`: whatever the uniform draws are, if the call returns, it returns exactly `size` pairwise
  distinct positions of positive weight (for every weight vector without negative entries that has at least `size`
  positive entries);
* `choiceNR_terminates`: every round finds at least one new position, so `size` rounds always suffice — numpy's
  `while n_uniq < size` loop terminates;
* `simpleBatchProp_ok`: hence `simple_batch(method="proportional")` with `choice` computed by the model returns on
  every input numpy accepts.
-/

namespace Ska.C18choice
open Ska Ska.Seq Ska.C01choice

section Plain
variable {α : Type} [OfNat α 0]

theorem getElem?_zeroAt (found : List Nat) (p : List α) (k : Nat) :
    (zeroAt found p)[k]? = (p[k]?).map (fun x => if k ∈ found then 0 else x) := by
  rw [zeroAt, List.getElem?_map, List.getElem?_zipIdx]
  cases p[k]? with
  | none => rfl
  | some x => simp only [Option.map_some, Nat.zero_add, List.contains_iff_mem]

/-- an entry of `zeroAt found p` is `0` at a found position and the entry of `p` elsewhere -/
theorem zeroAt_cases {found : List Nat} {p : List α} {k : Nat} {v : α} (h : (zeroAt found p)[k]? = some v) :
    (k ∈ found ∧ v = 0) ∨ (k ∉ found ∧ p[k]? = some v) := by
  rw [getElem?_zeroAt, Option.map_eq_some_iff] at h
  obtain ⟨w, hw, rfl⟩ := h
  by_cases hc : k ∈ found
  · exact .inl ⟨hc, if_pos hc⟩
  · exact .inr ⟨hc, (if_neg hc).symm ▸ hw⟩

theorem getElem?_propWeights [Div α] (u : List (Option α)) (s : α) (k : Nat) :
    (propWeights u s)[k]? = (u[k]?).map (propW s) :=
  List.getElem?_map

variable [LT α] [DecidableLT α]

theorem mem_posIdx (p : List α) (i : Nat) : i ∈ posIdx p ↔ ∃ v, p[i]? = some v ∧ 0 < v := by
  rw [posIdx, List.mem_filter, List.mem_range]
  constructor
  · rintro ⟨hi, h⟩
    rw [List.getElem?_eq_getElem hi] at h
    exact ⟨p[i], List.getElem?_eq_getElem hi, of_decide_eq_true h⟩
  · rintro ⟨v, hv, hpos⟩
    refine ⟨(List.getElem?_eq_some_iff.mp hv).1, ?_⟩
    rw [hv]
    exact decide_eq_true hpos

theorem posIdx_nodup (p : List α) : (posIdx p).Nodup :=
  List.Nodup.sublist List.filter_sublist List.nodup_range

/-- pigeonhole -/
theorem exists_pos_not_found (p : List α) (found : List Nat) (h : found.length < (posIdx p).length) :
    ∃ i ∈ posIdx p, i ∉ found := by
  by_contra hcon
  have hsub : posIdx p ⊆ found := fun i hi => Decidable.byContradiction fun hn => hcon ⟨i, hi, hn⟩
  exact absurd ((posIdx_nodup p).length_le_of_subset hsub) (Nat.not_le.mpr h)

end Plain

section Zeroed
variable {α : Type} [OfNat α 0] [Preorder α]

theorem zeroAt_nonneg (found : List Nat) (p : List α) (h : ∀ x ∈ p, 0 ≤ x) : ∀ x ∈ zeroAt found p, 0 ≤ x := by
  intro x hx
  obtain ⟨k, hk⟩ := List.getElem?_of_mem hx
  rcases zeroAt_cases hk with ⟨-, rfl⟩ | ⟨-, hp⟩
  · exact le_refl 0
  · exact h x (List.mem_of_getElem? hp)

end Zeroed

variable {α : Type} [Field α] [LinearOrder α] [IsStrictOrderedRing α]

theorem le_foldl_add_of_nonneg (l : List α) (acc : α) (h : ∀ x ∈ l, 0 ≤ x) :
    acc ≤ l.foldl (· + ·) acc ∧ ((∃ x ∈ l, 0 < x) → acc < l.foldl (· + ·) acc) := by
  induction l generalizing acc with
  | nil => exact ⟨le_refl acc, fun ⟨_, hx, _⟩ => nomatch hx⟩
  | cons y ys ih =>
    obtain ⟨h1, h2⟩ := ih (acc + y) fun z hz => h z (List.mem_cons_of_mem _ hz)
    have hy : acc ≤ acc + y := le_add_of_nonneg_right (h y List.mem_cons_self)
    refine ⟨le_trans hy h1, fun ⟨x, hx, hpos⟩ => ?_⟩
    rcases List.mem_cons.mp hx with rfl | hx'
    · exact lt_of_lt_of_le (lt_add_of_pos_right acc hpos) h1
    · exact lt_of_le_of_lt hy (h2 ⟨x, hx', hpos⟩)

theorem zeroAt_total_pos (p : List α) (found : List Nat) (hnn : ∀ x ∈ p, 0 ≤ x)
    (h : found.length < (posIdx p).length) : 0 < total (zeroAt found p) := by
  obtain ⟨i, hi, hnf⟩ := exists_pos_not_found p found h
  obtain ⟨v, hv, hpos⟩ := (mem_posIdx p i).mp hi
  refine (le_foldl_add_of_nonneg _ 0 (zeroAt_nonneg found p hnn)).2 ⟨v, List.mem_of_getElem? (i := i) ?_, hpos⟩
  rw [getElem?_zeroAt, hv, Option.map_some, if_neg hnf]

theorem choiceIdx_zeroAt (p : List α) (found : List Nat) (u : α) (hnn : ∀ x ∈ p, 0 ≤ x)
    (h : found.length < (posIdx p).length) (hu : 0 ≤ u ∧ u < 1) :
    choiceIdx (zeroAt found p) u ∉ found ∧ ∃ v, p[choiceIdx (zeroAt found p) u]? = some v ∧ 0 < v := by
  obtain ⟨v, hv, hvpos⟩ := choiceIdx_spec (zeroAt found p) u (zeroAt_nonneg found p hnn)
    (zeroAt_total_pos p found hnn h) hu.1 hu.2
  rcases zeroAt_cases hv with ⟨-, rfl⟩ | ⟨a, b⟩
  · exact absurd hvpos (lt_irrefl 0)
  · exact ⟨a, v, b, hvpos⟩

/-- what is known about the positions found so far -/
def Inv (p : List α) (size : Nat) (found : List Nat) : Prop :=
  found.Nodup ∧ (∀ i ∈ found, ∃ v, p[i]? = some v ∧ 0 < v) ∧ found.length ≤ size

omit [IsStrictOrderedRing α] in
theorem Inv.nil (p : List α) (size : Nat) : Inv p size [] :=
  ⟨List.nodup_nil, fun _ h => (List.not_mem_nil h).elim, Nat.zero_le _⟩

omit [IsStrictOrderedRing α] in
theorem Inv.done {p : List α} {size : Nat} {found : List Nat} (hinv : Inv p size found) (h : size ≤ found.length) :
    found.length = size ∧ found.Nodup ∧ ∀ i ∈ found, ∃ v, p[i]? = some v ∧ 0 < v :=
  ⟨Nat.le_antisymm hinv.2.2 h, hinv.1, hinv.2.1⟩

theorem keepFresh_spec (new : List Nat) : ∀ seen : List Nat,
    (keepFresh seen new).Nodup ∧ (∀ x ∈ keepFresh seen new, x ∉ seen) ∧ (keepFresh seen new).Sublist new := by
  induction new with
  | nil => exact fun seen => ⟨List.nodup_nil, fun _ h => (List.not_mem_nil h).elim, .slnil⟩
  | cons x xs ih =>
    intro seen
    rw [keepFresh]
    by_cases hc : seen.contains x = true
    · rw [if_pos hc]
      obtain ⟨h1, h2, h3⟩ := ih seen
      exact ⟨h1, h2, h3.cons x⟩
    · rw [if_neg hc]
      obtain ⟨h1, h2, h3⟩ := ih (x :: seen)
      exact ⟨List.nodup_cons.mpr ⟨fun hin => h2 x hin List.mem_cons_self, h1⟩,
        List.forall_mem_cons.mpr ⟨fun hs => hc (List.contains_iff_mem.mpr hs),
          fun y hy hs => h2 y hy (List.mem_cons_of_mem _ hs)⟩,
        h3.cons_cons x⟩

omit [IsStrictOrderedRing α] in
theorem Inv.append {p : List α} {size : Nat} {found : List Nat} (hinv : Inv p size found) (new : List Nat)
    (hnew : ∀ k ∈ new, k ∉ found ∧ ∃ v, p[k]? = some v ∧ 0 < v) (hlen : found.length + new.length ≤ size) :
    Inv p size (found ++ keepFresh [] new) := by
  obtain ⟨f1, -, f3⟩ := keepFresh_spec new []
  refine ⟨List.nodup_append.mpr ⟨hinv.1, f1, fun a ha b hb hab => (hnew b (f3.subset hb)).1 (hab ▸ ha)⟩, ?_, ?_⟩
  · intro i hi
    rcases List.mem_append.mp hi with h | h
    · exact hinv.2.1 i h
    · exact (hnew i (f3.subset h)).2
  · rw [List.length_append]
    exact Nat.le_trans (Nat.add_le_add_left f3.length_le _) hlen

/-- one round keeps the invariant and, if it has a draw, finds a new position -/
theorem round_inv (p : List α) (size : Nat) (found : List Nat) (us : List α)
    (hnn : ∀ x ∈ p, 0 ≤ x) (hsize : size ≤ (posIdx p).length) (hu : ∀ u ∈ us, 0 ≤ u ∧ u < 1)
    (hinv : Inv p size found) (hlt : found.length < size) :
    Inv p size (found ++ keepFresh [] ((us.take (size - found.length)).map (choiceIdx (zeroAt found p)))) ∧
    (us ≠ [] → found.length <
      (found ++ keepFresh [] ((us.take (size - found.length)).map (choiceIdx (zeroAt found p)))).length) := by
  refine ⟨hinv.append _ ?_ ?_, fun hne => ?_⟩
  · intro k hk
    obtain ⟨u, hu', rfl⟩ := List.mem_map.mp hk
    exact choiceIdx_zeroAt p found u hnn (Nat.lt_of_lt_of_le hlt hsize) (hu u (List.mem_of_mem_take hu'))
  · rw [List.length_map, List.length_take]
    exact (Nat.add_le_add_left (Nat.min_le_left _ _) _).trans
      (Nat.le_of_eq (Nat.add_sub_cancel' (Nat.le_of_lt hlt)))
  · -- the first draw of the round is kept: `keepFresh` has seen nothing yet
    obtain ⟨u, us', rfl⟩ := List.exists_cons_of_ne_nil hne
    obtain ⟨n, rfl⟩ := Nat.exists_eq_add_of_lt hlt
    rw [show found.length + n + 1 - found.length = n + 1 from Nat.add_sub_cancel_left found.length (n + 1),
      List.take_succ_cons, List.map_cons, List.length_append, keepFresh]
    exact Nat.lt_add_of_pos_right (Nat.zero_lt_succ _)

/-- **Soundness**: whatever the uniform draws are, a result of `choice(…, replace=False, p=p)` consists of exactly
`size` pairwise distinct positions of positive weight. -/
theorem choiceNR_sound (p : List α) (size : Nat) (hnn : ∀ x ∈ p, 0 ≤ x) (hsize : size ≤ (posIdx p).length)
    (uss : List (List α)) : ∀ found res : List Nat, (∀ us ∈ uss, ∀ u ∈ us, 0 ≤ u ∧ u < 1) →
    Inv p size found → choiceNR p size uss found = some res →
    res.length = size ∧ res.Nodup ∧ (∀ i ∈ res, ∃ v, p[i]? = some v ∧ 0 < v) := by
  induction uss with
  | nil =>
    intro found res _ hinv h
    rw [choiceNR] at h
    by_cases hc : size ≤ found.length
    · rw [if_pos hc] at h; cases h; exact hinv.done hc
    · rw [if_neg hc] at h; cases h
  | cons us rest ih =>
    intro found res hu hinv h
    rw [choiceNR] at h
    by_cases hc : size ≤ found.length
    · rw [if_pos hc] at h; cases h; exact hinv.done hc
    · rw [if_neg hc] at h
      exact ih _ res (fun us' hus' => hu us' (List.mem_cons_of_mem _ hus'))
        (round_inv p size found us hnn hsize (hu us List.mem_cons_self) hinv (Nat.lt_of_not_le hc)).1 h

/-- **Termination**: with one non-empty round of draws per missing position the loop returns. -/
theorem choiceNR_terminates (p : List α) (size : Nat) (hnn : ∀ x ∈ p, 0 ≤ x) (hsize : size ≤ (posIdx p).length)
    (uss : List (List α)) : ∀ found : List Nat, (∀ us ∈ uss, us ≠ [] ∧ ∀ u ∈ us, 0 ≤ u ∧ u < 1) →
    Inv p size found → size - found.length ≤ uss.length →
    ∃ res, choiceNR p size uss found = some res := by
  induction uss with
  | nil =>
    intro found _ _ hlen
    rw [choiceNR, if_pos (Nat.le_of_sub_eq_zero (Nat.le_zero.mp hlen))]
    exact ⟨found, rfl⟩
  | cons us rest ih =>
    intro found hu hinv hlen
    rw [choiceNR]
    by_cases hc : size ≤ found.length
    · rw [if_pos hc]; exact ⟨found, rfl⟩
    · rw [if_neg hc]
      obtain ⟨hne, hur⟩ := hu us List.mem_cons_self
      obtain ⟨hinv', hgrow⟩ := round_inv p size found us hnn hsize hur hinv (Nat.lt_of_not_le hc)
      -- the round found a new position, so one round fewer is needed afterwards
      exact ih _ (fun us' hus' => hu us' (List.mem_cons_of_mem _ hus')) hinv'
        ((Nat.sub_le_sub_left (hgrow hne) size).trans
          (Nat.sub_le_of_le_add hlen : size - found.length - 1 ≤ rest.length))

/-- from scratch: `size` rounds suffice, and the result is a valid draw without replacement -/
theorem choiceNR_spec (p : List α) (size : Nat) (hnn : ∀ x ∈ p, 0 ≤ x) (hsize : size ≤ (posIdx p).length)
    (uss : List (List α)) (hu : ∀ us ∈ uss, us ≠ [] ∧ ∀ u ∈ us, 0 ≤ u ∧ u < 1) (hlen : size ≤ uss.length) :
    ∃ res, choiceNR p size uss [] = some res ∧ res.length = size ∧ res.Nodup ∧
      ∀ i ∈ res, ∃ v, p[i]? = some v ∧ 0 < v := by
  obtain ⟨res, hres⟩ := choiceNR_terminates p size hnn hsize uss [] hu (Inv.nil p size) hlen
  exact ⟨res, hres, choiceNR_sound p size hnn hsize uss [] res (fun us hus => (hu us hus).2) (Inv.nil p size) hres⟩

/-- the sign analysis of the selection model is the sign of the normalised weight `v / s` -/
theorem posW_some_iff (s v : α) : posW s (some v) = true ↔ 0 < v / s := by
  simp only [posW, div_pos_iff, Bool.or_eq_true, Bool.and_eq_true, decide_eq_true_eq, and_comm]

theorem negW_some_iff (s v : α) : negW s (some v) = true ↔ v / s < 0 := by
  simp only [negW, div_neg_iff, Bool.or_eq_true, Bool.and_eq_true, decide_eq_true_eq, and_comm, or_comm]

theorem propW_pos_iff (s : α) (o : Option α) : 0 < propW s o ↔ posW s o = true := by
  cases o with
  | none => exact iff_of_false (lt_irrefl 0) Bool.false_ne_true
  | some v => exact (posW_some_iff s v).symm

theorem propWeights_nonneg (u : List (Option α)) (s : α) (hneg : u.any (negW s) = false) :
    ∀ x ∈ propWeights u s, 0 ≤ x := by
  intro x hx
  obtain ⟨o, ho, rfl⟩ := List.mem_map.mp hx
  cases o with
  | none => exact le_refl 0
  | some v =>
    exact not_lt.mp fun h => List.any_eq_false.mp hneg _ ho ((negW_some_iff s v).mpr h)

/-- counting positions of a list by a predicate on the entries = counting the entries -/
theorem range_filter_length {γ : Type} (l : List γ) (f : Option γ → Bool) :
    ((List.range l.length).filter (fun i => f l[i]?)).length = (l.filter (fun x => f (some x))).length := by
  induction l with
  | nil => rfl
  | cons x xs ih =>
    rw [List.length_cons, List.range_succ_eq_map, List.filter_cons, List.filter_cons, List.filter_map,
      List.getElem?_cons_zero]
    by_cases h : f (some x) = true
    · rw [if_pos h, if_pos h, List.length_cons, List.length_cons, List.length_map]
      exact congrArg Nat.succ ih
    · rw [if_neg h, if_neg h, List.length_map]
      exact ih

theorem posIdx_propWeights_length (u : List (Option α)) (s : α) :
    (posIdx (propWeights u s)).length = (u.filter (posW s)).length := by
  refine (range_filter_length (propWeights u s)
    (fun o => match o with | some x => decide (0 < x) | none => false)).trans ?_
  rw [propWeights, List.filter_map, List.length_map]
  congr 2
  funext o
  exact Bool.eq_iff_iff.mpr (decide_eq_true_iff.trans (propW_pos_iff s o))

/-- **`simple_batch(method="proportional")` never fails for want of an oracle**: on every input numpy accepts (no
infinity, batch size ≥ 1, non-zero total, no weight of the opposite sign, enough positive weights), for all uniform
draws in `[0, 1)` and `size` non-empty rounds, the call returns; its picks are the positions `choiceNR` computes,
`min(b, #non-NaN)` many and pairwise distinct (positive mass and the rows: `C18.simpleBatch_prop_spec`, not restated). -/
theorem simpleBatchProp_ok (isInf : α → Bool) (u : List (Option α)) (b : Nat) (uss : List (List α))
    (hinf : hasInf isInf u = false) (hb : 1 ≤ b) (hs : nansum u ≠ 0) (hneg : u.any (negW (nansum u)) = false)
    (hpos : min b (countSome u) ≤ (u.filter (posW (nansum u))).length)
    (hu : ∀ us ∈ uss, us ≠ [] ∧ ∀ x ∈ us, 0 ≤ x ∧ x < 1) (hlen : min b (countSome u) ≤ uss.length) :
    ∃ rs c, simpleBatchProp isInf u b uss = .ok rs ∧
      choiceNR (propWeights u (nansum u)) (min b (countSome u)) uss [] = some c ∧
      rs.map Prod.fst = c ∧ rs.length = min b (countSome u) ∧ c.Nodup := by
  have hsize : min b (countSome u) ≤ (posIdx (propWeights u (nansum u))).length :=
    (posIdx_propWeights_length u (nansum u)).symm ▸ hpos
  obtain ⟨c, hc, hclen, hcnd, hcpos⟩ := choiceNR_spec (propWeights u (nansum u)) (min b (countSome u))
    (propWeights_nonneg u (nansum u) hneg) hsize uss hu hlen
  have hall : ∀ i ∈ c, posW (nansum u) (u.getD i none) = true := by
    intro i hi
    obtain ⟨v, hv, hvpos⟩ := hcpos i hi
    rw [getElem?_propWeights, Option.map_eq_some_iff] at hv
    obtain ⟨o, ho, rfl⟩ := hv
    rw [getD_of_getElem? none ho]
    exact (propW_pos_iff _ o).mp hvpos
  have hrs : simpleBatch (β := α) isInf u b .proportional [] c = .ok (propRows u c) :=
    (simpleBatch_prop_ok_iff isInf u b [] c _).2
      ⟨hinf, hb, (lt_or_gt_of_ne hs).symm, hneg, hpos, ⟨hclen, hcnd, hall⟩, rfl⟩
  obtain ⟨s1, s2, s3, -, -⟩ := C18.simpleBatch_prop_spec isInf u b [] c _ hrs
  refine ⟨_, c, ?_, hc, s1, s2, s3⟩
  rw [simpleBatchProp, hc]
  exact hrs

-- a collision in the first round is resolved in the second
example : choiceNR (α := Rat) [1/4, 0, 1/2, 1/4] 2 [[3/10, 3/8], [9/10]] [] = some [2, 3] := by decide +kernel
example : posIdx (α := Rat) [1/4, 0, 1/2, 1/4] = [0, 2, 3] := by decide +kernel

end Ska.C18choice
