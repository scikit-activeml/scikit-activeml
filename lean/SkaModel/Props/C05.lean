import SkaModel.Lemmas.Effects

/-!
# C05 — a pool query has no side effects on caller data, models or settings

Property theorems over the effect semantics of `SkaModel/Core/Effects.lean`.  The per-class instances
(`FrameOK summary_<Class>_query = true`) are regenerated from the current source into
`SkaModel/Gen/EffectsC05.lean` on every run.

All statements quantify over every heap, every environment (= all arguments), every oracle (= every
branch taken, every computed value, every new content of a mutated cell) and every behaviour of
inner strategy objects that respects its own frame contract.

Honest limits (see DESIGN Part II §4 C05): the theorems are about *summaries*; that the translator's
summary over-approximates the Python method is validated dynamically by `harness/props/c05.py`.
`fit`-like calls are modelled as never storing references to caller objects in the receiver, and
numpy array aliasing (views) is not modelled: immutability of the input *arrays* is established by
the dynamic runs only (partial clause).
-/

namespace Ska.C05
open Ska.Effects

/-- Ownership facts about the objects `self` created in earlier calls (they hold trivially for a
newly constructed object with `D = ∅`): the declared closed attributes point into a field-closed set
`D` of cells the call may mutate, the declared safe attributes point to cells the call may mutate. -/
structure OwnInv (S : Summary) (C : Ctx) (h : Heap) (D : Nat → Prop) : Prop where
  next_ge : C.n₀ ≤ h.next
  d_safe : ∀ c, D c → C.Safe c ∧ c < h.next
  d_closed : ∀ c, D c → ∀ k r, h.cell c k = .ref r → D r
  closed_attrs : ∀ a, S.closedAttrs.contains a = true → ∀ r, h.cell C.self a = .ref r → D r
  safe_attrs : ∀ a, S.safeAttrs.contains a = true → ∀ r, h.cell C.self a = .ref r → C.Safe r ∧ r < h.next

theorem OwnInv.congr {S S' : Summary} {C : Ctx} {h : Heap} {D : Nat → Prop} (hi : OwnInv S C h D)
    (hc : S'.closedAttrs = S.closedAttrs) (hs : S'.safeAttrs = S.safeAttrs) : OwnInv S' C h D :=
  ⟨hi.next_ge, hi.d_safe, hi.d_closed, hc ▸ hi.closed_attrs, hs ▸ hi.safe_attrs⟩

theorem OwnInv.sim_init {S : Summary} {C : Ctx} {s : St} {D : Nat → Prop} (hent : OwnInv S C s.h D) :
    Sim C (Abs.init S) D s := by
  refine ⟨fun x => ?_, fun a => ?_, hent.d_safe, hent.d_closed, hent.next_ge⟩
  · simp only [clsPath, Abs.init, Nat.zero_testBit]; exact okVal_none
  · simp only [clsPath, Abs.init, testBit_maskOf, Nat.zero_testBit, Nat.testBit_or]
    refine ⟨fun hsc r hv => ?_, fun hcl r hv => hent.closed_attrs a hcl r hv, fun hf => nomatch hf⟩
    rcases Bool.or_eq_true _ _ ▸ hsc with hsc | hsc
    · exact hent.safe_attrs a hsc r hv
    · exact hent.d_safe r (hent.closed_attrs a hsc r hv)

theorem OwnInv.of_exitOK {S : Summary} {C : Ctx} {A : Abs} {s : St} {D : Nat → Prop} (hs : Sim C A D s)
    (hex : exitOK S A = true) : OwnInv S C s.h D := by
  rw [exitOK, Bool.and_eq_true] at hex
  refine ⟨hs.next_ge, hs.d_safe, hs.d_closed, fun a ha r hv => ?_, fun a ha r hv => ?_⟩
  · exact (hs.attr a).closed (List.all_eq_true.mp hex.1 a (List.contains_iff_mem.mp ha)) r hv
  · rcases Bool.or_eq_true _ _ ▸ List.all_eq_true.mp hex.2 a (List.contains_iff_mem.mp ha) with hb | hb
    · exact (hs.attr a).mutable hb r hv
    · exact hs.d_safe r ((hs.attr a).closed hb r hv)

/-- **Frame theorem for one call.**  If the summary of a method satisfies the decidable predicate
`FrameOK`, then running it — on any heap, with any arguments, any oracle and any inner strategies
that respect their contract — changes, among the cells below `C.n₀` (those that existed when the
caller last looked), at most: cells privately owned by `self` (`O`), fields inner calls are entitled
to write (`W`), and non-parameter attributes of `self`.  On exit — normal or by an exception — the ownership facts hold again. -/
theorem frameOK_run (S : Summary) (hok : FrameOK S = true) (C : Ctx) (hC : C.WF) (hps : C.ps = S.params)
    (inner : Nat → Heap → Heap) (hin : InnerOK C inner) (ω : Ora) (s : St) (hlive : s.dead = false)
    (D₀ : Nat → Prop) (hent : OwnInv S C s.h D₀) :
    FrameRel C s.h (run C.self inner ω S.body s).h ∧
      ∃ D', OwnInv S C (run C.self inner ω S.body s).h D' := by
  rw [frameOK_eq, Bool.and_eq_true, Option.all_eq_true] at hok
  obtain ⟨hok1, hex⟩ := hok
  obtain ⟨D', hpost, hfr⟩ := prog_sound hC S hps.symm inner hin ω S.body hent.sim_init hlive hok1
  refine ⟨hfr, D', ?_⟩
  cases hd : (run C.self inner ω S.body s).dead with
  | true => obtain ⟨A', hs', hex'⟩ := hpost.1 hd; exact .of_exitOK hs' hex'
  | false => obtain ⟨A', hr, hs'⟩ := hpost.2 hd; exact .of_exitOK hs' (hex A' hr)

theorem not_touch {C : Ctx} {r k : Nat} (hO : ¬ C.O r) (hW : ¬ C.W r k)
    (hs : r = C.self → C.ps.contains k = true) : ¬ C.Touch r k := by
  rintro (h | h | h)
  · exact hO h
  · exact hW h
  · rw [hs h.1] at h; cases h.2

/-- What `FrameRel` means for the caller: `get_params()` of the object is unchanged; every cell
below `n₀` that is neither the object itself, nor owned by it, nor an inner strategy object is
completely unchanged (the caller's classifier / regressor / ensemble / discriminator, every argument
object, every object referenced by a parameter); parameters of inner strategy objects are unchanged. -/
theorem frameRel_caller_view {C : Ctx} (hC : C.WF) {h h' : Heap} (hfr : FrameRel C h h') :
    getParams h' C.self C.ps = getParams h C.self C.ps ∧
    (∀ r, r < C.n₀ → r ≠ C.self → ¬ C.O r → (∀ k, ¬ C.W r k) → h'.cell r = h.cell r) ∧
    (∀ r k, r < C.n₀ → r ≠ C.self → ¬ C.O r → ¬ C.W r k → h'.cell r k = h.cell r k) := by
  have hother : ∀ r k, r < C.n₀ → r ≠ C.self → ¬ C.O r → ¬ C.W r k → h'.cell r k = h.cell r k :=
    fun r k hlt hne hO hW => hfr.2 r k hlt (not_touch hO hW fun e => absurd e hne)
  refine ⟨List.map_congr_left fun k hk => ?_, fun r hlt hne hO hW => funext fun k => hother r k hlt hne hO (hW k),
    hother⟩
  have hk' := List.contains_iff_mem.mpr hk
  exact hfr.2 C.self k hC.self_lt
    (not_touch hC.O_self (fun hw => by rw [hC.W_self k hw] at hk'; cases hk') fun _ => hk')

/-- **C05, main clause.**  A query whose summary is `FrameOK` leaves `get_params()` of the strategy
unchanged (hence `clone`, which only reads `get_params`, and pickling of the parameter values behave
as before), leaves every caller object untouched and leaves the parameters of inner strategies
unchanged — for all heaps, arguments, oracles. -/
theorem frameOK_preserves_params (S : Summary) (hok : FrameOK S = true) (C : Ctx) (hC : C.WF)
    (hps : C.ps = S.params) (inner : Nat → Heap → Heap) (hin : InnerOK C inner) (ω : Ora) (s : St)
    (hlive : s.dead = false) (D₀ : Nat → Prop) (hent : OwnInv S C s.h D₀) :
    getParams (run C.self inner ω S.body s).h C.self S.params = getParams s.h C.self S.params ∧
    (∀ r, r < C.n₀ → r ≠ C.self → ¬ C.O r → (∀ k, ¬ C.W r k) →
        (run C.self inner ω S.body s).h.cell r = s.h.cell r) ∧
    (∀ r k, r < C.n₀ → r ≠ C.self → ¬ C.O r → ¬ C.W r k →
        (run C.self inner ω S.body s).h.cell r k = s.h.cell r k) :=
  hps ▸ frameRel_caller_view hC (frameOK_run S hok C hC hps inner hin ω s hlive D₀ hent).1

/-- One public call of the object: which method (its body), with which arguments and oracle. -/
structure Call where
  body : Prog
  env : Nat → Val
  ω : Ora

def runCalls (self : Nat) (inner : Nat → Heap → Heap) : List Call → Heap → Heap
  | [], h => h
  | c :: cs, h => runCalls self inner cs (run self inner c.ω c.body ⟨h, c.env, 0, false⟩).h

/-- **Closed under sequencing** (any number of consecutive queries / any sequence of public calls
whose summaries are all `FrameOK` with the same parameter and ownership declarations): the frame
relation w.r.t. the heap before the first call holds after the last one. -/
theorem frameOK_sequence (ps cl sf : List Nat) (inner : Nat → Heap → Heap) (C : Ctx) (hC : C.WF)
    (hps : C.ps = ps) (hin : InnerOK C inner) (calls : List Call)
    (hok : ∀ c ∈ calls, FrameOK ⟨ps, cl, sf, c.body⟩ = true) :
    ∀ (h : Heap) (D₀ : Nat → Prop), OwnInv ⟨ps, cl, sf, Prog.skip⟩ C h D₀ →
      FrameRel C h (runCalls C.self inner calls h) := by
  induction calls with
  | nil => intro h _ _; exact FrameRel.refl _ _
  | cons c cs ih =>
    intro h D₀ hent
    obtain ⟨hfr, D', hex⟩ := frameOK_run ⟨ps, cl, sf, c.body⟩ (hok c (List.mem_cons_self ..)) C hC hps
      inner hin c.ω ⟨h, c.env, 0, false⟩ rfl D₀ (hent.congr rfl rfl)
    exact hfr.trans (ih (fun c' hc' => hok c' (List.mem_cons_of_mem _ hc')) _ D' (hex.congr rfl rfl))

/-- The heap transformer "call method `S'` on the strategy object at `r`" (objects that are not
strategy objects have no such method: nothing happens). -/
def asInner (isStrat : Nat → Bool) (S' : Summary) (inner' : Nat → Heap → Heap) (ω : Ora)
    (env : Nat → Val) : Nat → Heap → Heap :=
  fun r h => if isStrat r then (run r inner' ω S'.body ⟨h, env, 0, false⟩).h else h

/-- If the inner strategy's own summary is `FrameOK` (stateless: no owned attributes), the inner
strategy objects are old objects not owned by the outer one, and the outer context entitles inner
calls to write exactly non-parameter attributes of inner strategy objects, then calling it respects
the contract `InnerOK` that `frameOK_run` assumes — whatever *its* inner calls do, as long as they
respect the same contract.  Iterating this covers wrappers of wrappers to any depth. -/
theorem frameOK_closed_under_callQuery (S' : Summary) (hok' : FrameOK S' = true)
    (hcl : S'.closedAttrs = []) (hsf : S'.safeAttrs = []) (C : Ctx) (isStrat : Nat → Bool)
    (hlt : ∀ r, isStrat r = true → r < C.n₀)
    (hgrant : ∀ r k, isStrat r = true → S'.params.contains k = false → C.W r k)
    (hdeny : ∀ r k, isStrat r = true → C.W r k → S'.params.contains k = false)
    (hWlt : ∀ c k, C.W c k → c < C.n₀)
    (inner' : Nat → Heap → Heap) (hin' : InnerOK C inner') (ω : Ora) (env : Nat → Val) :
    InnerOK C (asInner isStrat S' inner' ω env) := by
  intro r h hle
  unfold asInner
  cases hs : isStrat r with
  | false => exact ⟨Nat.le_refl _, fun _ _ _ _ => rfl⟩
  | true =>
    simp only [if_true]
    let C' : Ctx := { n₀ := h.next, self := r, ps := S'.params, O := fun _ => False, W := C.W }
    have hC' : C'.WF :=
      ⟨Nat.lt_of_lt_of_le (hlt r hs) hle, fun hf => hf,
       fun c k hw => Nat.lt_of_lt_of_le (hWlt c k hw) hle, fun _ _ _ hf => hf,
       fun k hw => hdeny r k hs hw⟩
    have hinC' : InnerOK C' inner' := by
      intro r' hp hle'
      exact hin' r' hp (Nat.le_trans hle hle')
    have hent : OwnInv S' C' (St.mk h env 0 false).h (fun _ => False) :=
      ⟨Nat.le_refl _, fun _ hf => hf.elim, fun _ hf => hf.elim,
       fun a ha => (by rw [hcl] at ha; cases ha), fun a ha => (by rw [hsf] at ha; cases ha)⟩
    obtain ⟨hfr, _⟩ := frameOK_run S' hok' C' hC' rfl inner' hinC' ω ⟨h, env, 0, false⟩ rfl _ hent
    -- a field outside `C.W` is outside `C'.Touch`: `C'` owns nothing, and a non-parameter attribute of `r` is in `C.W` (`hgrant`)
    exact ⟨hfr.1, fun c k hc hw => hfr.2 c k hc (not_touch (C := C') id hw fun e =>
      (Bool.not_eq_false _).mp fun hf => hw (e ▸ hgrant r k hs hf))⟩

/-- `clf = clone(clf).fit(X, y); self.fitted_ = {}`  (locals: 0 = clf, 1 = tmp; attributes: 0 =
parameter `method`, 1 = fitted attribute). -/
def sampleGood : Summary :=
  { params := [0], closedAttrs := [], safeAttrs := [],
    body := .seq (.bind 1 (.deep (.loc 0))) (.seq (.callFit (.loc 1)) (.seq (.bind 0 (.alias (.loc 1)))
      (.seq (.writeAttr 1 (.fresh [])) .skip))) }

/-- `if self.method is None: self.method = "x"` -/
def sampleParamWrite : Summary :=
  { params := [0], closedAttrs := [], safeAttrs := [],
    body := .ite (.seq (.writeAttr 0 (.fresh [])) .skip) .skip .skip }

/-- `clf.fit(X, y)` on the caller's classifier. -/
def sampleFitArg : Summary :=
  { params := [0], closedAttrs := [], safeAttrs := [], body := .seq (.callFit (.loc 0)) .skip }

/-- `d = self.metric_dict; d["gamma"] = g` (alias of a parameter, mutated). -/
def sampleAliasMutation : Summary :=
  { params := [0], closedAttrs := [], safeAttrs := [],
    body := .seq (.bind 0 (.alias (.attr 0))) (.seq (.mutate (.loc 0) []) .skip) }

/-- same with a copy: fine -/
def sampleCopyMutation : Summary :=
  { params := [0], closedAttrs := [], safeAttrs := [],
    body := .seq (.bind 0 (.copy (.attr 0))) (.seq (.mutate (.loc 0) []) .skip) }

example : FrameOK sampleGood = true := by decide +kernel
example : FrameOK sampleCopyMutation = true := by decide +kernel
example : FrameOK sampleParamWrite = false := by decide +kernel
example : FrameOK sampleFitArg = false := by decide +kernel
example : FrameOK sampleAliasMutation = false := by decide +kernel

/-- the hypotheses of `frameOK_preserves_params` are satisfiable: a two-cell heap (cell 0 = the
strategy, cell 1 = the caller's classifier), no owned cells, no inner strategies -/
example : ∃ (C : Ctx) (s : St), C.WF ∧ C.ps = sampleGood.params ∧ InnerOK C (fun _ h => h) ∧
    OwnInv sampleGood C s.h (fun _ => False) ∧ s.env 0 = .ref 1 :=
  ⟨{ n₀ := 2, self := 0, ps := [0], O := fun _ => False, W := fun _ _ => False },
   ⟨⟨fun _ _ => .atom 7, 2⟩, fun _ => .ref 1, 0, false⟩,
   ⟨by decide, fun h => h, fun _ _ h => h.elim, fun _ _ h => h.elim, fun _ h => h.elim⟩, rfl,
   fun _ _ _ => ⟨Nat.le_refl _, fun _ _ _ _ => rfl⟩,
   ⟨Nat.le_refl _, fun _ h => h.elim, fun _ h => h.elim, fun _ h => (by cases h), fun _ h => (by cases h)⟩,
   rfl⟩

def ω₁ : Ora := { coin := fun _ => true, pick := fun _ _ => .atom 1 }
def s₀ : St := ⟨⟨fun _ _ => .atom 7, 2⟩, fun _ => .ref 1, 0, false⟩

/-- A summary that is not `FrameOK` really can change `get_params` in the semantics: the lazily
resolved default of `sampleParamWrite` (the pattern of the six strategies of DESIGN Part II §5). -/
theorem paramWrite_counterexample :
    getParams (run 0 (fun _ h => h) ω₁ sampleParamWrite.body s₀).h 0 sampleParamWrite.params
      ≠ getParams s₀.h 0 sampleParamWrite.params := by decide +kernel

/-- … and fitting the caller's classifier changes the caller's object. -/
theorem fitArg_counterexample :
    (run 0 (fun _ h => h) ω₁ sampleFitArg.body s₀).h.cell 1 0 ≠ s₀.h.cell 1 0 := by decide +kernel

end Ska.C05
