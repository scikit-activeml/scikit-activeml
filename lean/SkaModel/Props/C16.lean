import SkaModel.Lemmas.Label

/-!
# C16 — label encoding round-trips and missing-label predicates agree

Property theorems; helper lemmas about the model are in `SkaModel/Lemmas/Label.lean`.

Statements quantify over every label array (`Arr α`: dtype class, shape, row-major contents over
`Lbl α` = number | NaN | string | None with `α` an arbitrary linear order), every sentinel, every
class list.  The encoder theorems are stated for an arbitrary linearly ordered label type `γ`
(`Lbl α` is one: `Lbl.instLinearOrder`) and an arbitrary "is missing" test, and then specialised to
`ExtLabelEncoder` on `Lbl α`.

Known deviation of the real code (reported as a finding by the correspondence, not provable here
because strings are abstract codes in the model): scikit-learn's `LabelEncoder.transform` casts `y` to
`classes_.dtype` before looking for unknown labels, so a string longer than the longest class (or a
float with integer classes) is silently truncated to a class instead of raising — the real
`transform` violates `transform_unseen_raises` on such inputs.
-/

namespace Ska.C16
open Ska Ska.Label

variable {α : Type} [LinearOrder α]

/-- **`is_labeled` is the exact complement of `is_unlabeled`**: same error behaviour, same length,
every entry negated. -/
theorem isLabeled_compl (isList : Bool) (mlArg : Option (Lbl α)) (a : Arr α) :
    (∀ e, isUnlabeledArr isList mlArg a = .error e ↔ isLabeledArr isList mlArg a = .error e) ∧
    (∀ mu, isUnlabeledArr isList mlArg a = .ok mu →
      ∃ ml, isLabeledArr isList mlArg a = .ok ml ∧ ml.length = mu.length ∧
        ∀ i, ∀ h : i < mu.length, ∀ h' : i < ml.length, ml[i] = !mu[i]) := by
  unfold isLabeledArr
  cases isUnlabeledArr isList mlArg a with
  | error e => exact ⟨fun _ => Iff.rfl, nofun⟩
  | ok m =>
    refine ⟨fun _ => ⟨nofun, nofun⟩, fun mu hmu => ?_⟩
    cases hmu
    exact ⟨m.map not, rfl, List.length_map _, fun i h h' => List.getElem_map _⟩

/-- Acceptance table of `check_missing_label` as the predicates apply it (non-empty array, valid
shape, ndarray input): numbers go with a number / NaN / None sentinel, strings with a string / None
sentinel, object arrays with None only. -/
def Supported : ArrKind → Lbl α → Prop
  | .number, .num _ => True
  | .number, .nanv => True
  | .number, .none_ => True
  | .string, .str _ => True
  | .string, .none_ => True
  | .object, .none_ => True
  | _, _ => False

omit [LinearOrder α] in
/-- The table says what the two dtype guards of `is_unlabeled` let through. -/
theorem supported_iff (k : ArrKind) (ml : Lbl α) :
    Supported k ml ↔ compat (appendKind k ml) ml = true ∧ (k = .number && ml.isChar) = false := by
  cases k <;> cases ml <;> simp [Supported, compat, appendKind, Lbl.isChar]

/-- `is_unlabeled` on a non-empty, well-shaped ndarray succeeds exactly on the supported
(dtype class, sentinel) combinations; otherwise it raises `TypeError` (the only other outcome is the
unmodelled number-array/string-sentinel corner). -/
theorem isUnlabeled_accepts_iff (ml : Lbl α) (a : Arr α) (hr : a.rows ≠ 0) (hc : a.cols ≠ some 0) :
    ((∃ m, isUnlabeledArr false (some ml) a = .ok m) ↔ Supported a.kind ml) ∧
    (¬ Supported a.kind ml → isUnlabeledArr false (some ml) a = .error .typeError ∨
        isUnlabeledArr false (some ml) a = .error .unsupported) := by
  simp only [isUnlabeledArr, checkMl, if_neg hr, if_neg hc, Bool.false_and, Bool.false_eq_true,
    if_false, supported_iff]
  cases compat (appendKind a.kind ml) ml <;> cases (decide (a.kind = .number) && ml.isChar) <;> simp

/-- An unsupported Python type as sentinel is rejected with `TypeError`, whatever the array. -/
theorem isUnlabeled_bad_sentinel (isList : Bool) (a : Arr α) :
    isUnlabeledArr isList none a = .error .typeError := rfl

/-- **`is_unlabeled` marks precisely the entries equal to the sentinel** (for the NaN sentinel:
precisely the NaN entries), on every array on which it succeeds. -/
theorem isUnlabeled_iff_sentinel (isList : Bool) (ml : Lbl α) (a : Arr α) (mu : List Bool)
    (h : isUnlabeledArr isList (some ml) a = .ok mu) (hr : a.rows ≠ 0) :
    mu.length = a.flat.length ∧
    ∀ i, ∀ hi : i < a.flat.length, ∀ hi' : i < mu.length, (mu[i] = true ↔ a.flat[i] = ml) := by
  obtain rfl := isUnlabeledArr_ok h hr
  exact ⟨List.length_map _, fun i hi hi' => by rw [List.getElem_map, isMissing_iff]⟩

/-- Empty input (`len(y) == 0`, any number of columns): the empty mask, for every supported sentinel type. -/
theorem isUnlabeled_empty (isList : Bool) (ml : Lbl α) (a : Arr α) (hr : a.rows = 0) :
    isUnlabeledArr isList (some ml) a = .ok [] := by
  simp [isUnlabeledArr, checkMl, hr]

/-- **1-d: the index functions enumerate exactly the marked positions, in increasing order.** -/
theorem indices_enumerate (m : List Bool) :
    (argwhere1 m).Pairwise (· < ·) ∧ ∀ i, i ∈ argwhere1 m ↔ m[i]? = some true :=
  ⟨whereFrom_pairwise 0 m, mem_whereFrom_zero m⟩

/-- **2-d: `(row, column)` pairs of exactly the marked positions, in lexicographic (row-major) order.** -/
theorem indices_enumerate_2d (rows : List (List Bool)) :
    (argwhere2 rows).Pairwise lexLt ∧
    ∀ i j, (i, j) ∈ argwhere2 rows ↔ ∃ row, rows[i]? = some row ∧ row[j]? = some true :=
  ⟨argwhere2From_pairwise 0 rows, mem_argwhere2 rows⟩

/-- The rows used for a 2-d result are the row-major chunks of the flat mask: entry `(i, j)` of the
chunked mask is entry `i·c + j` of the flat one. -/
theorem rows_are_row_major (c r : Nat) (m : List Bool) (i j : Nat) (hi : i < r) (hj : j < c) :
    ((rowsOf c r m)[i]?.bind (·[j]?)) = m[i * c + j]? := by
  rw [getElem?_rowsOf c r m i hi, Option.bind_some, getElem?_block, if_pos hj]

/-- `labeled_indices` and `unlabeled_indices` partition the positions of the array. -/
theorem indices_partition (m : List Bool) (i : Nat) (hi : i < m.length) :
    (i ∈ argwhere1 (m.map not) ↔ i ∉ argwhere1 m) := by
  rw [argwhere1, argwhere1, mem_whereFrom_zero, mem_whereFrom_zero, List.getElem?_map,
    List.getElem?_eq_getElem hi]
  generalize m[i] = b
  cases b <;> decide

/-- The API functions are these enumerations of the predicate masks (1-d). -/
theorem unlabeledIndices1_spec (isList : Bool) (ml : Lbl α) (a : Arr α) (idx : List Nat)
    (h : unlabeledIndices1 isList (some ml) a = .ok idx) (hr : a.rows ≠ 0) :
    idx.Pairwise (· < ·) ∧ ∀ i, i ∈ idx ↔ a.flat[i]? = some ml := by
  obtain rfl := unlabeledIndices1_ok h hr
  refine ⟨whereFrom_pairwise 0 _, fun i => ?_⟩
  simp only [mem_argwhere1_map, isMissing_iff, exists_eq_right]

theorem labeledIndices1_spec (isList : Bool) (ml : Lbl α) (a : Arr α) (idx : List Nat)
    (h : labeledIndices1 isList (some ml) a = .ok idx) (hr : a.rows ≠ 0) :
    idx.Pairwise (· < ·) ∧ ∀ i, i ∈ idx ↔ ∃ x, a.flat[i]? = some x ∧ x ≠ ml := by
  obtain rfl := labeledIndices1_ok h hr
  refine ⟨whereFrom_pairwise 0 _, fun i => ?_⟩
  simp only [mem_argwhere1_map, notMissing_iff]

section Generic
variable {γ : Type} [LinearOrder γ]

/-- `classes_` is strictly increasing (sorted, no duplicates) and has exactly the members of the given
class list / of the labels present in `y`. -/
theorem classes_sorted (l : List γ) :
    (sortDedup l).Pairwise (· < ·) ∧ ∀ x, x ∈ sortDedup l ↔ x ∈ l :=
  ⟨sortDedup_pairwise l, mem_sortDedup l⟩

/-- **`transform` maps the sorted classes to `0..K-1` and missing labels to `-1`**: on success the
result has the length of `y`; an entry is `-1` exactly when it is missing; every other entry is the
position `c < K` of its label in the sorted class list. -/
theorem transform_range (l : List γ) (missing : γ → Bool) (y : List γ) (es : List Int)
    (h : transformFlat (sortDedup l) missing y = .ok es) :
    es.length = y.length ∧
    ∀ i, ∀ hi : i < y.length, ∀ hi' : i < es.length,
      (missing y[i] = true → es[i] = -1) ∧
      (missing y[i] = false → ∃ c : Nat, es[i] = (c : Int) ∧ c < (sortDedup l).length ∧
          (sortDedup l)[c]? = some y[i]) :=
  transformFlat_spec (sortDedup l) missing y es h

/-- The encoding is **order preserving** on labeled entries: `y[i] < y[j] ↔ code i < code j`
(this is "sorted classes ↦ 0..K-1"). -/
theorem transform_monotone (l : List γ) (missing : γ → Bool) (y : List γ) (es : List Int)
    (h : transformFlat (sortDedup l) missing y = .ok es)
    (i j : Nat) (hi : i < y.length) (hj : j < y.length) (hi' : i < es.length) (hj' : j < es.length)
    (hmi : missing y[i] = false) (hmj : missing y[j] = false) :
    y[i] < y[j] ↔ es[i] < es[j] := by
  obtain ⟨-, hget⟩ := transformFlat_spec _ missing y es h
  obtain ⟨c, hc, -, hgc⟩ := (hget i hi hi').2 hmi
  obtain ⟨d, hd, -, hgd⟩ := (hget j hj hj').2 hmj
  rw [hc, hd, Int.ofNat_lt]
  exact sorted_getElem?_lt_iff (sortDedup_pairwise l) hgc hgd

/-- Encoding the class list itself yields `0, 1, …, K-1`: the `c`-th smallest class gets code `c`. -/
theorem transform_classes (l : List γ) (missing : γ → Bool) (c : Nat) (hc : c < (sortDedup l).length)
    (hm : missing (sortDedup l)[c] = false) :
    encode1 (sortDedup l) missing (sortDedup l)[c] = .ok (c : Int) := by
  rw [encode1_of_not_missing _ hm, indexOf?_getElem _ ((sortDedup_pairwise l).imp ne_of_lt) c hc]
  rfl

/-- **`transform` raises on an unseen label**: if some entry is neither missing nor a class, the
result is the error `unseen` — and conversely `transform` succeeds whenever every entry is missing or
a class, and `unseen` is the only error it can produce. -/
theorem transform_unseen_raises (cls : List γ) (missing : γ → Bool) (y : List γ) :
    ((∃ x ∈ y, missing x = false ∧ x ∉ cls) → transformFlat cls missing y = .error .unseen) ∧
    ((∀ x ∈ y, missing x = true ∨ x ∈ cls) → ∃ es, transformFlat cls missing y = .ok es) := by
  rw [transformFlat_eq_mapE]
  cases h : mapE (encode1 cls missing) y with
  | error e =>
    obtain ⟨z, hz, hze⟩ := mapE_error h
    obtain ⟨rfl, hm, hc⟩ := encode1_eq_error_iff.mp hze
    refine ⟨fun _ => rfl, fun hall => ?_⟩
    rcases hall z hz with h1 | h1
    · rw [hm] at h1; cases h1
    · exact absurd h1 hc
  | ok es =>
    refine ⟨?_, fun _ => ⟨es, rfl⟩⟩
    rintro ⟨x, hx, hm, hc⟩
    obtain ⟨i, hi, rfl⟩ := List.getElem_of_mem hx
    obtain ⟨_, he⟩ := (mapE_ok h).2 i hi
    rw [encode1_unseen cls missing _ hm hc] at he
    cases he

/-- **Round trip**: `inverse_transform(transform(y)) = y` for every `y` on which `transform` succeeds,
provided the missing test recognises exactly the sentinel (which `isUnlabeled_iff_sentinel` shows for
`is_unlabeled`). -/
theorem inverse_transform_roundtrip (cls : List γ) (missing : γ → Bool) (ml : γ) (y : List γ)
    (es : List Int) (hmiss : ∀ x, missing x = true ↔ x = ml)
    (h : transformFlat cls missing y = .ok es) :
    decodeFlat cls ml es = .ok y := by
  rw [decodeFlat_eq_mapE]
  rw [transformFlat_eq_mapE] at h
  exact mapE_mapE h fun x _ c => decode1_encode1 cls missing ml hmiss x c

/-- `inverse_transform` raises on a code outside `-1..K-1`. -/
theorem inverse_out_of_range (cls : List γ) (ml : γ) (e : Int)
    (he : e < -1 ∨ (cls.length : Int) ≤ e) : decode1 cls ml e = .error .unseen := by
  rcases he with he | he
  · exact decode1_of_lt_neg_one cls ml he
  · obtain ⟨c, rfl⟩ := Int.eq_ofNat_of_zero_le (Int.le_trans (Int.natCast_nonneg _) he)
    rw [decode1_natCast, List.getElem?_eq_none (Int.ofNat_le.mp he)]

end Generic

/-- `fit` stores the sorted, de-duplicated classes (given, or the labels present in `y`) and the
sentinel. -/
theorem encoderFit_classes (mlArg : Option (Lbl α)) (classes : Option (ArrKind × List (Lbl α)))
    (y : Arr α) (f : Fitted α) (h : encoderFit mlArg classes y = .ok f) :
    mlArg = some f.ml ∧ f.classes.Pairwise (· < ·) ∧
    (∀ kc cls, classes = some (kc, cls) → (∀ x, x ∈ f.classes ↔ x ∈ cls) ∧ f.ml ∉ f.classes) ∧
    (classes = none → ∀ x, x ∈ f.classes ↔ (x ∈ y.flat ∧ x ≠ f.ml)) := by
  obtain ⟨hml, hc, hcls⟩ := encoderFit_ok h
  refine ⟨hml, hcls ▸ sortDedup_pairwise _, ?_, ?_⟩
  · rintro kc cls rfl
    rw [hcls]
    exact ⟨mem_sortDedup cls,
      fun hin => not_mem_of_checkClassifierParams_ok hc ((mem_sortDedup cls _).mp hin)⟩
  · rintro rfl x
    rw [hcls]
    simp only [Option.elim_none, mem_sortDedup, List.mem_filter, notMissing_iff]

/-- **Refitting is history-free**: the outcome of a `fit` on an encoder object, and — when it
succeeds — the state every later `transform` / `inverse_transform` works with, depend only on the
arguments of that last `fit`, not on anything fitted or decoded before (`prev`, `prev'` arbitrary).
The correspondence checks exactly this on the implementation: `harness/props/c16.py` re-uses one
encoder object over sequences of `set_params → fit / fit_transform → transform → inverse_transform`
steps and compares every step with this history-free model of that step alone, so state surviving a
refit (e.g. a cached decoding table) shows up as a disagreement and a failed round trip. -/
theorem encoder_refit_history_free (prev prev' : Option (Fitted α)) (mlArg : Option (Lbl α))
    (classes : Option (ArrKind × List (Lbl α))) (y : Arr α) :
    (refit prev mlArg classes y).1 = (refit prev' mlArg classes y).1 ∧
    (refit prev mlArg classes y).1 = encoderFit mlArg classes y ∧
    (∀ f, encoderFit mlArg classes y = .ok f →
      (refit prev mlArg classes y).2 = some f ∧ (refit prev' mlArg classes y).2 = some f) ∧
    (∀ e, encoderFit mlArg classes y = .error e → (refit prev mlArg classes y).2 = prev) := by
  unfold refit
  cases h : encoderFit mlArg classes y with
  | ok f => simp
  | error e => simp

/-- **`ExtLabelEncoder`: `inverse_transform(transform(y))` reproduces `y`** for every array `y`
(1-d or 2-d, flat row-major) on which `transform` succeeds. -/
theorem encoder_roundtrip (f : Fitted α) (y : Arr α) (es : List Int)
    (h : encoderTransform f y = .ok es) : encoderInverse f es = .ok y.flat :=
  inverse_transform_roundtrip f.classes (isMissing f.ml) f.ml y.flat es (isMissing_iff f.ml)
    (encoderTransform_ok h)

/-- **`ExtLabelEncoder.transform`**: codes are `-1` exactly at the entries equal to the sentinel and
positions in the sorted `classes_` elsewhere. -/
theorem encoder_transform_range (f : Fitted α) (y : Arr α) (es : List Int)
    (h : encoderTransform f y = .ok es) :
    es.length = y.flat.length ∧
    ∀ i, ∀ hi : i < y.flat.length, ∀ hi' : i < es.length,
      (es[i] = -1 ↔ y.flat[i] = f.ml) ∧
      (y.flat[i] ≠ f.ml → ∃ c : Nat, es[i] = (c : Int) ∧ f.classes[c]? = some y.flat[i]) := by
  obtain ⟨hl, hr⟩ := transformFlat_spec _ _ _ _ (encoderTransform_ok h)
  refine ⟨hl, fun i hi hi' => ?_⟩
  obtain ⟨h1, h2⟩ := hr i hi hi'
  rw [Ne, ← isMissing_iff f.ml, Bool.not_eq_true]
  cases hm : isMissing f.ml y.flat[i] with
  | true => exact ⟨iff_of_true (h1 hm) rfl, nofun⟩
  | false =>
    obtain ⟨c, hc, -, hg⟩ := h2 hm
    exact ⟨iff_of_false (hc ▸ natCast_ne_neg_one c) nofun, fun _ => ⟨c, hc, hg⟩⟩

/-- **`ExtLabelEncoder.transform` raises `ValueError` on a label that is neither a class nor the
sentinel** (on arrays the missing-label check accepts). -/
theorem encoder_transform_unseen (f : Fitted α) (y : Arr α) (m : List Bool)
    (hs : ¬ (y.rows ≠ 0 ∧ y.cols = some 0))
    (hu : isUnlabeledArr false (some f.ml) y = .ok m)
    (x : Lbl α) (hx : x ∈ y.flat) (hne : x ≠ f.ml) (hc : x ∉ f.classes) :
    encoderTransform f y = .error .unseen := by
  unfold encoderTransform
  rw [if_neg (by simpa using hs)]
  simp only [hu]
  refine (transform_unseen_raises f.classes (isMissing f.ml) y.flat).1 ⟨x, hx, ?_, hc⟩
  exact Bool.eq_false_iff.mpr (mt (isMissing_iff f.ml x).mp hne)

/-! ## Non-vacuity: concrete instances -/

example : isUnlabeledArr (α := Int) false (some .nanv) ⟨.number, 3, none, [.num 0, .nanv, .num 2]⟩
    = .ok [false, true, false] := by decide +kernel

example : isUnlabeledArr (α := Int) false (some (.num (-1))) ⟨.number, 2, some 2, [.num 0, .num (-1), .num (-1), .num 5]⟩
    = .ok [false, true, true, false] := by decide +kernel

example : isUnlabeledArr (α := Int) false (some .nanv) ⟨.string, 1, none, [.str 0]⟩ = .error .typeError := by
  decide +kernel

example : unlabeledIndices2 (α := Int) false (some .none_) ⟨.object, 2, some 2, [.str 0, .none_, .none_, .str 5]⟩ 2
    = .ok [(0, 1), (1, 0)] := by decide +kernel

example : ∃ f, encoderFit (α := Int) (some (.str 9)) (some (.string, [.str 2, .str 0, .str 1]))
      ⟨.string, 1, none, [.str 0]⟩ = .ok f ∧
    encoderTransform f ⟨.string, 3, none, [.str 1, .str 9, .str 2]⟩ = .ok [1, -1, 2] ∧
    encoderInverse f [1, -1, 2] = .ok [.str 1, .str 9, .str 2] ∧
    encoderTransform f ⟨.string, 1, none, [.str 7]⟩ = .error .unseen :=
  ⟨⟨[.str 0, .str 1, .str 2], .str 9, .string⟩, by decide +kernel⟩

end Ska.C16
