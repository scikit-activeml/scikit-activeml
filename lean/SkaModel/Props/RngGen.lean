import SkaModel.Lemmas.RngGen

/-! # Property theorems about the model translated from the current source of `check_random_state`

`Gen/RngGen.lean` is rewritten by `harness/translate/pyrng.py` from `skactiveml/utils/_validation.py` on every run.  The theorems
below are about *that* text (C06: with `random_state` given, the per-call generator is private to the call and a function of
`(random_state, multiplier)` alone). -/

namespace Ska.RngGenProps
open Ska Ska.Rng Ska.PyRng Ska.Gen.Rng

/-- the translated function computes the hand-written `checkRandomState` (on which `Props/C06.lean` is built), for all inputs -/
theorem gen_check_random_state_eq (mk : Nat → Stream) (seed : Seed) (mult : Option Nat) (globS : Stream) (globCur : Nat) :
    toCrs seed (check_random_state mk (globObj globS globCur) (absSeed seed) mult) =
      checkRandomState mk seed mult globS globCur :=
  check_random_state_eq mk seed mult globS globCur

/-- **privacy**: with `random_state` given (an integer or an instance) and a multiplier, the generator the translated function
returns is not an object the caller owns, and the call takes no draw from the caller's instance or from numpy's global generator -/
theorem gen_crs_private (mk : Nat → Stream) (seed : Seed) (mult : Nat) (globS : Stream) (globCur : Nat)
    (hs : seed.given = true) :
    (check_random_state mk (globObj globS globCur) (absSeed seed) (some mult)).1.callers = false ∧
    (check_random_state mk (globObj globS globCur) (absSeed seed) (some mult)).2 = 0 := by
  cases seed with
  | none => cases hs
  | int n => exact ⟨rfl, rfl⟩
  | inst st cur => exact ⟨rfl, rfl⟩

/-- **determinism**: what it returns is a function of `(random_state, multiplier)` alone — the state of numpy's global generator
is irrelevant -/
theorem gen_crs_deterministic (mk : Nat → Stream) (seed : Seed) (mult : Nat) (g g' : Stream) (c c' : Nat)
    (hs : seed.given = true) :
    (check_random_state mk (globObj g c) (absSeed seed) (some mult)).1 =
      (check_random_state mk (globObj g' c') (absSeed seed) (some mult)).1 := by
  cases seed with
  | none => cases hs
  | int n => rfl
  | inst st cur => rfl

/-- the derived seed, spelled out: one draw of (a copy of) the given generator times the multiplier, modulo `2^31` -/
theorem gen_crs_seed (mk : Nat → Stream) (st : Stream) (cur mult : Nat) (globS : Stream) (globCur : Nat) :
    (check_random_state mk (globObj globS globCur) (absSeed (.inst st cur)) (some mult)).1 =
      newRandomState mk (derivedSeed (st cur) mult) := rfl

/-- without a multiplier the caller's instance itself is handed back (scikit-learn's behaviour): draws of the method advance it -/
theorem gen_crs_shared_without_multiplier (mk : Nat → Stream) (st : Stream) (cur : Nat) (globS : Stream) (globCur : Nat) :
    (check_random_state mk (globObj globS globCur) (absSeed (.inst st cur)) none).1.callers = true := rfl

/-- **one caller-owned generator handed to two objects**: the first object's call leaves the instance where it was, so a second
object constructed with the same instance derives the same per-call generator — whatever the global generator did in between.
(What the C06 check observes on budget managers and stream strategies with a shared `RandomState`.) -/
theorem gen_crs_second_object (mk : Nat → Stream) (st : Stream) (cur mult : Nat) (g g' : Stream) (c c' : Nat) :
    (check_random_state mk (globObj g' c')
        (absSeed (.inst st (cur + (check_random_state mk (globObj g c) (absSeed (.inst st cur)) (some mult)).2))) (some mult)).1 =
      (check_random_state mk (globObj g c) (absSeed (.inst st cur)) (some mult)).1 := by
  have h0 : (check_random_state mk (globObj g c) (absSeed (.inst st cur)) (some mult)).2 = 0 :=
    (gen_crs_private mk (.inst st cur) mult g c rfl).2
  rw [h0, Nat.add_zero]
  exact gen_crs_deterministic mk (.inst st cur) mult g' g c' c rfl

/-- non-vacuity -/
example : (check_random_state (fun n i => n + i) ⟨fun i => 100 + i, true, 0⟩ (.int 5) (some 3)).1.stream 0 = 15 := by decide +kernel

end Ska.RngGenProps
