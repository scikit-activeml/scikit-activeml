import SkaModel.Core.Wrapper
import SkaModel.Props.C01

/-!
# C20 — wrapper strategies are transparent to the strategy they wrap

* parallel wrapper: splitting the candidates into any number of chunks ≥ 1, scoring each chunk with a
  pointwise inner score and concatenating gives exactly the inner strategy's utilities, hence (equal
  noise, i.e. equal seed) exactly its selection — `arraySplit_flatten`, `parallel_eq_inner`,
  `parallel_selection_eq_inner`;
* sub-sampling wrapper: the sub-sample has the documented size and lies inside the candidates, the
  reported utilities are the inner utilities on the sub-sample, −inf on the other candidates and NaN on
  non-candidates in the caller's index space, and the index translation used with
  `exclude_non_subsample=True` is the identity on the sub-sample — `subRowCode_eq_spec`,
  `subSample_spec`, `expand_innerCands`;
* the single-annotator wrapper's sample order is part of C07 (`Props/C07.lean`).
-/

namespace Ska.C20
open Ska Ska.Wrapper

theorem sectionSizes_sum (n k : Nat) (hk : 0 < k) : (sectionSizes n k).sum = n := by
  -- `(n % k) * (n / k + 1) + (k - n % k) * (n / k) = k * (n / k) + n % k`
  rw [sectionSizes, List.sum_append, List.sum_replicate_nat, List.sum_replicate_nat, Nat.mul_succ,
    Nat.add_right_comm, ← Nat.add_mul, Nat.add_sub_cancel' (Nat.le_of_lt (Nat.mod_lt n hk))]
  exact Nat.div_add_mod n k

theorem sectionSizes_length (n k : Nat) (hk : 0 < k) : (sectionSizes n k).length = k := by
  rw [sectionSizes, List.length_append, List.length_replicate, List.length_replicate]
  exact Nat.add_sub_cancel' (Nat.le_of_lt (Nat.mod_lt n hk))

theorem splitBy_flatten {γ : Type} (sizes : List Nat) (l : List γ) :
    (splitBy sizes l).flatten = l.take sizes.sum := by
  induction sizes generalizing l with
  | nil => exact List.take_zero.symm
  | cons s ss ih => rw [splitBy, List.flatten_cons, List.sum_cons, ih, List.take_add]

theorem splitBy_length {γ : Type} (sizes : List Nat) (l : List γ) :
    (splitBy sizes l).length = sizes.length := by
  induction sizes generalizing l with
  | nil => rfl
  | cons s ss ih => rw [splitBy, List.length_cons, List.length_cons, ih]

/-- **Chunking loses nothing**: concatenating the chunks of `np.array_split(l, k)` gives back `l`,
for every list and every number of chunks `k ≥ 1`. -/
theorem arraySplit_flatten {γ : Type} (l : List γ) (k : Nat) (hk : 0 < k) :
    (arraySplit l k).flatten = l := by
  unfold arraySplit
  rw [splitBy_flatten, sectionSizes_sum _ _ hk, List.take_length]

theorem arraySplit_length {γ : Type} (l : List γ) (k : Nat) (hk : 0 < k) :
    (arraySplit l k).length = k := by
  unfold arraySplit
  rw [splitBy_length, sectionSizes_length _ _ hk]

/-- **The parallel wrapper reports the inner strategy's utilities**: if the inner strategy scores
candidates independently (`score`), any number of chunks `k ≥ 1` yields `map score cands`. -/
theorem parallel_eq_inner {γ δ : Type} (score : γ → δ) (cands : List γ) (k : Nat) (hk : 0 < k) :
    parallelUtils (List.map score) cands k = cands.map score := by
  unfold parallelUtils
  rw [← List.map_flatten, arraySplit_flatten cands k hk]

/-- the number of chunks used by the wrapper is at least 1 whenever there is a candidate
and the requested `n_jobs` is not 0 -/
theorem nChunks_pos (nJobs : Int) (nCand cpu : Nat) (hc : 0 < nCand) (hcpu : 0 < cpu) (hj : nJobs ≠ 0) :
    0 < nChunks nJobs nCand cpu := by
  rw [nChunks]
  by_cases h : min nJobs (nCand : Int) < 0
  · rw [if_pos h]
    exact Nat.lt_min.mpr ⟨hcpu, hc⟩
  · rw [if_neg h]
    -- `n_jobs` is not negative here, hence positive
    have h0 : 0 ≤ nJobs := (Int.le_min.mp (Int.not_lt.mp h)).1
    exact Int.lt_toNat.mpr (Int.lt_min.mpr ⟨Int.lt_iff_le_and_ne.mpr ⟨h0, hj.symm⟩, Int.natCast_pos.mpr hc⟩)

/-- … and never exceeds the number of candidates, so no chunk is empty for the inner strategy to
choke on. -/
theorem nChunks_le (nJobs : Int) (nCand cpu : Nat) : nChunks nJobs nCand cpu ≤ nCand := by
  rw [nChunks]
  by_cases h : min nJobs (nCand : Int) < 0
  · rw [if_pos h]
    exact Nat.min_le_right ..
  · rw [if_neg h]
    exact Int.toNat_le.mpr (Int.min_le_right ..)

/-- **Equal utilities and equal seed give equal selection**: the wrapper's final
`scatter + simple_batch` on the concatenated utilities is literally the inner strategy's. -/
theorem parallel_selection_eq_inner {α β : Type} [LT α] [DecidableLT α] [OfNat α 0] [Add α]
    [LT β] [DecidableLT β] [OfNat β 0] {γ : Type} (isInf : α → Bool) (n : Nat)
    (mapping : Option (List Nat)) (score : γ → Option α) (cands : List γ) (k : Nat) (hk : 0 < k)
    (b : Nat) (m : Method) (noises : List (List β)) (choice : List Nat) :
    poolQueryA isInf n mapping (parallelUtils (List.map score) cands k) b m noises choice =
      poolQueryA isInf n mapping (cands.map score) b m noises choice := by
  rw [parallel_eq_inner score cands k hk]

variable {α : Type}

/-- **The utilities the sub-sampling wrapper reports are the documented ones**: in the caller's index
space, the inner strategy's value on the sub-sample, −inf on all other candidates, NaN on
non-candidates — for all index lists (no assumption needed: later writes win exactly as the
specification prioritises). -/
theorem subRowCode_eq_spec (ninf : α) (n : Nat) (cand sub : List Nat) (inner : List (Option α)) :
    subRowCode ninf n cand sub inner = subRowSpec ninf n cand sub inner := by
  refine List.ext_getElem? fun j => ?_
  simp only [subRowCode, subRowSpec, getElem?_map_range, getElem?_foldl_set (fun j => inner.getD j none),
    getElem?_foldl_set (fun _ => some ninf), foldl_set_length, List.length_replicate, List.getElem?_replicate,
    List.contains_iff_mem]
  by_cases hj : j < n
  · by_cases hs : j ∈ sub
    · simp only [hj, hs, and_self, if_true]
    · by_cases hc : j ∈ cand <;> simp only [hj, hs, hc, and_true, and_self, if_true, if_false]
  · simp only [hj, and_false, if_false]

theorem choiceOkB_iff (cand : List Nat) (k : Nat) (sub : List Nat) :
    choiceOkB cand k sub = true ↔ (sub.length = k ∧ sub.Nodup ∧ ∀ i ∈ sub, i ∈ cand) := by
  simp [choiceOkB, nodupB_iff, and_assoc]

/-- **The sub-sampling wrapper selects only from a random subset of the candidates of the documented
size**: for every candidate list, every `max_candidates` value `m` (after the fractional → integer
conversion), every draw obeying numpy's `choice` contract and every inner result that is a valid
batch w.r.t. the sub-sample (C01 for the inner strategy): the sub-sample has `min(m, #candidates)`
elements, all of them candidates, and the returned picks are `min(b, #sub-sample)` distinct members
of the sub-sample. -/
theorem subSample_spec (cand : List Nat) (m b : Nat) (sub q : List Nat)
    (hchoice : choiceOkB cand (subSize m cand.length) sub = true)
    (hinner : Ska.C01.ValidBatch sub b q) :
    sub.length = min m cand.length ∧ (∀ i ∈ sub, i ∈ cand) ∧
    q.length = min b (min m cand.length) ∧ q.Nodup ∧ (∀ i ∈ q, i ∈ sub ∧ i ∈ cand) := by
  obtain ⟨h1, -, h3⟩ := (choiceOkB_iff _ _ _).mp hchoice
  obtain ⟨g1, g2, g3⟩ := hinner
  exact ⟨h1, h3, g1.trans (congrArg (min b) h1), g2, fun i hi => ⟨g3 i hi, h3 i (g3 i hi)⟩⟩

theorem mem_insertSorted (x : Nat) (l : List Nat) (y : Nat) : y ∈ insertSorted x l ↔ y = x ∨ y ∈ l := by
  induction l with
  | nil => simp [insertSorted]
  | cons z zs ih =>
    rw [insertSorted]
    split
    · rw [List.mem_cons]
    · rw [List.mem_cons, ih, List.mem_cons, or_left_comm]

theorem sortNat_cons (x : Nat) (xs : List Nat) : sortNat (x :: xs) = insertSorted x (sortNat xs) := rfl

theorem mem_sortNat (l : List Nat) (y : Nat) : y ∈ sortNat l ↔ y ∈ l := by
  induction l with
  | nil => exact Iff.rfl
  | cons x xs ih => rw [sortNat_cons, mem_insertSorted, ih, List.mem_cons]

theorem mem_subsetAndLabeled (labeled sub : List Nat) (i : Nat) :
    i ∈ subsetAndLabeled labeled sub ↔ i ∈ labeled ∨ i ∈ sub := by
  rw [subsetAndLabeled, mem_sortNat, List.mem_append]

theorem getD_posOf (x : Nat) (l : List Nat) (h : x ∈ l) : l.getD (posOf x l) 0 = x := by
  induction l with
  | nil => exact (List.not_mem_nil h).elim
  | cons y ys ih =>
    rw [posOf]
    by_cases e : x = y
    · rw [if_pos e, e]; rfl
    · rw [if_neg e]
      exact ih ((List.mem_cons.mp h).resolve_left e)

/-- Every inner-space candidate position translates back to a member of the sub-sample, and every
member of the sub-sample is reached: the picks returned by the inner strategy (which are inner
candidates, C01) are reported to the caller as sub-sample members in the caller's index space. -/
theorem expand_innerCands (labeled sub : List Nat) :
    ∀ i, i ∈ expand (subsetAndLabeled labeled sub) (innerCands (subsetAndLabeled labeled sub) sub) ↔ i ∈ sub := by
  intro i
  simp only [expand, innerCands, List.mem_map, mem_sortNat]
  have back : ∀ x ∈ sub, (subsetAndLabeled labeled sub).getD (posOf x (subsetAndLabeled labeled sub)) 0 = x :=
    fun x hx => getD_posOf x _ ((mem_subsetAndLabeled labeled sub x).mpr (.inr hx))
  constructor
  · rintro ⟨p, ⟨x, hx, rfl⟩, rfl⟩
    exact (back x hx).symm ▸ hx
  · exact fun hi => ⟨_, ⟨i, hi, rfl⟩, back i hi⟩

theorem expand_subset (labeled sub q : List Nat)
    (hq : ∀ p ∈ q, p ∈ innerCands (subsetAndLabeled labeled sub) sub) :
    ∀ i ∈ expand (subsetAndLabeled labeled sub) q, i ∈ sub := fun i hi =>
  let ⟨p, hp, e⟩ := List.mem_map.mp hi
  (expand_innerCands labeled sub i).mp (List.mem_map.mpr ⟨p, hq p hp, e⟩)

example : arraySplit [10, 11, 12, 13, 14, 15, 16] 3 = [[10, 11, 12], [13, 14], [15, 16]] := by decide +kernel
example : subRowCode (α := Int) (-1000) 5 [1, 2, 4] [4, 1] [some 7, some 8, some 9, some 10, some 11]
    = [none, some 8, some (-1000), none, some 11] := by decide +kernel
example : expand (subsetAndLabeled [0, 3] [5, 2]) (innerCands (subsetAndLabeled [0, 3] [5, 2]) [5, 2]) = [2, 5] := by
  decide +kernel

end Ska.C20
