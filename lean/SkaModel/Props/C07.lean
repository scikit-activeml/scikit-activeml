import SkaModel.Lemmas.MultiAnnot
import SkaModel.Props.C18

/-!
# C07 — multi-annotator pool query returns distinct, available sample-annotator pairs

Matrices over pairs are flat (`p = i * m + j`); utilities are `Option α` (`none` = NaN) over an arbitrary
linear ordered field; noise is any vector of positive entries over an arbitrary linear order; the wrapped
strategy's result is an arbitrary argument constrained only by its own contract (distinct picks, a number at
each pick).  `Ska.MultiAnnot.Regressions` holds the loop before repair 6c5fda89 and the carrier `Ext`,
`Ska.C07.Regressions` the counterexamples (the ranking before 79ce7853 is `rankRowOld` of Core).
-/

namespace Ska.C07
open Ska Ska.C18 Ska.MultiAnnot

/-- **`_transform_cand_annot` marks exactly the available pairs** (all nine combinations of
`candidates` ∈ {None, index array, feature rows} × `annotators` ∈ {None, index array, Boolean
matrix}): entry `(i, j)` of the mask is `True` iff row `i` is about a sample `s` (`mapping[i]`, or
`i` itself for feature rows) and the pair `(s, j)` is available as defined by the arguments — with
both left at `None`: the label of `(s, j)` is still missing.  The mask is a list of `Bool` rows by
construction (the model of the current code is Boolean-typed in every case; the harness compares the
dtype of the real `A_cand`). -/
theorem transformCandAnnot_spec (nS m : Nat) (unl : List (List Bool)) (cand : Cand) (annot : Annot)
    (hM : ∀ M, annot = .mat M → M.length = candCount nS cand) (i j : Nat) :
    (((transformCandAnnot nS m unl cand annot).2.getD i []).getD j false = true ↔
      ∃ s, rowSample (transformCandAnnot nS m unl cand annot).1
            (transformCandAnnot nS m unl cand annot).2.length i = some s ∧
          Available nS m unl cand annot s i j) := by
  -- outside `(.all, .all)` `annotRows_getD_getD` turns the mask entry into `i < n ∧ ⟨column condition⟩`; `rowSample` and
  -- `Available` say the same with the row bound in another place, so each case is a re-bracketing
  cases cand with
  | all =>
    cases annot with
    | all =>
      -- the mask row is `unl[mapping[i]]`
      simp only [transformCandAnnot, rowSample, Available, List.getD_eq_getElem?_getD (l := List.map _ _),
        List.getElem?_map]
      cases (unlabeledSamples unl)[i]? with
      | none => exact ⟨fun h => Bool.noConfusion (h : false = true), fun ⟨_, h, _⟩ => nomatch h⟩
      | some s => exact ⟨fun h => ⟨s, rfl, h⟩, fun ⟨_, h, p⟩ => Option.some.inj h ▸ p⟩
    | idx a | mat M =>
      simp only [transformCandAnnot, rowSample, Available, annotRows_getD_getD nS m _ hM i j, getElem?_range_eq_some]
      exact ⟨fun ⟨h, p⟩ => ⟨i, ⟨h, rfl⟩, h, p⟩, fun ⟨_, ⟨h, rfl⟩, _, p⟩ => ⟨h, p⟩⟩
  | idx c =>
    cases annot <;>
      simp only [transformCandAnnot, rowSample, Available, annotRows_getD_getD c.length m _ hM i j] <;>
      exact ⟨fun ⟨h, p⟩ => ⟨c[i], List.getElem?_eq_getElem h, List.getElem?_eq_getElem h, p⟩,
        fun ⟨s, h, _, p⟩ => ⟨(List.getElem?_eq_some_iff.mp h).1, p⟩⟩
  | feat n =>
    have hlen := annotRows_length n m annot hM
    cases annot <;>
      simp only [transformCandAnnot, rowSample, Available, annotRows_getD_getD n m _ hM i j, hlen] <;>
      exact ⟨fun ⟨h, p⟩ => ⟨i, if_pos h, rfl, h, p⟩, fun ⟨_, _, _, h, p⟩ => ⟨h, p⟩⟩

/-- **The batch size is clipped to the number of available pairs**: the `batch_size` the strategies work
with is `min(requested, #True entries of the availability mask)`, and by `transformCandAnnot_spec` the
`True` entries are exactly the available pairs (annotator index arrays are unique and in range after
`check_indices`). -/
theorem batch_clipped_to_available_pairs (nS m : Nat) (unl : List (List Bool)) (cand : Cand) (annot : Annot)
    (ha : ∀ a, annot = .idx a → a.Nodup ∧ ∀ x ∈ a, x < m) (bReq : Nat) :
    clipBatch bReq (nCandidatePairs nS m unl cand annot) =
      min bReq (countTrue (transformCandAnnot nS m unl cand annot).2) := by
  rw [clipBatch_eq_min, nCandidatePairs_eq_countTrue nS m unl cand annot ha]

/-- **Termination of `_n_to_assign_annotators`** (code after repair 6c5fda89), unconditionally: for
every batch size, every availability counts `nmax` of the chosen samples and every preference vector
the `while` loop exits after at most `Σ nmax` passes.  The result is never above the available number,
never below the initial request `min(nmax, pref)`, equal to it when that already fills the batch, and
either fills the batch (`Σ r ≥ batch_size`) or is saturated (`r = nmax`). -/
theorem nToAssign_terminates (fuel b : Nat) (nmax pref : List Nat) (hlen : nmax.length = pref.length)
    (hf : nmax.sum ≤ fuel) :
    ∃ r, nToAssign fuel b nmax pref = some r ∧ (b ≤ r.sum ∨ r = nmax) ∧ LeL r nmax ∧
      LeL (assignInit nmax pref) r ∧ (b ≤ (assignInit nmax pref).sum → r = assignInit nmax pref) :=
  let ⟨r, hr, h⟩ := assignIter_some b nmax _ (assignInit_le nmax pref hlen)
  ⟨r, hr fuel (Nat.le_add_left_of_le hf), h⟩

/-- If the chosen samples together have at least `batch_size` available annotators the result fills
the batch: `Σ annot_per_sample ≥ batch_size`. -/
theorem nToAssign_fills (fuel b : Nat) (nmax pref : List Nat) (hlen : nmax.length = pref.length)
    (hb : b ≤ nmax.sum) (hf : nmax.sum ≤ fuel) :
    ∃ r, nToAssign fuel b nmax pref = some r ∧ b ≤ r.sum := by
  obtain ⟨r, h, h1, -⟩ := nToAssign_terminates fuel b nmax pref hlen hf
  refine ⟨r, h, ?_⟩
  rcases h1 with h1 | h1
  · exact h1
  · rw [h1]; exact hb

/-- **Saturation**: if the chosen samples have fewer than `batch_size` available annotators in total
(only possible when `annotators` is a Boolean matrix with all-`False` rows that the inner strategy
selects), every chosen sample is assigned all its available annotators, `r = nmax_chosen`; the
remaining pairs of the batch are then taken from the best other samples by the batch loop. -/
theorem nToAssign_saturated (fuel b : Nat) (nmax pref : List Nat) (hlen : nmax.length = pref.length)
    (hb : nmax.sum < b) (hf : nmax.sum ≤ fuel) : nToAssign fuel b nmax pref = some nmax := by
  obtain ⟨r, h, h1, h2, -⟩ := nToAssign_terminates fuel b nmax pref hlen hf
  rcases h1 with h1 | h1
  · exact absurd (h1.trans (LeL.sum_le h2)) (Nat.not_le_of_lt hb)
  · rw [h, h1]

/-- The hypothesis `hb` of `nToAssign_fills` (`hreach` of `queryAnnotators_valid`) holds whenever every chosen
sample has an available annotator and the batch is not larger than the number of chosen samples (always the
case for `candidates`/`annotators` given as `None` or index arrays when `batch_size ≤ n_candidates`). -/
theorem nToAssign_precondition_holds (b : Nat) (nmax : List Nat) (h1 : ∀ x ∈ nmax, 1 ≤ x)
    (hb : b ≤ nmax.length) : b ≤ nmax.sum := by
  refine hb.trans ?_
  clear hb
  induction nmax with
  | nil => exact Nat.le_refl 0
  | cons x xs ih =>
    rw [List.length_cons, List.sum_cons, Nat.add_comm]
    exact Nat.add_le_add (h1 x (List.mem_cons_self ..)) (ih fun y hy => h1 y (List.mem_cons_of_mem _ hy))

/-- **The chosen sample is ranked strictly first, for all utilities** (also `±inf`: no arithmetic on the
utilities is involved): in the rank row built by `_get_order_preserving_s_query` the chosen
sample has rank `n + 1` and every other entry an ordinal rank `≤ n`. -/
theorem chosen_rank_is_top {α : Type} [LinearOrder α] (ninf : α) (row : List (Option α)) (chosen i : Nat)
    (hne : i ≠ chosen) :
    chosenRank row.length chosen (ordRank (row.map (fillNaN ninf)) i) i <
      chosenRank row.length chosen (ordRank (row.map (fillNaN ninf)) chosen) chosen :=
  chosenRank_lt _ _ chosen i _ (List.length_map ..).le hne

section Wrapper
variable {α : Type} [Field α] [LinearOrder α] [IsStrictOrderedRing α]
variable {β : Type} [LinearOrder β] [Zero β]

/-- **SingleAnnotatorWrapper: the batch of pairs is valid.**  Preconditions: the availability mask is
rectangular; the inner strategy kept its contract (`sIdx` distinct positions, row `t` of its utilities
has a number at `sIdx[t]`); annotator utilities lie in `[0, 1)` (what `rand` / the `A_perf`
normalisation produce); `n_annotators_per_sample ≥ 1`; every chosen sample has an available annotator
and together they have at least `batch_size` of them (`nToAssign_precondition_holds`; false exactly in
the saturated case, see `nToAssign_saturated`); noise is positive.  Then the query returns `b` steps whose flat picks are
pairwise distinct and available; the utilities matrix of step `k` has `A.length * m` entries, is NaN at
every unavailable pair and at the picks of the steps before `k` (one-directional, as C07 states) and a
number at the pick of step `k`; the samples are served in the inner strategy's order, sample
`sIdx[t]` receiving `nAs[t]` annotators (`expand`), where `min(nmax, pref) ≤ nAs ≤ nmax` pointwise and
`nAs = min(nmax, pref)` whenever that already fills the batch — so a sample with enough available
annotators (`pref[t] ≤ nmax[t]`) gets exactly the requested number. -/
theorem queryAnnotators_valid
    (ninf : α) (cast : Nat → α) (hcast : ∀ a b : Nat, a < b → cast a + 1 ≤ cast b)
    (fuel m b : Nat) (hm : 0 < m)
    (A : List (List Bool)) (hrect : ∀ r ∈ A, r.length = m)
    (candRows : List (List (Option α))) (sIdx : List Nat) (au : List α) (pref : List Nat)
    (noises : List (List β))
    (hT : candRows.length = sIdx.length) (hP : pref.length = sIdx.length)
    (hinner : ∀ (t : Nat) (row : List (Option α)) (s : Nat), candRows[t]? = some row → sIdx[t]? = some s →
      row.length = A.length ∧ s < A.length ∧ ∃ v, row[s]? = some (some v))
    (hnodup : sIdx.Nodup)
    (hau : au.length = A.length * m) (hau01 : ∀ a ∈ au, 0 ≤ a ∧ a < 1)
    (hpref : ∀ x ∈ pref, 1 ≤ x)
    (havail1 : ∀ s ∈ sIdx, 1 ≤ countRow (A.getD s []))
    (hreach : b ≤ (sIdx.map (fun s => countRow (A.getD s []))).sum)
    (hfuel : (sIdx.map (fun s => countRow (A.getD s []))).sum ≤ fuel)
    (hnoise : b ≤ noises.length) (hpos : PosNoise (A.length * m) noises) :
    ∃ nAs out, queryAnnotators ninf cast fuel m b A candRows sIdx au pref noises = .ok (nAs, out) ∧
      out.length = b ∧
      LeL (assignInit (sIdx.map (fun s => countRow (A.getD s []))) pref) nAs ∧
      LeL nAs (sIdx.map (fun s => countRow (A.getD s []))) ∧
      (b ≤ (assignInit (sIdx.map (fun s => countRow (A.getD s []))) pref).sum →
        nAs = assignInit (sIdx.map (fun s => countRow (A.getD s []))) pref) ∧
      (out.map Prod.fst).Nodup ∧
      (∀ r ∈ out, A.flatten.getD r.1 false = true ∧ ∃ v, r.2[r.1]? = some (some v)) ∧
      (∀ r ∈ out, r.2.length = A.length * m) ∧
      (∀ k, ∀ hk : k < out.length, ∀ q,
        (A.flatten.getD q false = false ∨ q ∈ (out.map Prod.fst).take k) → out[k].2.getD q none = none) ∧
      b ≤ nAs.sum ∧
      out.map (fun r => r.1 / m) = (expand nAs sIdx).take b := by
  generalize hnm : sIdx.map (fun s => countRow (A.getD s [])) = nmax at *
  have hnl : nmax.length = sIdx.length := by rw [← hnm, List.length_map]
  obtain ⟨nAs, hnAs, n1', n2, n3, n4⟩ := nToAssign_terminates fuel b nmax pref (hnl.trans hP.symm) hfuel
  have n1 : b ≤ nAs.sum := n1'.elim id fun h => h ▸ hreach
  have hlen : nAs.length = sIdx.length := (LeL.length n2).trans hnl
  have hnas1 : ∀ x ∈ nAs, 1 ≤ x :=
    n3.forall_le 1 (assignInit_forall_le nmax pref 1 (hnm ▸ List.forall_mem_map.mpr havail1) hpref)
  have hfl := flatten_length A m hrect
  have hle : ∀ t s, sIdx[t]? = some s → nAs.getD t 0 ≤ countRow (A.getD s []) := fun t s h2 => by
    have h := LeL.getD n2 t
    rwa [getD_of_getElem? 0 (show nmax[t]? = some (countRow (A.getD s [])) by rw [← hnm, List.getElem?_map, h2]; rfl)] at h
  have sch := Sched.init hnas1 n1
  obtain ⟨o1, o2, o3⟩ := qaLoop_valid hm hlen hnodup b noises
    (LoopInv.init ninf cast hcast hrect hT (fun t r s h1 h2 => (hinner t r s h1 h2).2) hau hau01 hle) sch hnoise (hfl ▸ hpos)
  obtain ⟨v1, -, v3, v4, v5⟩ := stepsOK_spec o2
  refine ⟨nAs, _, ?_, o1, n3, n2, n4, v1, v3, fun r hr => by rw [v4 r hr, hfl],
    fun k hk q hq => v5 k hk q (hq.imp_right .inr), n1, o3.trans ?_⟩
  · unfold queryAnnotators
    simp only [flatten2, hnm, hnAs, o1, Nat.lt_irrefl, if_false]
  · have := phaseSeq_expand nAs sIdx hlen b 0 0 sch
    rwa [List.drop_zero, List.drop_zero, List.drop_zero] at this

/-- Distinct flat picks at available positions are distinct `(sample, annotator)` pairs after the
re-translation `indices[:, 0] = mapping[w_indices[:, 0]]` (mapping without repetitions, one entry per
row of the mask). -/
theorem translated_pairs_distinct (m : Nat) (hm : 0 < m) (A : List (List Bool))
    (hrect : ∀ r ∈ A, r.length = m) (mapping : Option (List Nat))
    (hmp : ∀ mp, mapping = some mp → mp.Nodup ∧ mp.length = A.length) (picks : List Nat)
    (hnd : picks.Nodup) (hav : ∀ p ∈ picks, A.flatten.getD p false = true) :
    (picks.map (translatePick m mapping)).Nodup := by
  have hlt : ∀ p ∈ picks, p < A.length * m := fun p hp => flatten_getD_true_lt hrect (hav p hp)
  -- `backPos ∘ outPos` is a left inverse of the translation
  refine nodup_map_of_inj_on _ _ (fun p hp q hq e => ?_) hnd
  have := congrArg (fun pr => backPos m mapping (outPos m pr)) e
  rw [backPos_outPos m hm mapping _ hmp p (hlt p hp), backPos_outPos m hm mapping _ hmp q (hlt q hq)] at this
  exact Option.some.inj this

end Wrapper

section E2E
variable {α : Type} [Field α] [LinearOrder α] [IsStrictOrderedRing α]
variable {β : Type} [LinearOrder β] [Zero β]

/-- **End to end: everything `SingleAnnotatorWrapper.query` does around the inner strategy's call.**
`(mapping, A)` is the result of `_transform_cand_annot`, `b` the batch size clipped to the number of
available pairs (`batch_clipped_to_available_pairs`).  The inner strategy's contract is stated in its
own index space (distinct picks, `min(b, n_selectable)` of them, each a selectable candidate with a
number in its utilities row); the remaining preconditions are those of `queryAnnotators_valid`.  Then
the query succeeds with `b` pairs in the index space of the result (through `mapping`), pairwise
distinct, each available (`outAvail`, linked to the arguments by `transformCandAnnot_spec`), the
samples in the inner strategy's order (`expand nAs innerPicks`), and `b` utility matrices that are NaN at
every unavailable position and at every pair selected in an earlier step. -/
theorem wrapperQuery_valid
    (ninf : α) (cast : Nat → α) (hcast : ∀ a b : Nat, a < b → cast a + 1 ≤ cast b)
    (nS m : Nat) (hm : 0 < m) (unl : List (List Bool)) (cand : Cand) (annot : Annot) (bReq : Nat)
    (pref : Pref) (innerPicks : List Nat) (innerU : List (List (Option α))) (au : List α)
    (noises : List (List β)) (mapping : Option (List Nat)) (A : List (List Bool)) (b : Nat)
    (htr : transformCandAnnot nS m unl cand annot = (mapping, A))
    (hb : b = clipBatch bReq (nCandidatePairs nS m unl cand annot))
    (hrect : ∀ r ∈ A, r.length = m)
    (hmp : ∀ mp, mapping = some mp → mp.Nodup ∧ mp.length = A.length)
    (hk : innerPicks.length = min b A.length) (hU : innerU.length = innerPicks.length)
    (hnd : innerPicks.Nodup)
    (hin : ∀ (t : Nat) (row : List (Option α)) (s : Nat), innerU[t]? = some row → innerPicks[t]? = some s →
      (∃ v, row.getD s none = some v) ∧
      (match mapping with
       | none => row.length = A.length ∧ s < A.length
       | some mp => s ∈ mp))
    (hau : au.length = A.length * m) (hau01 : ∀ a ∈ au, 0 ≤ a ∧ a < 1)
    (hpref : ∀ x ∈ prefVector pref (min b A.length), 1 ≤ x)
    (hplen : (prefVector pref (min b A.length)).length = min b A.length)
    (havail1 : ∀ s ∈ innerPicks, 1 ≤ nmaxAt A (selPos mapping s))
    (hreach : b ≤ (innerPicks.map (fun s => nmaxAt A (selPos mapping s))).sum)
    (hnoise : b ≤ noises.length) (hpos : PosNoise (A.length * m) noises) :
    ∃ res, wrapperQuery ninf cast nS m unl cand annot bReq pref innerPicks innerU au noises = .ok res ∧
      res.batch = b ∧ res.mapping = mapping ∧ res.A = A ∧
      res.picks.length = b ∧ res.picks.Nodup ∧
      (∀ pr ∈ res.picks, pr.2 < m ∧ outAvail m mapping A (outPos m pr) = true) ∧
      res.picks.map Prod.fst = (expand res.nAs innerPicks).take b ∧
      res.rows.length = b ∧
      (∀ k, ∀ hk : k < res.rows.length, ∀ q,
        (outAvail m mapping A q = false ∨ q ∈ (res.picks.take k).map (outPos m)) →
          res.rows[k].getD q none = none) := by
  -- the inner strategy's result over the selectable candidates
  obtain ⟨candRows, sIdx, hcr, hsi, hT, hinner, hnodup, hback, havail, hnm⟩ :
      ∃ candRows sIdx,
        candRows = (match mapping with | none => innerU | some mp => innerU.map (gatherRow mp)) ∧
        sIdx = (match mapping with | none => innerPicks | some mp => innerPicks.map (posIn mp)) ∧
        candRows.length = sIdx.length ∧
        (∀ (t : Nat) (row : List (Option α)) (s : Nat), candRows[t]? = some row → sIdx[t]? = some s →
          row.length = A.length ∧ s < A.length ∧ ∃ v, row[s]? = some (some v)) ∧
        sIdx.Nodup ∧
        sIdx.map (rowSampleD mapping) = innerPicks ∧
        (∀ s ∈ sIdx, 1 ≤ nmaxAt A s) ∧
        sIdx.map (nmaxAt A) = innerPicks.map (fun s => nmaxAt A (selPos mapping s)) := by
    -- `hin` ends in a `match mapping` that reduces only once `mapping` is split
    cases mapping with
    | none =>
      refine ⟨innerU, innerPicks, rfl, rfl, hU, fun t row s h1 h2 => ?_, hnd, ?_, havail1, rfl⟩
      · obtain ⟨⟨v, hv⟩, h3⟩ := hin t row s h1 h2
        exact ⟨h3.1, h3.2, v, getD_none_eq_some.mp hv⟩
      · exact List.map_id _
    | some mp =>
      have hml := (hmp mp rfl).2
      obtain ⟨h1, h2, h3⟩ := inner_through_mapping mp A.length hml innerPicks innerU hU hnd hin
      exact ⟨_, _, rfl, rfl, by rw [List.length_map, List.length_map, hU], h1, h2, h3,
        List.forall_mem_map.mpr havail1, List.map_map ..⟩
  have hfl := flatten_length A m hrect
  have hplen' : (prefVector pref (min b A.length)).length = sIdx.length := by
    rw [hplen, ← hk, ← hback, List.length_map]
  have hsilt : ∀ s ∈ sIdx, s < A.length := fun s hs => (exists_of_indexed hT hinner hs).elim fun _ h => h.2.1
  obtain ⟨nAs, out, hq, o1, -, -, -, o5, o6, o7, o8, -, o10⟩ :=
    queryAnnotators_valid ninf cast hcast ((sIdx.map (fun s => countRow (A.getD s []))).sum) m b hm A hrect
      candRows sIdx au (prefVector pref (min b A.length)) noises hT hplen' hinner hnodup hau hau01 hpref
      havail (hreach.trans_eq (congrArg List.sum hnm.symm)) (Nat.le_refl _) hnoise hpos
  obtain ⟨t1, t2⟩ := translate_spec nS m hm A hrect mapping hmp out (fun r hr => (o6 r hr).1) o8
  have t0 := translated_pairs_distinct m hm A hrect mapping hmp (out.map Prod.fst) o5
    (List.forall_mem_map.mpr fun r hr => (o6 r hr).1)
  have hany : (sIdx.any (fun s => decide (A.length ≤ s))) = false :=
    List.any_eq_false.mpr fun s hs h => Nat.not_le_of_lt (hsilt s hs) (of_decide_eq_true h)
  refine ⟨{ batch := b, mapping := mapping, A := A, pref := prefVector pref (min b A.length), nAs := nAs,
            picks := out.map (fun r => translatePick m mapping r.1),
            rows := out.map (fun r => translateRow nS m mapping r.2) }, ?_, rfl, rfl, rfl,
          (List.length_map _).trans o1, ?_, ?_, ?_, (List.length_map _).trans o1, ?_⟩
  · unfold wrapperQuery
    simp only [htr, ← hb]
    -- the `match`es in `hcr`, `hsi` and those inside `wrapperQuery` are different auxiliary matchers: a second split joins them
    cases mapping <;>
      (simp only at hcr hsi; subst hcr hsi; simp only [hany, Bool.false_eq_true, if_false, hq])
  · rw [List.map_map] at t0; exact t0
  · exact List.forall_mem_map.mpr t1
  · have e1 : (out.map (fun r => translatePick m mapping r.1)).map Prod.fst =
        (out.map (fun r => r.1 / m)).map (rowSampleD mapping) := by
      rw [List.map_map, List.map_map]
      exact List.map_congr_left fun r _ => translatePick_fst m mapping r.1
    simp only
    rw [e1, o10, List.map_take, expand_map, hback]
  · intro k hk q hq
    rw [List.getElem_map]
    exact t2 k (List.length_map _ ▸ hk) q
      (hq.imp_right fun h => by simp only [List.map_take, List.map_map] at h ⊢; exact h)

end E2E

/-- **The wrapper serves the samples in the order in which the wrapped strategy ranked them** (the clause of
property C20 about the single-annotator wrapper).  Whenever the translated sample column of the result is
`(expand nAs innerPicks).take b` (conclusion of `wrapperQuery_valid`), a sample that the inner strategy
picked later never precedes one it picked earlier, and all pairs of one sample are consecutive. -/
theorem annotWrapper_sample_order (innerPicks nAs : List Nat) (b : Nat) (hnd : innerPicks.Nodup)
    (samples : List Nat) (h : samples = (expand nAs innerPicks).take b) :
    samples.Pairwise (fun x y => innerPicks.idxOf x ≤ innerPicks.idxOf y) ∧ ∀ s ∈ samples, s ∈ innerPicks := by
  subst h
  refine ⟨(expand_pairwise nAs (pairwise_idxOf_le hnd) fun _ => Nat.le_refl _).sublist (List.take_sublist _ _), ?_⟩
  intro s hs
  exact mem_expand nAs innerPicks s (List.mem_of_mem_take hs)

/-- **`n_annotators_per_sample` as documented**: an int is the request for every ranked sample; an
array is cut to the ranking when longer, and when shorter it is extended by repeating its LAST entry
(not cycled): entry `t` of `pref_n_annotators` is `l[t]` inside the array and `l.getLast` beyond it. -/
theorem prefVector_documented (sq : Nat) :
    (∀ n, prefVector (.int n) sq = List.replicate sq n) ∧
    (∀ l : List Nat, sq < l.length → prefVector (.arr l) sq = l.take sq) ∧
    (∀ (l : List Nat) (hne : l ≠ []), l.length ≤ sq →
      (prefVector (.arr l) sq).length = sq ∧
      ∀ t, t < sq → (prefVector (.arr l) sq).getD t 0 =
        if h : t < l.length then l[t] else l.getLast hne) := by
  refine ⟨fun n => rfl, fun l h => prefVector_arr_lt h, fun l hne hle => ⟨prefVector_length _ _, fun t ht => ?_⟩⟩
  · rw [prefVector_arr_ge hle, List.getD_eq_getElem?_getD]
    by_cases h : t < l.length
    · rw [dif_pos h, List.getElem?_append_left h, List.getElem?_eq_getElem h]; rfl
    · rw [dif_neg h, List.getElem?_append_right (Nat.le_of_not_lt h), List.getElem?_replicate,
        if_pos (Nat.sub_lt_sub_right (Nat.le_of_not_lt h) ht)]
      simp only [Option.getD_some]
      cases l with
      | nil => exact absurd rfl hne
      | cons a as => exact (List.getLastD_cons ..).trans (List.getLast_eq_getLastD hne).symm

section Naps
variable {α : Type} [Field α] [LinearOrder α] [IsStrictOrderedRing α]
variable {β : Type} [LinearOrder β] [Zero β]

/-- **The requested number of annotators per sample is respected whenever enough annotators are
available**: if every ranked sample `sIdx[t]` has at least `pref[t]` available annotators
(`pref ≤ nmax` pointwise) and the requests fill the batch (`b ≤ Σ pref`), then `nAs = pref` and the
batch serves the ranked samples in order, sample `t` exactly `pref[t]` times (the last one served is
cut by the batch size): consecutive same-sample groups of sizes `pref`. -/
theorem naps_respected
    (ninf : α) (cast : Nat → α) (hcast : ∀ a b : Nat, a < b → cast a + 1 ≤ cast b)
    (fuel m b : Nat) (hm : 0 < m)
    (A : List (List Bool)) (hrect : ∀ r ∈ A, r.length = m)
    (candRows : List (List (Option α))) (sIdx : List Nat) (au : List α) (pref : List Nat)
    (noises : List (List β))
    (hT : candRows.length = sIdx.length) (hP : pref.length = sIdx.length)
    (hinner : ∀ (t : Nat) (row : List (Option α)) (s : Nat), candRows[t]? = some row → sIdx[t]? = some s →
      row.length = A.length ∧ s < A.length ∧ ∃ v, row[s]? = some (some v))
    (hnodup : sIdx.Nodup)
    (hau : au.length = A.length * m) (hau01 : ∀ a ∈ au, 0 ≤ a ∧ a < 1)
    (hpref : ∀ x ∈ pref, 1 ≤ x)
    (henough : LeL pref (sIdx.map (fun s => countRow (A.getD s []))))
    (hfill : b ≤ pref.sum)
    (hfuel : (sIdx.map (fun s => countRow (A.getD s []))).sum ≤ fuel)
    (hnoise : b ≤ noises.length) (hpos : PosNoise (A.length * m) noises) :
    ∃ out, queryAnnotators ninf cast fuel m b A candRows sIdx au pref noises = .ok (pref, out) ∧
      out.length = b ∧ out.map (fun r => r.1 / m) = (expand pref sIdx).take b := by
  have hinit := assignInit_eq_of_le _ _ henough
  have havail1 : ∀ s ∈ sIdx, 1 ≤ countRow (A.getD s []) := fun s hs =>
    henough.forall_le 1 hpref _ (List.mem_map_of_mem hs)
  obtain ⟨nAs, out, h, hl, -, -, heq, -, -, -, -, -, hs⟩ :=
    queryAnnotators_valid ninf cast hcast fuel m b hm A hrect candRows sIdx au pref noises hT hP hinner hnodup
      hau hau01 hpref havail1 (hfill.trans henough.sum_le) hfuel hnoise hpos
  have : nAs = pref := by rw [heq (by rw [hinit]; exact hfill), hinit]
  subst this
  exact ⟨out, h, hl, hs⟩

end Naps
section IET
variable {α : Type} [LinearOrder α] [Zero α] [Add α]
variable {β : Type} [LinearOrder β] [Zero β]

/-- **IntervalEstimationThreshold**: for every way of giving candidates/annotators, every batch size ≥ 1,
utilities without infinities and positive noise, the query succeeds and returns
`min(batch_size, #selectable)` flat picks (`#selectable` = number of non-NaN entries after masking the
samples that lack an annotator) which are pairwise distinct and available, and the utilities row of
step `k` is NaN at every unavailable pair and at the picks of the earlier steps. -/
theorem iet_valid (isInf : α → Bool) (nS m : Nat) (hm : 0 < m) (unl : List (List Bool)) (cand : Cand)
    (annot : Annot) (hrect : ∀ r ∈ (transformCandAnnot nS m unl cand annot).2, r.length = m)
    (b : Nat) (hb : 1 ≤ b) (U : List (Option α)) (noises : List (List β))
    (hfin : ∀ v, some v ∈ ietUtilities nS m unl cand annot U → isInf v = false)
    (hn : min b (countSome (ietUtilities nS m unl cand annot U)) ≤ noises.length)
    (hpos : PosNoise (ietUtilities nS m unl cand annot U).length noises) :
    ∃ rs, ietQuery isInf nS m unl cand annot b U noises = .ok rs ∧
      rs.length = min b (countSome (ietUtilities nS m unl cand annot U)) ∧
      (rs.map Prod.fst).Nodup ∧
      (∀ r ∈ rs, outAvail m (transformCandAnnot nS m unl cand annot).1
        (transformCandAnnot nS m unl cand annot).2 r.1 = true) ∧
      (∀ k, ∀ hk : k < rs.length, ∀ q,
        (outAvail m (transformCandAnnot nS m unl cand annot).1
            (transformCandAnnot nS m unl cand annot).2 q = false ∨ q ∈ (rs.map Prod.fst).take k) →
          rs[k].2.getD q none = none) := by
  obtain ⟨rs, h1, h2, -, h4, h5, h6, -⟩ :=
    simpleBatch_max_spec isInf (ietUtilities nS m unl cand annot U) b noises [] hfin hb hn hpos
  refine ⟨rs, h1, h2, h4, ?_, ?_⟩
  · intro r hr
    obtain ⟨v, hv⟩ := h5 r hr
    exact getElem?_ietUtilities_eq_some hm hrect hv
  · intro k hk q hq
    rw [h6 k hk]
    refine getD_none_of_not_some _ q fun v hv => ?_
    rw [getElem?_setNones] at hv
    by_cases hin : q ∈ (rs.map Prod.fst).take k ∧ q < (ietUtilities nS m unl cand annot U).length
    · rw [if_pos hin] at hv; cases hv
    · rw [if_neg hin] at hv
      rcases hq with hq | hq
      · have := getElem?_ietUtilities_eq_some hm hrect hv
        rw [hq] at this; cases this
      · exact hin ⟨hq, (List.getElem?_eq_some_iff.mp hv).1⟩

end IET

/-- On IntervalEstimationThreshold's documented domain (every candidate sample has all annotators
available; utilities are numbers) `#selectable = n_candidates * n_annotators = #available pairs`, so
`iet_valid` gives `k = min(batch_size, #available pairs)`.  Outside it only the pairs of fully
available samples are selectable (documented restriction of the strategy). -/
theorem iet_selectable_documented {α : Type} (nS m : Nat) (hm : 0 < m) (unl : List (List Bool)) (cand : Cand)
    (annot : Annot) (U : List (Option α))
    (hmp : ∀ mp, (transformCandAnnot nS m unl cand annot).1 = some mp →
      mp.Nodup ∧ (∀ s ∈ mp, s < nS) ∧ mp.length = (transformCandAnnot nS m unl cand annot).2.length)
    (hfull : ∀ r ∈ (transformCandAnnot nS m unl cand annot).2, allTrue r = true)
    (hU : ∀ p, p < (transformCandAnnot nS m unl cand annot).2.length * m → (U.getD p none).isSome = true) :
    countSome (ietUtilities nS m unl cand annot U) =
      (transformCandAnnot nS m unl cand annot).2.length * m := by
  rw [ietUtilities_eq]
  generalize transformCandAnnot nS m unl cand annot = tr at *
  obtain ⟨mapping, A⟩ := tr
  cases mapping with
  | none => exact countSome_ietMask m hm A U hfull hU
  | some mp =>
    obtain ⟨h1, h2, h3⟩ := hmp mp rfl
    exact (countSome_scatterRows nS m hm mp h1 h2 _ fun p hp => by
      rw [ietMask_getD_full m hm A U hfull p (h3 ▸ hp)]
      exact hU p (h3 ▸ hp)).trans (congrArg (· * m) h3)

end Ska.C07

namespace Ska.MultiAnnot.Regressions

/-- the loop of `_n_to_assign_annotators` **before repair 6c5fda89** (`while n_pairs < batch_size:` only) -/
def assignIterOld : Nat → Nat → List Nat → List Nat → Option (List Nat)
  | fuel, b, nmax, cur =>
    if b ≤ cur.sum then some cur
    else match fuel with
      | 0 => none
      | f + 1 => assignIterOld f b nmax (assignStep nmax cur)

def nToAssignOld (fuel b : Nat) (nmax pref : List Nat) : Option (List Nat) :=
  assignIterOld fuel b nmax (assignInit nmax pref)

theorem assignIterOld_none (fuel b : Nat) (nmax cur : List Nat) (h : nmax.sum < b)
    (hc : cur.sum ≤ nmax.sum) : assignIterOld fuel b nmax cur = none := by
  induction fuel generalizing cur with
  | zero => rw [assignIterOld, if_neg (Nat.not_le_of_lt (Nat.lt_of_le_of_lt hc h))]
  | succ f ih =>
    rw [assignIterOld, if_neg (Nat.not_le_of_lt (Nat.lt_of_le_of_lt hc h))]
    exact ih _ (assignStep_sum_le nmax cur)

/-- numbers with a `-inf` that absorbs addition (`-inf + 1 = -inf`), as IEEE doubles do -/
inductive Ext where
  | negInf
  | fin (n : Nat)
  deriving DecidableEq, Repr

def Ext.lt : Ext → Ext → Bool
  | .negInf, .negInf => false
  | .negInf, .fin _ => true
  | .fin _, .negInf => false
  | .fin a, .fin b => decide (a < b)

instance : LT Ext := ⟨fun a b => Ext.lt a b = true⟩
instance : DecidableLT Ext := fun a b => inferInstanceAs (Decidable (Ext.lt a b = true))
instance : Add Ext := ⟨fun a b => match a, b with
  | .fin x, .fin y => .fin (x + y)
  | _, _ => .negInf⟩
instance : OfNat Ext 1 := ⟨.fin 1⟩

end Ska.MultiAnnot.Regressions

namespace Ska.C07
open Ska Ska.C18 Ska.MultiAnnot

namespace Regressions
open Ska.MultiAnnot.Regressions

/-- **Divergence of the loop before repair 6c5fda89** (`while n_pairs < batch_size:` without the
saturation test): if the chosen samples have fewer than `batch_size` available annotators in total,
the old loop condition holds after every number of passes — the Python loop never exited. -/
theorem nToAssignOld_diverges (b : Nat) (nmax pref : List Nat) (h : nmax.sum < b) :
    ∀ fuel, nToAssignOld fuel b nmax pref = none :=
  fun fuel => assignIterOld_none fuel b nmax _ h (assignInit_sum_le nmax pref)

/-- Witness: one chosen sample without any available annotator, `batch_size = 1`. -/
theorem nToAssignOld_diverges_witness : ∀ fuel, nToAssignOld fuel 1 [0] [1] = none :=
  nToAssignOld_diverges 1 [0] [1] (by decide)

/-- the repaired loop exits on the same input, saturated -/
theorem nToAssign_repaired_witness : ∀ fuel, nToAssign fuel 1 [0] [1] = some [0] :=
  fun fuel => assignIter_stop fuel 1 [0] [0] (.inr rfl)

/-- **Counterexample for the ranking before repair 79ce7853**: two candidates whose inner utilities
are both `-inf` (TypiClust), chosen sample 0.  `np.nanmax(row) + 1 = -inf` does not lift the chosen
sample: it gets ordinal rank 1, *below* the other sample (rank 2), so the wrapper served the wrong
sample first (and later returned duplicate / unavailable pairs). -/
theorem rankRowOld_infinite_counterexample :
    rankRowOld Ext.negInf Ext.fin [some Ext.negInf, some Ext.negInf] 0 = [some (.fin 1), some (.fin 2)] := by
  decide

/-- the repaired ranking on the same input: the chosen sample gets `n + 1 = 3`, above every ordinal rank -/
theorem rankRow_repaired_witness :
    rankRow Ext.negInf Ext.fin [some Ext.negInf, some Ext.negInf] 0 = [some (.fin 3), some (.fin 2)] := by
  decide

end Regressions

/-- What the repaired query returns in the saturated case, on the former divergence witness
(`A = [[F,F],[T,T]]`, `batch_size = 1`, inner pick = sample 0 which has no annotator; utilities and noise
over `Nat`): `nAs = [0]`, and still one pair — the available pair `(1, 0)` (flat position 2) of the
other sample, with the utilities NaN on the unavailable row.  So `k = batch_size` also here. -/
theorem queryAnnotators_saturated_witness :
    (queryAnnotators (α := Nat) (β := Nat) 0 id 1 2 1 [[false, false], [true, true]]
      [[some 5, some 3]] [0] [0, 0, 0, 0] [1] [[1, 1, 1, 1]]).toOption =
      some ([0], [(2, [none, none, some 1, some 1])]) := by decide

example : ((transformCandAnnot 3 2 [[true, false], [false, false], [true, true]] .all (.idx [1])).2.getD 2 []).getD 1 false
    = true := by decide

example : transformCandAnnot 3 2 [[true, false], [false, false], [true, true]] .all .all =
    (some [0, 2], [[true, false], [true, true]]) := by decide

example : nToAssign 4 3 [2, 2] [1, 1] = some [2, 2] := by decide

example : expand [2, 1] [5, 3] = [5, 5, 3] := by decide

/-- the hypotheses of `queryAnnotators_valid` are satisfiable: two samples, two annotators, the inner
strategy picked sample 1 then sample 0, batch of two pairs -/
example {α : Type} [Field α] [LinearOrder α] [IsStrictOrderedRing α] :
    ∃ nAs out, queryAnnotators (β := Nat) (0 : α) (fun n => (n : α)) 3 2 2 [[true, true], [true, false]]
      [[some 0, some 1], [some 0, none]] [1, 0] [0, 0, 0, 0] [1, 1] [[1, 1, 1, 1], [1, 1, 1, 1]] = .ok (nAs, out) ∧
      out.length = 2 := by
  obtain ⟨nAs, out, h, hl, -⟩ := queryAnnotators_valid (β := Nat) (0 : α) (fun n => (n : α))
    (fun a b h => by exact_mod_cast h) 3 2 2 (by decide) [[true, true], [true, false]] (by decide)
    [[some 0, some 1], [some 0, none]] [1, 0] [0, 0, 0, 0] [1, 1] [[1, 1, 1, 1], [1, 1, 1, 1]] rfl rfl
    (indexed_of_forall₂ (.cons ⟨rfl, by decide, 1, rfl⟩ (.cons ⟨rfl, by decide, 0, rfl⟩ .nil)))
    (by decide) rfl
    (fun a ha => by obtain rfl := List.eq_of_mem_replicate (n := 4) ha; exact ⟨le_rfl, zero_lt_one⟩)
    (by decide) (by decide) (by decide) (by decide) (by decide) (by unfold PosNoise; decide)
  exact ⟨nAs, out, h, hl⟩

/-- the hypotheses of `wrapperQuery_valid` are satisfiable: two samples, two annotators, label matrix with
three missing entries, `candidates = annotators = None`, batch of two, inner picks 1 then 0 -/
example {α : Type} [Field α] [LinearOrder α] [IsStrictOrderedRing α] :
    ∃ res, wrapperQuery (β := Nat) (0 : α) (fun n => (n : α)) 2 2 [[true, true], [true, false]] .all .all 2
      (.int 1) [1, 0] [[some 0, some 1], [some 0, none]] [0, 0, 0, 0] [[1, 1, 1, 1], [1, 1, 1, 1]] = .ok res ∧
      res.picks.length = 2 ∧ res.picks.Nodup := by
  obtain ⟨res, h, -, -, -, hl, hn, -⟩ := wrapperQuery_valid (β := Nat) (0 : α) (fun n => (n : α))
    (fun a b h => by exact_mod_cast h) 2 2 (by decide) [[true, true], [true, false]] .all .all 2 (.int 1) [1, 0]
    [[some 0, some 1], [some 0, none]] [0, 0, 0, 0] [[1, 1, 1, 1], [1, 1, 1, 1]]
    (some [0, 1]) [[true, true], [true, false]] 2 (by decide) (by decide) (by decide)
    (by intro mp h; cases h; decide) rfl rfl (by decide)
    (indexed_of_forall₂ (P := fun (row : List (Option α)) (s : Nat) => (∃ v, row.getD s none = some v) ∧ s ∈ [0, 1])
      (.cons ⟨⟨1, rfl⟩, by decide⟩ (.cons ⟨⟨0, rfl⟩, by decide⟩ .nil)))
    rfl
    (fun a ha => by obtain rfl := List.eq_of_mem_replicate (n := 4) ha; exact ⟨le_rfl, zero_lt_one⟩)
    (by decide) rfl (by decide) (by decide) (by decide) (by unfold PosNoise; decide)
  exact ⟨res, h, hl, hn⟩

end Ska.C07
