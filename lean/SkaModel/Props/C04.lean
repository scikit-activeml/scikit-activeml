import SkaModel.Lemmas.Budget
import Mathlib.Algebra.Field.Rat
import Mathlib.Algebra.Order.Ring.Rat

/-!
# C04 — budget managers never spend more labels than the budget allows

Property theorems only; models in `SkaModel/Core/Budget.lean`, `Core/Stream.lean`, helper lemmas in
`SkaModel/Lemmas/SimLoop.lean` (the protocol: rounds, chunked runs) and `Lemmas/Budget.lean` (the arithmetic).

All statements are over an arbitrary ordered field `α` (exact arithmetic), for **every** utility stream
(`List (Option α)`, `none` = NaN; constant, maximal and NaN streams included), every window `w ≥ 1`
(not only integers), every budget `b > 0`, every stream of random draws (`uni`, `nrm : ℕ → α`), **every
chunking** of the stream into `idx = query(chunk); update(chunk, idx)` calls and **every prefix length
`n`**.  `runChunked M s chunks 0 = .ok r` says that no `update` raised; `r.1` are the granted positions in
the whole stream, so `(r.1.filter (· < n)).length` is the number of labels granted among the first `n`
instances.
-/

set_option linter.unusedSectionVars false

namespace Ska.C04
open Ska Ska.Budget

variable {α : Type} [Field α] [LinearOrder α] [IsStrictOrderedRing α]

/-- **guarded_decay_bound** (reference process of the window-based managers). An adversary proposes
arbitrary `wants`; a label is granted iff it is wanted and `u_t / w < b`; `u_{t+1} = u_t (w-1)/w + g_t`.
From any `0 ≤ u₀ < b w + 1` (in particular `u₀ = 0`), after every number of steps `u` stays in
`[0, b w + 1)` and the number of grants is `< b n + n/w + b w + 1`. -/
theorem guarded_decay_bound (w b : α) (hw : 1 ≤ w) (wants : List Bool) (u : α) (h0 : 0 ≤ u)
    (h1 : u < b * w + 1) :
    0 ≤ (simLoop (gBody w b) u wants).2 ∧ (simLoop (gBody w b) u wants).2 < b * w + 1 ∧
    (countTrue (simLoop (gBody w b) u wants).1 : α) < b * wants.length + wants.length / w + b * w + 1 := by
  obtain ⟨ha, (hu : (simLoop (gBody w b) u wants).2 = _)⟩ := (gBody_guarded w b).acc wants u
  obtain ⟨i0, i1, -⟩ := decay_core w b hw _ u h0 h1 ha
  have hb := decay_bound w b hw _ u h0 h1 ha
  rw [simLoop_length] at hb
  rw [hu]
  exact ⟨i0, i1, hb⟩

/-- Every guarded process — in particular each of the five window-based managers below — *is* the
reference process driven by some stream of wanted bits: same decisions, same `u_t` trajectory end. -/
theorem guarded_refines_reference {σ ι : Type} {step : σ → ι → Bool × σ} {proj : σ → α} {w b : α}
    (h : Guarded step proj w b) (xs : List ι) (s : σ) :
    ∃ wants : List Bool, wants.length = xs.length ∧
      (simLoop (gBody w b) (proj s) wants).1 = (simLoop step s xs).1 ∧
      (simLoop (gBody w b) (proj s) wants).2 = proj (simLoop step s xs).2 :=
  ⟨(simLoop step s xs).1, simLoop_length _ _ _, (guarded_runs_gBody h xs s).1, (guarded_runs_gBody h xs s).2⟩

-- The loop bodies of the five `query_by_utility` implementations are guarded by `u_t_`:
-- a label is granted only if `tmp_u_t / w < budget_`, and `tmp_u_t` follows the decay recursion.

theorem fixed_guarded (p : ZParams α) : Guarded (fixedBody p) ZState.u p.w p.b := Budget.fixed_guarded p
theorem variable_guarded (p : ZParams α) : Guarded (varBody p) ZState.u p.w p.b := Budget.var_guarded p
theorem randVar_guarded (p : ZParams α) (nrm : Nat → α) : Guarded (randVarBody p nrm) ZState.u p.w p.b :=
  Budget.randVar_guarded p nrm
theorem split_guarded (p : ZParams α) (uni : Nat → α) : Guarded (splitBody p uni) ZState.u p.w p.b :=
  Budget.split_guarded p uni
/-- for the random manager only grants on non-NaN utilities exist and count, as in the code -/
theorem random_guarded (p : ZParams α) (uni : Nat → α) : Guarded (randomBody p uni) ZState.u p.w p.b :=
  Budget.random_guarded p uni

/-- **FixedUncertaintyBudgetManager**: at most `budget*n + n/w + budget*w + 1` labels among the first
`n` instances, whatever the utilities and however the stream is chunked; no `update` raises. -/
theorem fixed_budget_respected (p : ZParams α) (hw : 1 ≤ p.w) (hb : 0 < p.b) (θ : α) (c : Nat)
    (chunks : List (List (Option α))) :
    ∃ r, runChunked (fixedMgr p) { u := 0, theta := θ, rng := c } chunks 0 = .ok r ∧
      ∀ n, n ≤ chunks.flatten.length →
        (((r.1.filter (fun j => decide (j < n))).length : Nat) : α) ≤ p.b * n + n / p.w + p.b * p.w + 1 :=
  window_bound_fresh (tracks_of_guarded (fixed_refines p) (fixed_guarded p)) hw hb.le ⟨0, θ, c⟩ rfl chunks

/-- **VariableUncertaintyBudgetManager** (all threshold dynamics `theta_`, all `s`). -/
theorem variable_budget_respected (p : ZParams α) (hw : 1 ≤ p.w) (hb : 0 < p.b) (θ : α) (c : Nat)
    (chunks : List (List (Option α))) :
    ∃ r, runChunked (varMgr p) { u := 0, theta := θ, rng := c } chunks 0 = .ok r ∧
      ∀ n, n ≤ chunks.flatten.length →
        (((r.1.filter (fun j => decide (j < n))).length : Nat) : α) ≤ p.b * n + n / p.w + p.b * p.w + 1 :=
  window_bound_fresh (tracks_of_guarded (var_refines p) (variable_guarded p)) hw hb.le ⟨0, θ, c⟩ rfl chunks

/-- **RandomVariableUncertaintyBudgetManager**, for every stream of normal draws. -/
theorem randVar_budget_respected (p : ZParams α) (nrm : Nat → α) (hw : 1 ≤ p.w) (hb : 0 < p.b) (θ : α)
    (c : Nat) (chunks : List (List (Option α))) :
    ∃ r, runChunked (randVarMgr p nrm) { u := 0, theta := θ, rng := c } chunks 0 = .ok r ∧
      ∀ n, n ≤ chunks.flatten.length →
        (((r.1.filter (fun j => decide (j < n))).length : Nat) : α) ≤ p.b * n + n / p.w + p.b * p.w + 1 :=
  window_bound_fresh (randVar_tracks p nrm) hw hb.le ⟨0, θ, c⟩ rfl chunks

/-- **SplitBudgetManager**, for every stream of uniform draws and every `v`. -/
theorem split_budget_respected (p : ZParams α) (uni : Nat → α) (hw : 1 ≤ p.w) (hb : 0 < p.b) (θ : α)
    (c : Nat) (chunks : List (List (Option α))) :
    ∃ r, runChunked (splitMgr p uni) { u := 0, theta := θ, rng := c } chunks 0 = .ok r ∧
      ∀ n, n ≤ chunks.flatten.length →
        (((r.1.filter (fun j => decide (j < n))).length : Nat) : α) ≤ p.b * n + n / p.w + p.b * p.w + 1 :=
  window_bound_fresh (tracks_of_guarded (split_refines p uni) (split_guarded p uni)) hw hb.le ⟨0, θ, c⟩ rfl chunks

/-- **RandomBudgetManager**, for every stream of uniform draws. -/
theorem random_budget_respected (p : ZParams α) (uni : Nat → α) (hw : 1 ≤ p.w) (hb : 0 < p.b) (θ : α)
    (c : Nat) (chunks : List (List (Option α))) :
    ∃ r, runChunked (randomMgr p uni) { u := 0, theta := θ, rng := c } chunks 0 = .ok r ∧
      ∀ n, n ≤ chunks.flatten.length →
        (((r.1.filter (fun j => decide (j < n))).length : Nat) : α) ≤ p.b * n + n / p.w + p.b * p.w + 1 :=
  window_bound_fresh (tracks_of_guarded (random_refines p uni) (random_guarded p uni)) hw hb.le ⟨0, θ, c⟩ rfl chunks

/-- The same bound from every reachable state (`0 ≤ u_t_ < b w + 1` is an invariant), e.g. for a
manager that has already seen part of a stream; stated for the split manager, `Budget.window_bound` gives it
(with `<`) for every manager that `Tracks` the guarded decayed counter. (`hb` is not needed: only the fresh
state uses it.) -/
theorem window_budget_respected_from (p : ZParams α) (uni : Nat → α) (hw : 1 ≤ p.w) (hb : 0 < p.b)
    (s : ZState α) (h0 : 0 ≤ s.u) (h1 : s.u < p.b * p.w + 1) (chunks : List (List (Option α))) :
    ∃ r, runChunked (splitMgr p uni) s chunks 0 = .ok r ∧
      ∀ n, n ≤ chunks.flatten.length →
        (((r.1.filter (fun j => decide (j < n))).length : Nat) : α) ≤ p.b * n + n / p.w + p.b * p.w + 1 := by
  obtain ⟨r, hr, hbnd⟩ :=
    window_bound (tracks_of_guarded (split_refines p uni) (split_guarded p uni)) hw s h0 h1 chunks
  exact ⟨r, hr, fun n hn => (hbnd n hn).le⟩

/-- **dbSplit_bound** — DensityBasedSplitBudgetManager: at most `budget*n + 1` (strictly fewer) labels
among the first `n` instances, for every stream of normal draws, any chunking. -/
theorem dbSplit_bound (p : DParams α) (nrm : Nat → α) (hb : 0 < p.b) (θ : α) (c : Nat)
    (chunks : List (List (Option α))) :
    ∃ r, runChunked (dbMgr p nrm) { u := 0, t := 0, theta := θ, rng := c } chunks 0 = .ok r ∧
      ∀ n, n ≤ chunks.flatten.length →
        (((r.1.filter (fun j => decide (j < n))).length : Nat) : α) ≤ p.b * n + 1 := by
  obtain ⟨r, hr, hbnd⟩ := counter_bound_fresh (db_tracks p hb.le nrm) chunks
    { u := 0, t := 0, theta := θ, rng := c } rfl (dbBnd_zero p.b)
  exact ⟨r, hr, fun n hn => (hbnd n hn).le⟩

/-- **periodic_bound** — PeriodicSampling: at most `budget*n` labels among the first `n` instances. -/
theorem periodic_bound (b : α) (hb : 0 < b) (c : Nat) (chunks : List (List Unit)) :
    ∃ r, runChunked (perMgr b) { obs := 0, qd := 0, rng := c } chunks 0 = .ok r ∧
      ∀ n, n ≤ chunks.flatten.length →
        (((r.1.filter (fun j => decide (j < n))).length : Nat) : α) ≤ b * n :=
  counter_bound_fresh (per_tracks b hb.le) chunks _ rfl (leBnd_zero b)

/-- **randomSampling_strict_bound** — StreamRandomSampling(allow_exceeding_budget=False): at most
`budget*n` labels among the first `n` instances, for every stream of uniform draws. -/
theorem randomSampling_strict_bound (b : α) (hb : 0 < b) (uni : Nat → α) (c : Nat) (chunks : List (List Unit)) :
    ∃ r, runChunked (srsMgr false b uni) { obs := 0, qd := 0, rng := c } chunks 0 = .ok r ∧
      ∀ n, n ≤ chunks.flatten.length →
        (((r.1.filter (fun j => decide (j < n))).length : Nat) : α) ≤ b * n :=
  counter_bound_fresh (srs_tracks b hb.le uni) chunks _ rfl (leBnd_zero b)

/-- **chunked_grants_eq**: for a manager that refines a per-instance process (every manager but the two
that consume normal draws: the `*_refines` lemmas of `Lemmas/Budget.lean`, used in `C10`), `query → update` per chunk grants exactly the labels of the per-instance process on
the concatenated stream and ends in its state — the `u_t_` trajectory and all guard evaluations are
the same however the stream is cut. -/
theorem chunked_grants_eq {σ ι : Type} {M : Mgr σ ι} {step : σ → ι → Bool × σ} (h : Refines M step)
    (chunks : List (List ι)) (s : σ) :
    runChunked M s chunks 0 =
      .ok (idxOf (simLoop step s chunks.flatten).1 0, (simLoop step s chunks.flatten).2) :=
  runChunked_eq h chunks s 0

theorem fixed_chunked_grants_eq (p : ZParams α) (chunks : List (List (Option α))) (s : ZState α) :
    runChunked (fixedMgr p) s chunks 0 =
      .ok (idxOf (simLoop (fixedBody p) s chunks.flatten).1 0, (simLoop (fixedBody p) s chunks.flatten).2) :=
  chunked_grants_eq (fixed_refines p) chunks s

theorem variable_chunked_grants_eq (p : ZParams α) (chunks : List (List (Option α))) (s : ZState α) :
    runChunked (varMgr p) s chunks 0 =
      .ok (idxOf (simLoop (varBody p) s chunks.flatten).1 0, (simLoop (varBody p) s chunks.flatten).2) :=
  chunked_grants_eq (var_refines p) chunks s

theorem split_chunked_grants_eq (p : ZParams α) (uni : Nat → α) (chunks : List (List (Option α)))
    (s : ZState α) :
    runChunked (splitMgr p uni) s chunks 0 =
      .ok (idxOf (simLoop (splitBody p uni) s chunks.flatten).1 0, (simLoop (splitBody p uni) s chunks.flatten).2) :=
  chunked_grants_eq (split_refines p uni) chunks s

theorem random_chunked_grants_eq (p : ZParams α) (uni : Nat → α) (chunks : List (List (Option α)))
    (s : ZState α) :
    runChunked (randomMgr p uni) s chunks 0 =
      .ok (idxOf (simLoop (randomBody p uni) s chunks.flatten).1 0, (simLoop (randomBody p uni) s chunks.flatten).2) :=
  chunked_grants_eq (random_refines p uni) chunks s

/-- `w = 4`, `budget = 1/4` over ℚ, an all-max utility stream cut into chunks 2+1+3: the manager sits
exactly on the guard boundary after its first grant (`u_t_/w = 1/4 = budget`, so instance 1 is refused)
and grants 0, 2 and 5. -/
example :
    runChunked (fixedMgr (α := ℚ) { w := 4, b := 1/4, s := 0, v := 0, nc := 2 }) { u := 0, theta := 0, rng := 0 }
      [[some 1, some 1], [some 1], [some 1, some 1, some 1]] 0
      = .ok ([0, 2, 5], { u := 1699/1024, theta := 0, rng := 0 }) := by
  decide +kernel

/-- the hypotheses of `variable_budget_respected` are satisfiable -/
example : ∃ r, runChunked (varMgr (α := ℚ) { w := 4, b := 1/4, s := 1/100, v := 0, nc := 0 })
    { u := 0, theta := 1, rng := 0 } [[some 1, none], [some (1/2)]] 0 = .ok r ∧
      ∀ n, n ≤ 3 → (((r.1.filter (fun j => decide (j < n))).length : Nat) : ℚ) ≤ 1/4 * n + n / 4 + 1/4 * 4 + 1 :=
  variable_budget_respected _ (by decide) (by decide +kernel) 1 0 _

end Ska.C04
