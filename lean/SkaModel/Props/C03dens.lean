import SkaModel.Core.Density

/-!
# C03 / C10 — the density window of `StreamDensityBasedAL`

Model: `SkaModel/Core/Density.lean` (`window_`, `min_dist_`, `_calculate_ldf`, the loops of `query` and `update`), tied to
the implementation by the bit-exact correspondence of check C03 (window contents, minimal distances and the density-filter
outcome of every instance after every call).  Statements hold for every distance function, every window size, every
history; no arithmetic is needed.
-/

set_option linter.unusedSectionVars false

namespace Ska.C03dens
open Ska Ska.Budget Ska.Density

variable {α : Type} [LT α] [DecidableLT α] {χ : Type}

/-- **C03**: `query` leaves `window_` and `min_dist_` exactly as they were, although the loop appends every candidate to
the live window and rewrites the live minimal distances (the model runs the loop on the live object and then puts the
saved deques back, as the code does). -/
theorem density_query_restores (w : Nat) (inf : α) (dist : χ → χ → α) (s : DW α χ) (xs : List χ) :
    (query w inf dist s xs).2 = s :=
  rfl

/-- **C03**: repeated queries with the same candidates see the same windows, hence report the same filter outcomes. -/
theorem density_query_repeat (w : Nat) (inf : α) (dist : χ → χ → α) (s : DW α χ) (xs : List χ) :
    (query w inf dist (query w inf dist s xs).2 xs).1 = (query w inf dist s xs).1 := by
  rw [density_query_restores]

/-- **C10** (window part): the density-filter outcomes `update` commits are the ones `query` simulated. -/
theorem density_update_commits_query (w : Nat) (inf : α) (dist : χ → χ → α) (s : DW α χ) (xs : List χ) :
    (update w inf dist s xs).1 = (query w inf dist s xs).1 := rfl

theorem pushMax_length {β : Type} (w : Nat) (l : List β) (x : β) :
    (pushMax w l x).length = min (l.length + 1) w := by
  simp only [pushMax, List.length_drop, List.length_append, List.length_singleton, Nat.sub_sub_eq_min]

theorem lowerTo_length (ms ds : List α) : (lowerTo ms ds).length = ms.length := by
  induction ms generalizing ds with
  | nil => rfl
  | cons m ms ih => cases ds <;> simp [lowerTo, ih]

theorem calcLdf_win (w : Nat) (inf : α) (dist : χ → χ → α) (s : DW α χ) (x : χ) :
    (calcLdf w inf dist s x).2.win = s.win := by
  unfold calcLdf; cases s.win.map (fun v => dist v x) <;> rfl

theorem calcLdf_md_length (w : Nat) (inf : α) (dist : χ → χ → α) (s : DW α χ) (x : χ) :
    (calcLdf w inf dist s x).2.md.length = min (s.md.length + 1) w := by
  unfold calcLdf; cases s.win.map (fun v => dist v x) <;> simp only [pushMax_length, lowerTo_length]

/-- the two deques are aligned (one minimal distance per window member) and within capacity -/
def Aligned (w : Nat) (s : DW α χ) : Prop := s.md.length = s.win.length ∧ s.win.length ≤ w

/-- **window invariant**: every instance processed by `query` / `update` keeps `min_dist_` aligned with `window_`
(so `distances < np.array(min_dist_)` compares arrays of equal length and never raises) and within `window_size`. -/
theorem step_aligned (w : Nat) (inf : α) (dist : χ → χ → α) (s : DW α χ) (x : χ) (h : Aligned w s) :
    Aligned w (step w inf dist s x).2 :=
  ⟨by rw [step, pushMax_length, calcLdf_md_length, calcLdf_win, h.1],
   by rw [step, pushMax_length]; exact Nat.min_le_right _ _⟩

theorem update_aligned (w : Nat) (inf : α) (dist : χ → χ → α) (xs : List χ) (s : DW α χ) (h : Aligned w s) :
    Aligned w (update w inf dist s xs).2 := by
  induction xs generalizing s with
  | nil => exact h
  | cons x xs ih => exact ih _ (step_aligned w inf dist s x h)

/-- a fresh object (empty deques) is aligned, so every reachable object is -/
theorem fresh_aligned (w : Nat) : Aligned w ({ win := [], md := [] } : DW α χ) :=
  ⟨rfl, Nat.zero_le w⟩

/-- the hypotheses are satisfiable and the loop really moves the live window: window size 2, three points on a line -/
example : (update 2 (100 : Int) (fun a b : Int => if a < b then b - a else a - b) { win := [], md := [] } [0, 5, 6]).2.win = [5, 6] := by
  decide

end Ska.C03dens
