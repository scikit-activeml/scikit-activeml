import SkaModel.Lemmas.SelectionGen
import SkaModel.Props.C18

/-!
# C18 for the selection primitives *as translated from the current Python source*

`SkaModel/Gen/SelectionGen.lean` is re-written by `harness/translate/pyselect.py` from
`skactiveml/utils/_selection.py` on every run of check C18 (`rand_argmax`, `rand_argmin`, `simple_batch` with
method "max", one-dimensional arrays).  Here the property theorems of `Props/C18.lean` are transferred to the
translated functions, which `Lemmas/SelectionGen.lean` proves equal to the hand-written model.
`draws k` is the vector the k-th call of `random_state.random(a.shape)` returns; `rs` counts the calls made so far.
-/

namespace Ska.SelectionGenProps
open Ska Ska.PySel Ska.Gen.Sel Ska.SelectionGen Ska.C18

variable {α : Type} [LinearOrder α]
variable {β : Type} [LinearOrder β] [Zero β]

/-- **tie**: the translated `rand_argmax` / `rand_argmin` are the modelled ones (and consume exactly one draw). -/
theorem gen_rand_argmax_eq (draws : Nat → List β) (rs : Nat) (a : List (Option α)) :
    rand_argmax draws rs a = (randArgmax a (draws rs), rs + 1) := rand_argmax_eq draws rs a

theorem gen_rand_argmin_eq (draws : Nat → List β) (rs : Nat) (a : List (Option α)) :
    rand_argmin draws rs a = (randArgmin a (draws rs), rs + 1) := rand_argmin_eq draws rs a

/-- **rand_argmax as translated returns the position of an exact maximum of the non-NaN entries** whenever some maximal
position carries positive noise. -/
theorem gen_rand_argmax_is_max (draws : Nat → List β) (rs : Nat) (a : List (Option α)) (m : α)
    (hlen : (draws rs).length = a.length) (hnn : ∀ n ∈ draws rs, 0 ≤ n) (hm : nanmax a = some m)
    (hpos : ∃ i, ∃ hi : i < a.length, a[i] = some m ∧ 0 < (draws rs)[i]) :
    a[(rand_argmax draws rs a).1]? = some (some m) := by
  rw [gen_rand_argmax_eq]
  exact randArgmax_is_max a (draws rs) m hlen hnn hm hpos

/-- **simple_batch (method "max") as translated**: for every utility vector without infinities, every batch size ≥ 1 and
all positive noise draws, the call succeeds and returns `min(batch_size, #non-NaN)` picks that are distinct, never NaN
entries, with utility rows in which exactly the earlier picks were turned to NaN, each pick attaining the maximum of its
row, in non-increasing order of utility. -/
theorem gen_simple_batch_max_spec (isInf : α → Bool) [Zero α] [Add α] (draws : Nat → List β) (rs : Nat)
    (u : List (Option α)) (b : Nat)
    (hfin : ∀ v, some v ∈ u → isInf v = false) (hb : 1 ≤ b)
    (hpos : ∀ k, (draws (rs + k)).length = u.length ∧ ∀ x ∈ draws (rs + k), 0 < x) :
    ∃ picks rows, simple_batch_max isInf draws rs u b = .ok (picks, rows) ∧
      picks.length = min b (countSome u) ∧ rows.length = picks.length ∧
      picks.Nodup ∧
      (∀ p ∈ picks, ∃ v, u[p]? = some (some v)) ∧
      (∀ k, ∀ hk : k < rows.length, rows[k] = setNones u (picks.take k)) ∧
      StepMax u (List.zip picks rows) ∧
      picks.Pairwise (fun i j => ∀ vi vj, u[i]? = some (some vi) → u[j]? = some (some vj) → vj ≤ vi) := by
  obtain ⟨r, hr, hlen, hstep, hnd, hval, hrows, hord⟩ :=
    simpleBatch_max_spec isInf u b ((List.range (min b (countSome u))).map (fun k => draws (rs + k))) [] hfin hb
      (by rw [List.length_map, List.length_range])
      (fun nz hnz => by obtain ⟨k, -, rfl⟩ := List.mem_map.1 hnz; exact hpos k)
  have hinf := hasInf_eq_false isInf u hfin
  rw [simpleBatch_max_eq isInf u b _ [] hinf hb] at hr
  refine ⟨r.map (·.1), r.map (·.2), by rw [simple_batch_max_of_valid isInf draws rs u b hinf hb, hr]; rfl,
    by rw [List.length_map, hlen],
    by rw [List.length_map, List.length_map], hnd, fun p hp => ?_, fun k hk => ?_,
    List.zip_of_prod rfl rfl ▸ hstep, hord⟩
  · obtain ⟨q, hq, rfl⟩ := List.mem_map.1 hp
    exact hval q hq
  · rw [List.getElem_map]; exact hrows k (by rw [← List.length_map (f := (·.2))]; exact hk)

/-- the hypotheses are satisfiable: three utilities with a tie, constant positive noise -/
example : ∃ picks rows, simple_batch_max (α := Int) (β := Int) (fun _ => false) (fun _ => [1, 1, 1]) 0 [some 2, none, some 2] 5
    = .ok (picks, rows) ∧ picks.length = 2 := ⟨_, _, rfl, rfl⟩

end Ska.SelectionGenProps
