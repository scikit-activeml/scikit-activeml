import SkaModel.Lemmas.IndexWrapper

/-! # C19 — index-based incremental refitting equals retraining from scratch

All statements quantify over every label type `L`, weight type `W`, kernel value type `κ`, every wrapped classifier
(`C`, `fitFn`, `pfitFn`), every flag combination in `Cfg` and every call sequence. The emulated `partial_fit` is treated by
refinement to training lists of `(index, label, weight)` triples and an invariant over call sequences, the native one by
naturality of the model in the classifier, the kernel speed-up by a relation between the objects with and without it.
`Ska.C19.Regressions` states how earlier versions of the code behaved, with counterexamples. -/

namespace Ska.C19
open Ska Ska.IW

variable {C C' L W κ : Type}

/-- **`fit` commutes with the abstraction** to training lists. -/
theorem abs_fit (cfg : Cfg L W) (fitFn : Data L W → C) (s s' : St C L W)
    (idx : List Int) (y : Option (List L)) (sw : Option (List W)) (sb : Bool)
    (hn : cfg.native = false) (h : fit cfg fitFn s idx y sw sb = (s', none)) :
    ∃ d : Data L W, d.Good cfg ∧ d.idx = idx ∧ resolveY cfg idx y = .ok d.y ∧ resolveSW cfg idx sw = .ok d.sw ∧
      s'.cur = some d ∧ s'.clf = some (fitFn d) ∧
      s'.base = (if sb then some d else s.base) ∧ s'.bclf = (if sb then some (fitFn d) else s.bclf) := by
  obtain ⟨d, hd, rfl⟩ := fit_ok h
  obtain ⟨hg, hi, hy, hw⟩ := fitArgs_ok hd
  rw [hn]
  exact ⟨d, hg, hi, hy, hw, rfl, rfl, by cases sb <;> rfl, rfl⟩

/-- **The emulated `partial_fit` commutes with the abstraction**: started from a good record it trains on, and stores,
a good record whose training list is `specPartial` of the start list and the added triples. -/
theorem abs_partialFit (cfg : Cfg L W) (fitFn : Data L W → C) (pfitFn : C → Data L W → C) (s s' : St C L W)
    (idx : List Int) (y : Option (List L)) (sw : Option (List W)) (ub sb : Bool)
    (hn : cfg.native = false)
    (hg : ∀ d, (if ub then s.base else s.cur) = some d → d.Good cfg)
    (h : partialFit cfg fitFn pfitFn s idx y sw ub sb = (s', none)) :
    ∃ start add d' : Data L W,
      (if ub then s.base else s.cur) = some start ∧
      add.idx = idx ∧ resolveY cfg idx y = .ok add.y ∧ resolveSW cfg idx sw = .ok add.sw ∧
      d'.Good cfg ∧ d'.triples = specPartial cfg.unique start.triples add.triples ∧
      s'.cur = some d' ∧ s'.clf = some (fitFn d') ∧
      s'.base = (if sb then some d' else s.base) ∧ s'.bclf = (if sb then some (fitFn d') else s.bclf) := by
  obtain ⟨ay, aw, c, d', hv, hr, rfl⟩ := partialFit_ok h
  rw [hn] at hr ⊢
  obtain ⟨hd', rfl⟩ := refit_ok hr
  obtain ⟨-, -, hy, hw⟩ := validatePartial_ok hv
  have ha : (⟨idx, ay, aw⟩ : Data L W).WF := resolved_wf hy hw
  obtain ⟨d, m, hstart, hm, hf⟩ := emuRecord_ok hd'
  obtain ⟨-, htr, -, hsw⟩ := merge_ok_spec (hg d hstart).1 ha hm
  -- the closing `fit` re-validates the merged record and trains on it unchanged
  cases fitArgs_self cfg m d' (fun h0 => hsw ▸ (hg d hstart).2.2.2.1 h0) hf
  exact ⟨d, ⟨idx, ay, aw⟩, d', hstart, rfl, hy, hw, emuRecord_good hd', htr, rfl, rfl, by cases sb <;> rfl, rfl⟩

/-- Invariant of the emulated path: the recorded training records are in step, within range, without
duplicates in unique mode, and the (base) classifier — whenever both it and a record exist — is
`fitFn` of that record, i.e. a fresh copy of the wrapped classifier trained on exactly the recorded
triples. (`clf = some c` with `cur = none` is the classifier handed over already fitted.) -/
def Inv (cfg : Cfg L W) (fitFn : Data L W → C) (s : St C L W) : Prop :=
  (∀ d, s.cur = some d → d.Good cfg) ∧ (∀ d, s.base = some d → d.Good cfg) ∧
  (∀ c d, s.clf = some c → s.cur = some d → c = fitFn d) ∧
  (∀ c d, s.bclf = some c → s.base = some d → c = fitFn d)

theorem init_inv (cfg : Cfg L W) (fitFn : Data L W → C) (pre : Option C) (sb : Bool) (s : St C L W)
    (h : init cfg pre sb = .ok s) : Inv cfg fitFn s := by
  cases init_ok h
  exact ⟨fun _ h => (by cases h), fun _ h => (by cases h), fun _ _ _ h => (by cases h), fun _ _ _ h => (by cases h)⟩

theorem store_inv (cfg : Cfg L W) (fitFn : Data L W → C) (s : St C L W) (d : Data L W) (sb : Bool)
    (hi : Inv cfg fitFn s) (hd : d.Good cfg) : Inv cfg fitFn (s.store false (fitFn d) d sb) := by
  have A : ∀ d', some d = some d' → d'.Good cfg := fun _ h => Option.some.inj h ▸ hd
  have B : ∀ c d', some (fitFn d) = some c → some d = some d' → c = fitFn d' := by
    intro _ _ hc hd'; cases hc; cases hd'; rfl
  cases sb
  · exact ⟨A, hi.2.1, B, hi.2.2.2⟩
  · exact ⟨A, A, B, B⟩

theorem step_inv (cfg : Cfg L W) (fitFn : Data L W → C) (pfitFn : C → Data L W → C)
    (s : St C L W) (op : Op L W) (hn : cfg.native = false) (hi : Inv cfg fitFn s) :
    Inv cfg fitFn (step cfg fitFn pfitFn s op).1 := by
  rcases step_cases cfg fitFn pfitFn s op with h | ⟨c, d, sb, h, hd⟩ <;> rw [h]
  · exact hi
  · obtain ⟨hg, rfl⟩ := hd hn
    rw [hn]
    exact store_inv cfg fitFn s d sb hi hg

/-- **After every call sequence** (induction over the sequence, raising calls included) the wrapped classifier
is `fitFn` of the recorded training list — a fresh copy trained on exactly the implied triples — **for every
`fitFn`**; likewise the base classifier. -/
theorem clf_is_fresh_fit (cfg : Cfg L W) (fitFn : Data L W → C) (pfitFn : C → Data L W → C)
    (hn : cfg.native = false) (ops : List (Op L W)) (s : St C L W) (hi : Inv cfg fitFn s) :
    Inv cfg fitFn (run cfg fitFn pfitFn s ops) := by
  induction ops generalizing s with
  | nil => exact hi
  | cons op ops ih => exact ih _ (step_inv cfg fitFn pfitFn s op hn hi)

/-- `fit` never changes the object when it raises. -/
theorem fit_error_atomic (cfg : Cfg L W) (fitFn : Data L W → C) (s : St C L W)
    (idx : List Int) (y : Option (List L)) (sw : Option (List W)) (sb : Bool)
    (h : (fit cfg fitFn s idx y sw sb).2 ≠ none) : (fit cfg fitFn s idx y sw sb).1 = s := by
  rw [fit_eq] at h ⊢; exact commit_error h

/-- `partial_fit` does not change the object when the arguments are rejected by the validation or the
(base) classifier is not fitted. -/
theorem partialFit_rejected_atomic (cfg : Cfg L W) (fitFn : Data L W → C) (pfitFn : C → Data L W → C)
    (s : St C L W) (idx : List Int) (y : Option (List L)) (sw : Option (List W)) (ub sb : Bool) (e : Err)
    (h : validatePartial cfg s idx y sw ub = .error e) :
    partialFit cfg fitFn pfitFn s idx y sw ub sb = (s, some e) :=
  by unfold partialFit; rw [h]

/-- **`partial_fit` never changes the object when it raises**, on the native and on the emulated path, whatever
the exception (argument validation, `NotFittedError`, mixed weights, index below `-n`, base data unknown). -/
theorem partialFit_error_atomic (cfg : Cfg L W) (fitFn : Data L W → C) (pfitFn : C → Data L W → C)
    (s : St C L W) (idx : List Int) (y : Option (List L)) (sw : Option (List W)) (ub sb : Bool)
    (h : (partialFit cfg fitFn pfitFn s idx y sw ub sb).2 ≠ none) :
    (partialFit cfg fitFn pfitFn s idx y sw ub sb).1 = s := by
  rw [partialFit_eq] at h ⊢; exact commit_error h

/-- every call on the wrapper is atomic -/
theorem step_error_atomic (cfg : Cfg L W) (fitFn : Data L W → C) (pfitFn : C → Data L W → C)
    (s : St C L W) (op : Op L W) (h : (step cfg fitFn pfitFn s op).2 ≠ none) :
    (step cfg fitFn pfitFn s op).1 = s := by
  cases op with
  | fit idx y sw sb => exact fit_error_atomic cfg fitFn s idx y sw sb h
  | pfit idx y sw ub sb => exact partialFit_error_atomic cfg fitFn pfitFn s idx y sw ub sb h

/-- in unique mode the recorded index lists have no duplicates -/
def NodupInv (cfg : Cfg L W) (s : St C L W) : Prop :=
  cfg.unique = true → (∀ d, s.cur = some d → d.idx.Nodup) ∧ (∀ d, s.base = some d → d.idx.Nodup)

theorem store_nodup (cfg : Cfg L W) (s : St C L W) (c : C) (d : Data L W) (sb : Bool)
    (hi : NodupInv cfg s) (hd : cfg.native = false → d.Good cfg) : NodupInv cfg (s.store cfg.native c d sb) := by
  intro hu
  cases hn : cfg.native
  · have A : ∀ d', some d = some d' → d'.idx.Nodup := fun _ h => Option.some.inj h ▸ (hd hn).2.1 hu
    cases sb
    · exact ⟨A, (hi hu).2⟩
    · exact ⟨A, A⟩
  · cases sb <;> exact hi hu

/-- `enforce_unique_samples → idx_ and base_idx_ have no duplicates`, after every call. -/
theorem enforceUnique_nodup (cfg : Cfg L W) (fitFn : Data L W → C) (pfitFn : C → Data L W → C)
    (s : St C L W) (op : Op L W) (hi : NodupInv cfg s) :
    NodupInv cfg (step cfg fitFn pfitFn s op).1 := by
  rcases step_cases cfg fitFn pfitFn s op with h | ⟨c, d, sb, h, hd⟩ <;> rw [h]
  · exact hi
  · exact store_nodup cfg s c d sb hi fun hn => (hd hn).1

/-- **Without `set_base_clf` no call touches the base classifier or its training record** (whether it raises or
not): the base is never aliased by the current model. -/
theorem base_unchanged_without_setBase (cfg : Cfg L W) (fitFn : Data L W → C) (pfitFn : C → Data L W → C)
    (s : St C L W) (idx : List Int) (y : Option (List L)) (sw : Option (List W)) (ub : Bool) :
    ((fit cfg fitFn s idx y sw false).1.base = s.base ∧ (fit cfg fitFn s idx y sw false).1.bclf = s.bclf) ∧
    ((partialFit cfg fitFn pfitFn s idx y sw ub false).1.base = s.base ∧
      (partialFit cfg fitFn pfitFn s idx y sw ub false).1.bclf = s.bclf) := by
  have key : ∀ r : Except Err (C × Data L W),
      (commit cfg.native s false r).1.base = s.base ∧ (commit cfg.native s false r).1.bclf = s.bclf := by
    intro r; rcases r with e | p <;> exact ⟨rfl, rfl⟩
  rw [fit_eq, partialFit_eq]
  exact ⟨key _, key _⟩

/-- **`partial_fit(use_base_clf=True)` restarts from the base**: two objects with the same base classifier and base
record raise the same exception or end, if the call returns, in the same state, whatever their current classifiers
were — and, on the emulated path, whatever their current records were, provided both have one or neither has
(`hcur`). On the native path the call leaves the current record as it is, so there they are assumed equal (`hnat`). -/
theorem partialFit_useBase_independent_of_cur (cfg : Cfg L W) (fitFn : Data L W → C) (pfitFn : C → Data L W → C)
    (s t : St C L W) (idx : List Int) (y : Option (List L)) (sw : Option (List W)) (sb : Bool)
    (hb : s.base = t.base) (hc : s.bclf = t.bclf)
    (hcur : cfg.native = false → (s.cur = none ↔ t.cur = none))
    (hnat : cfg.native = true → s.cur = t.cur) :
    (partialFit cfg fitFn pfitFn s idx y sw true sb).2 = (partialFit cfg fitFn pfitFn t idx y sw true sb).2 ∧
    ((partialFit cfg fitFn pfitFn s idx y sw true sb).2 = none →
      (partialFit cfg fitFn pfitFn s idx y sw true sb).1 = (partialFit cfg fitFn pfitFn t idx y sw true sb).1) := by
  rw [partialFit_eq, partialFit_eq, partialOutcome_useBase_congr cfg fitFn pfitFn s t idx y sw hb hc hcur]
  rcases partialOutcome cfg fitFn pfitFn t idx y sw true with e | p
  · exact ⟨rfl, fun h => by cases h⟩
  · refine ⟨rfl, fun _ => ?_⟩
    show s.store cfg.native p.1 p.2 sb = t.store cfg.native p.1 p.2 sb
    unfold St.store
    rw [hb, hc]
    cases hn : cfg.native
    · rfl
    · rw [hnat hn]

/-- The property speaks of the *multiset* of triples: for a wrapped classifier that does not depend on
the order of its training samples, any list with the same multiset gives the same classifier. -/
theorem clf_depends_only_on_multiset {T : Type} (g : List (Int × L × Option W) → T)
    (hg : ∀ a b, a.Perm b → g a = g b) (d : Data L W) (ts : List (Int × L × Option W))
    (h : d.triples.Perm ts) : g d.triples = g ts := hg _ _ h

/-- change of classifier representation -/
def mapSt (φ : C → C') (s : St C L W) : St C' L W := ⟨s.clf.map φ, s.cur, s.bclf.map φ, s.base⟩

theorem commit_natural (φ : C → C') (native : Bool) (s : St C L W) (sb : Bool) (r : Except Err (C × Data L W)) :
    commit native (mapSt φ s) sb (r.map (Prod.map φ id)) =
      (mapSt φ (commit native s sb r).1, (commit native s sb r).2) := by
  rcases r with e | p
  · rfl
  · cases sb <;> rfl

theorem refit_natural (φ : C → C') (fitFn : Data L W → C) (fitFn' : Data L W → C') (hf : ∀ d, φ (fitFn d) = fitFn' d)
    (r : Except Err (Data L W)) : refit fitFn' r = (refit fitFn r).map (Prod.map φ id) := by
  cases r with
  | error e => rfl
  | ok d => exact congrArg (fun c => Except.ok (c, d)) (hf d).symm

section Natural
variable (cfg : Cfg L W) (φ : C → C') (fitFn : Data L W → C) (pfitFn : C → Data L W → C)
  (fitFn' : Data L W → C') (pfitFn' : C' → Data L W → C')
  (hf : ∀ d, φ (fitFn d) = fitFn' d) (hp : ∀ c d, φ (pfitFn c d) = pfitFn' (φ c) d)
include hf hp

theorem partialOutcome_natural (s : St C L W) (idx : List Int) (y : Option (List L)) (sw : Option (List W)) (ub : Bool) :
    partialOutcome cfg fitFn' pfitFn' (mapSt φ s) idx y sw ub =
      (partialOutcome cfg fitFn pfitFn s idx y sw ub).map (Prod.map φ id) := by
  -- the validation only asks whether a classifier is there; the records are untouched by `mapSt`
  have hv := validatePartial_congr cfg (mapSt φ s) s idx y sw ub (by cases ub <;> exact Option.isNone_map)
  unfold partialOutcome
  rw [hv]
  cases validatePartial cfg s idx y sw ub with
  | error e => rfl
  | ok p =>
    cases cfg.native
    · exact refit_natural φ fitFn fitFn' hf _
    · have ho : (if ub then (mapSt φ s).bclf else (mapSt φ s).clf) = (if ub then s.bclf else s.clf).map φ := by
        cases ub <;> rfl
      simp only [nativeOutcome, if_true, ho]
      cases xIndexOk cfg idx
      · rfl
      · cases (if ub then s.bclf else s.clf) with
        | none => rfl
        | some c => exact congrArg (fun c' => Except.ok (c', _)) (hp c _).symm

theorem step_natural (s : St C L W) (op : Op L W) :
    step cfg fitFn' pfitFn' (mapSt φ s) op =
      (mapSt φ (step cfg fitFn pfitFn s op).1, (step cfg fitFn pfitFn s op).2) := by
  cases op with
  | fit idx y sw sb => rw [step, step, fit_eq, fit_eq, refit_natural φ fitFn fitFn' hf, commit_natural]
  | pfit idx y sw ub sb =>
    rw [step, step, partialFit_eq, partialFit_eq, partialOutcome_natural cfg φ fitFn pfitFn fitFn' pfitFn' hf hp,
      commit_natural]

theorem run_natural (ops : List (Op L W)) (s : St C L W) :
    run cfg fitFn' pfitFn' (mapSt φ s) ops = mapSt φ (run cfg fitFn pfitFn s ops) := by
  induction ops generalizing s with
  | nil => rfl
  | cons op ops ih =>
    simp only [run]
    rw [step_natural cfg φ fitFn pfitFn fitFn' pfitFn' hf hp s op]
    exact ih _

end Natural

theorem replay_fit (fitFn : Data L W → C) (pfitFn : C → Data L W → C) (d : Data L W) :
    Hist.replay fitFn pfitFn (Hist.fit d) = fitFn d := rfl

theorem replay_pfit (fitFn : Data L W → C) (pfitFn : C → Data L W → C) (h : Hist L W) (d : Data L W) :
    Hist.replay fitFn pfitFn (Hist.pfit h d) = pfitFn (Hist.replay fitFn pfitFn h) d := by
  rw [Hist.replay, Hist.pfit, List.foldl_append]
  rfl

/-- **For every wrapped classifier (`fitFn`, `pfitFn`), every flag setting and every call sequence — raising
calls included —** the classifier held by the wrapper (and the base classifier) equals a fresh copy put through
exactly the recorded sequence of `fit` / native `partial_fit` calls: the recorded sequence is what the same run
yields on the free classifier `Hist`, which only logs its calls. (On the native path equality with *batch*
retraining is not claimed: it depends on the estimator.) On the emulated path the recorded sequence is a single
`fit`, see `clf_is_fresh_fit`. -/
theorem clf_is_replay (cfg : Cfg L W) (fitFn : Data L W → C) (pfitFn : C → Data L W → C)
    (ops : List (Op L W)) :
    run cfg fitFn pfitFn ⟨none, none, none, none⟩ ops =
      mapSt (Hist.replay fitFn pfitFn) (run cfg Hist.fit Hist.pfit ⟨none, none, none, none⟩ ops) :=
  run_natural cfg (Hist.replay fitFn pfitFn) Hist.fit Hist.pfit fitFn pfitFn
    (replay_fit fitFn pfitFn) (replay_pfit fitFn pfitFn) ops ⟨none, none, none, none⟩

/-- What the free run records on the native path: a successful `fit` starts a new history… -/
theorem native_fit_hist (cfg : Cfg L W) (s s' : St (Hist L W) L W)
    (idx : List Int) (y : Option (List L)) (sw : Option (List W)) (sb : Bool) (hn : cfg.native = true)
    (h : fit cfg Hist.fit s idx y sw sb = (s', none)) :
    ∃ d : Data L W, d.idx = idx ∧ resolveY cfg idx y = .ok d.y ∧ resolveSW cfg idx sw = .ok d.sw ∧
      s'.clf = some ⟨d, []⟩ ∧ s'.bclf = (if sb then some ⟨d, []⟩ else s.bclf) ∧ s'.cur = s.cur ∧ s'.base = s.base := by
  obtain ⟨d, hd, rfl⟩ := fit_ok h
  obtain ⟨-, hi, hy, hw⟩ := fitArgs_ok hd
  rw [hn]
  exact ⟨d, hi, hy, hw, rfl, rfl, rfl, by cases sb <;> rfl⟩

/-- …and a successful native `partial_fit` appends the new batch to the history of the current
classifier, or of the base classifier with `use_base_clf`; `set_base_clf` stores the result. -/
theorem native_partialFit_hist (cfg : Cfg L W) (s s' : St (Hist L W) L W)
    (idx : List Int) (y : Option (List L)) (sw : Option (List W)) (ub sb : Bool) (hn : cfg.native = true)
    (h : partialFit cfg Hist.fit Hist.pfit s idx y sw ub sb = (s', none)) :
    ∃ (start : Hist L W) (d : Data L W), (if ub then s.bclf else s.clf) = some start ∧
      d.idx = idx ∧ resolveY cfg idx y = .ok d.y ∧ resolveSW cfg idx sw = .ok d.sw ∧
      s'.clf = some ⟨start.first, start.rest ++ [d]⟩ ∧
      s'.bclf = (if sb then some ⟨start.first, start.rest ++ [d]⟩ else s.bclf) ∧ s'.cur = s.cur ∧ s'.base = s.base := by
  obtain ⟨ay, aw, c, d, hv, hr, rfl⟩ := partialFit_ok h
  obtain ⟨-, -, hy, hw⟩ := validatePartial_ok hv
  rw [hn, if_pos rfl] at hr
  obtain ⟨start, hst, rfl, rfl⟩ := nativeOutcome_ok hr
  rw [hn]
  exact ⟨start, _, hst, rfl, hy, hw, rfl, rfl, rfl, by cases sb <;> rfl⟩

/-- every filled entry of `pwc_K_` is the kernel value of its pair -/
def TabSound (k : Nat → Nat → κ) (pre : Tab κ) : Prop := ∀ i j v, pre i j = some v → v = k i j

theorem tab_empty_sound (k : Nat → Nat → κ) : TabSound k Tab.empty := by
  intro i j v h; cases h

theorem precompute_cases (cfg : Cfg L W) (isMissing : L → Bool) (k : Nat → Nat → κ) (pre : Tab κ)
    (a b : List Int) (fp pp : Nat) :
    (precompute cfg isMissing k pre a b fp pp).1 = pre ∨
    ∃ p : Nat → Nat → Bool,
      (precompute cfg isMissing k pre a b fp pp).1 = fun i j => if p i j then some (k i j) else pre i j := by
  unfold precompute
  cases checkIdxPre cfg a with
  | some e => exact .inl rfl
  | none =>
  cases checkIdxPre cfg b with
  | some e => exact .inl rfl
  | none =>
  cases cfg.speed with
  | false => exact .inl rfl
  | true =>
  cases filterParam cfg isMissing fp a with
  | error e => exact .inl rfl
  | ok a' =>
  cases filterParam cfg isMissing pp b with
  | error e => exact .inl rfl
  | ok b' =>
  dsimp only
  cases (a'.isEmpty || b'.isEmpty) with
  | true => exact .inl rfl
  | false =>
  cases mapOpt (normIdx cfg.n) a' with
  | none => exact .inl rfl
  | some an =>
  cases mapOpt (normIdx cfg.n) b' with
  | none => exact .inl rfl
  | some bn => exact .inr ⟨fun i j => an.contains i && bn.contains j, rfl⟩

/-- `precompute` only ever writes kernel values, and never erases an entry. -/
theorem precompute_sound (cfg : Cfg L W) (isMissing : L → Bool) (k : Nat → Nat → κ) (pre : Tab κ)
    (a b : List Int) (fp pp : Nat) (hs : TabSound k pre) :
    TabSound k (precompute cfg isMissing k pre a b fp pp).1 ∧
    ∀ i j, pre i j ≠ none → (precompute cfg isMissing k pre a b fp pp).1 i j ≠ none := by
  rcases precompute_cases cfg isMissing k pre a b fp pp with h | ⟨p, h⟩ <;> rw [h]
  · exact ⟨hs, fun _ _ h => h⟩
  · refine ⟨fun i j v hv => ?_, fun i j hn => ?_⟩
    · dsimp only at hv
      split at hv
      · exact (Option.some.inj hv).symm
      · exact hs i j v hv
    · dsimp only
      split
      · exact Option.some_ne_none _
      · exact hn

theorem checkIdxPre_isEmpty {cfg : Cfg L W} {a : List Int} (h : checkIdxPre cfg a = none) : a.isEmpty = false :=
  Bool.eq_false_iff.mpr (ite_some_eq_none_iff.mp h).1

/-- after `precompute(idx_fit, idx_pred)` (with the default `"all"` parameters) every pair
(fit index, predict index) is available -/
theorem precompute_covers (cfg : Cfg L W) (isMissing : L → Bool) (k : Nat → Nat → κ) (pre : Tab κ)
    (a b : List Int) (an bn : List Nat) (hsp : cfg.speed = true)
    (ha : checkIdxPre cfg a = none) (hb : checkIdxPre cfg b = none)
    (han : mapOpt (normIdx cfg.n) a = some an) (hbn : mapOpt (normIdx cfg.n) b = some bn) :
    (precompute cfg isMissing k pre a b 0 0).2 = none ∧
    ∀ i ∈ an, ∀ j ∈ bn, (precompute cfg isMissing k pre a b 0 0).1 i j = some (k i j) := by
  have hp : precompute cfg isMissing k pre a b 0 0 =
      (fun i j => if an.contains i && bn.contains j then some (k i j) else pre i j, none) := by
    simp only [precompute, ha, hb, hsp, filterParam, Bool.not_true, Bool.false_eq_true, if_false, if_true,
      checkIdxPre_isEmpty ha, checkIdxPre_isEmpty hb, Bool.or_self, han, hbn]
  rw [hp]
  exact ⟨rfl, fun i hi j hj => if_pos (by simp [hi, hj])⟩

theorem tableRow_sound (k : Nat → Nat → κ) (pre : Tab κ) (hs : TabSound k pre) (tr : List Nat) (j : Nat)
    (row : List κ) (h : tableRow pre tr j = some row) : row = tr.map (fun i => k i j) :=
  mapOpt_some_eq_map _ _ tr row h (fun i v hv => hs i j v hv)

theorem tableRows_eq (cfg : Cfg L W) (pre : Tab κ) (train q : List Int) (tr qs : List Nat)
    (htr : mapOpt (normIdx cfg.n) train = some tr) (hqs : mapOpt (normIdx cfg.n) q = some qs) :
    tableRows cfg pre train q =
      match mapOpt (tableRow pre tr) qs with
      | some rows => .ok rows
      | none => .error .nan := by
  unfold tableRows
  rw [htr, hqs]
  rfl

theorem tableRows_ok {cfg : Cfg L W} {pre : Tab κ} {train q : List Int} {rows : List (List κ)}
    (h : tableRows cfg pre train q = .ok rows) :
    ∃ tr qs, mapOpt (normIdx cfg.n) train = some tr ∧ mapOpt (normIdx cfg.n) q = some qs ∧
      mapOpt (tableRow pre tr) qs = some rows := by
  unfold tableRows at h
  cases htr : mapOpt (normIdx cfg.n) train with
  | none => simp only [htr] at h; cases h
  | some tr =>
    cases hqs : mapOpt (normIdx cfg.n) q with
    | none => simp only [htr, hqs] at h; cases h
    | some qs =>
      simp only [htr, hqs] at h
      cases hrows : mapOpt (tableRow pre tr) qs with
      | none => simp only [hrows] at h; cases h
      | some rows' =>
        simp only [hrows] at h
        cases h
        exact ⟨tr, qs, rfl, rfl, hrows⟩

/-- **What the speed-up hands to the precomputed clone is the kernel matrix the original classifier
computes itself**: if the table is sound and the kernel symmetric, a successful lookup yields
`pairwise_kernels(X[idx], X[idx_])` entry by entry. -/
theorem tableRows_eq_direct (cfg : Cfg L W) (k : Nat → Nat → κ) (pre : Tab κ) (hs : TabSound k pre)
    (hsym : ∀ i j, k i j = k j i) (train q : List Int) (rows : List (List κ))
    (h : tableRows cfg pre train q = .ok rows) :
    ∃ tr qs, mapOpt (normIdx cfg.n) train = some tr ∧ mapOpt (normIdx cfg.n) q = some qs ∧
      rows = directRows k tr qs := by
  obtain ⟨tr, qs, htr, hqs, hrows⟩ := tableRows_ok h
  refine ⟨tr, qs, htr, hqs, mapOpt_some_eq_map _ _ qs rows hrows fun j row hrow => ?_⟩
  rw [tableRow_sound k pre hs tr j row hrow]
  exact List.map_congr_left fun i _ => hsym i j

theorem tableRows_complete (cfg : Cfg L W) (pre : Tab κ) (train q : List Int) (tr qs : List Nat)
    (htr : mapOpt (normIdx cfg.n) train = some tr) (hqs : mapOpt (normIdx cfg.n) q = some qs)
    (hall : ∀ i ∈ tr, ∀ j ∈ qs, pre i j ≠ none) :
    ∃ rows, tableRows cfg pre train q = .ok rows := by
  rw [tableRows_eq cfg pre train q tr qs htr hqs]
  cases hr : mapOpt (tableRow pre tr) qs with
  | some rows => exact ⟨rows, rfl⟩
  | none =>
    obtain ⟨j, hj, hn⟩ := (mapOpt_eq_none_iff _ qs).mp hr
    obtain ⟨i, hi, hm⟩ := (mapOpt_eq_none_iff _ tr).mp hn
    exact absurd hm (hall i hi j hj)

/-- The code never guesses: one needed pair missing makes every `predict*` raise the "not pre-computed"
`ValueError`. -/
theorem speedup_nan_raises (cfg : Cfg L W) (pre : Tab κ) (train q : List Int) (tr qs : List Nat)
    (htr : mapOpt (normIdx cfg.n) train = some tr) (hqs : mapOpt (normIdx cfg.n) q = some qs)
    (i j : Nat) (hi : i ∈ tr) (hj : j ∈ qs) (hmiss : pre i j = none) :
    tableRows cfg pre train q = .error .nan := by
  rw [tableRows_eq cfg pre train q tr qs htr hqs,
    (mapOpt_eq_none_iff _ qs).mpr ⟨j, hj, (mapOpt_eq_none_iff _ tr).mpr ⟨i, hi, hmiss⟩⟩]

/-- how a plan is answered: the precomputed clone is the same function `predRows` of the kernel rows as
the original classifier (Parzen window: `K @ V_`, see `freqRows`), which computes its rows itself -/
def planEval {R : Type} (predRows : Kind → List (List κ) → R) (k : Nat → Nat → κ) (train : List Nat) :
    Plan κ → Option R
  | .table kind rows => some (predRows kind rows)
  | .direct kind qs => some (predRows kind (directRows k train qs))
  | .orig _ _ => none

theorem predictPlan_speed_false (cfg : Cfg L W) (orig : Bool) (s : St C L W) (pre : Tab κ) (kind : Kind) (q : List Int)
    (qs : List Nat) (hqs : mapOpt (normIdx cfg.n) q = some qs) (hclf : s.clf.isNone = false) :
    predictPlan { cfg with speed := false } orig s pre kind q = .ok (.direct kind qs) := by
  simp only [predictPlan, Bool.false_eq_true, if_false, hqs, hclf]

/-- **If every needed pair was precomputed and the kernel is symmetric, every prediction through the table
equals the prediction by direct kernel evaluation**: same state, same query, `use_speed_up` on vs off (the call
sequence itself never reads the flag). -/
theorem speedup_eq_direct {R : Type} (cfg : Cfg L W) (predRows : Kind → List (List κ) → R)
    (k : Nat → Nat → κ) (pre : Tab κ) (hs : TabSound k pre) (hsym : ∀ i j, k i j = k j i)
    (s : St C L W) (d : Data L W) (tr qs : List Nat) (kind : Kind) (q : List Int) (orig : Bool)
    (hcur : s.cur = some d) (hclf : s.clf.isNone = false)
    (htr : mapOpt (normIdx cfg.n) d.idx = some tr) (hqs : mapOpt (normIdx cfg.n) q = some qs)
    (hall : ∀ i ∈ tr, ∀ j ∈ qs, pre i j ≠ none) :
    ∃ pOn pOff,
      predictPlan { cfg with speed := true } orig s pre kind q = .ok pOn ∧
      predictPlan { cfg with speed := false } orig s pre kind q = .ok pOff ∧
      planEval predRows k tr pOn = planEval predRows k tr pOff ∧ planEval predRows k tr pOn ≠ none := by
  obtain ⟨rows, hrows⟩ := tableRows_complete { cfg with speed := true } pre d.idx q tr qs htr hqs hall
  obtain ⟨tr', qs', htr', hqs', hdir⟩ := tableRows_eq_direct { cfg with speed := true } k pre hs hsym d.idx q rows hrows
  cases htr.symm.trans htr'
  cases hqs.symm.trans hqs'
  refine ⟨.table kind rows, .direct kind qs, ?_, ?_, congrArg (fun r => some (predRows kind r)) hdir,
    Option.some_ne_none _⟩
  · simp only [predictPlan, if_true, hcur, hrows, hclf, Bool.false_eq_true, if_false]
  · exact predictPlan_speed_false cfg orig s pre kind q qs hqs hclf

theorem step_speed_irrelevant (cfg : Cfg L W) (fitFn : Data L W → C) (pfitFn : C → Data L W → C)
    (s : St C L W) (op : Op L W) (b : Bool) :
    step { cfg with speed := b } fitFn pfitFn s op = step cfg fitFn pfitFn s op := by
  cases op <;> rfl

/-- How the object with `use_speed_up=True` (`sOn`) relates to the one without (`sOff`) after the same
calls: identical, except that before the first successful `fit` the speed-up object holds an unfitted
precomputed clone where the other holds the copy of the classifier handed to the constructor (`orig`). -/
def SpeedRel (orig : Option C) (sOn sOff : St C L W) : Prop :=
  (sOff.cur ≠ none ∧ sOn = sOff) ∨
  (sOff.cur = none ∧ sOn = ⟨none, none, sOff.bclf, sOff.base⟩ ∧ sOff.clf = orig)

theorem speedRel_init (cfg : Cfg L W) (pre : Option C) (sb : Bool) (sOn sOff : St C L W)
    (hOn : init { cfg with speed := true } pre sb = .ok sOn)
    (hOff : init { cfg with speed := false } pre sb = .ok sOff) : SpeedRel pre sOn sOff := by
  cases init_ok hOn
  cases init_ok hOff
  exact Or.inr ⟨rfl, rfl, rfl⟩

/-- The emulated path suffices: a Parzen window classifier has no native `partial_fit`. -/
theorem speedRel_step (cfg : Cfg L W) (fitFn : Data L W → C) (pfitFn : C → Data L W → C) (orig : Option C)
    (sOn sOff : St C L W) (op : Op L W) (hn : cfg.native = false) (hr : SpeedRel orig sOn sOff) :
    SpeedRel orig (step { cfg with speed := true } fitFn pfitFn sOn op).1
      (step { cfg with speed := false } fitFn pfitFn sOff op).1 := by
  rw [step_speed_irrelevant cfg fitFn pfitFn sOn op true, step_speed_irrelevant cfg fitFn pfitFn sOff op false]
  rcases hr with ⟨hc, rfl⟩ | ⟨hc, rfl, ho⟩
  · -- once a record exists it never disappears
    refine Or.inl ⟨?_, rfl⟩
    rcases step_cases cfg fitFn pfitFn sOn op with h | ⟨c, d, sb, h, -⟩ <;> rw [h]
    · exact hc
    · rw [hn]; exact Option.some_ne_none _
  · cases op with
    | fit idx y sw sb =>
      -- the argument checks never read the object: both raise and stay, or both store the same record
      simp only [step, fit_eq, hn]
      cases fitArgs cfg idx y sw with
      | error e => exact Or.inr ⟨hc, rfl, ho⟩
      | ok d => exact Or.inl ⟨Option.some_ne_none _, rfl⟩
    | pfit idx y sw ub sb =>
      -- without `idx_` the emulated `partial_fit` raises on both sides
      simp only [step, partialFit_eq]
      obtain ⟨e, he⟩ := partialOutcome_cur_none cfg fitFn pfitFn sOff idx y sw ub hn hc
      obtain ⟨e', he'⟩ := partialOutcome_cur_none cfg fitFn pfitFn ⟨none, none, sOff.bclf, sOff.base⟩ idx y sw ub hn rfl
      rw [he, he']
      exact Or.inr ⟨hc, rfl, ho⟩

theorem speedRel_run (cfg : Cfg L W) (fitFn : Data L W → C) (pfitFn : C → Data L W → C) (orig : Option C)
    (hn : cfg.native = false) (ops : List (Op L W)) (sOn sOff : St C L W) (hr : SpeedRel orig sOn sOff) :
    SpeedRel orig (run { cfg with speed := true } fitFn pfitFn sOn ops)
      (run { cfg with speed := false } fitFn pfitFn sOff ops) := by
  induction ops generalizing sOn sOff with
  | nil => exact hr
  | cons op ops ih =>
    simp only [run]
    exact ih _ _ (speedRel_step cfg fitFn pfitFn orig sOn sOff op hn hr)

/-- What the classifiers compute: `direct c kind q` is `c.<kind>(X[q])` for a classifier with the original
metric, `viaRows c kind rows` is the `metric="precomputed"` clone trained like `c` on the kernel rows.
`planEval` / `speedup_eq_direct` is the case of one state with a record and every pair precomputed, where the clone is taken
to be the same function `predRows` of the kernel rows; with `Sem` the two are separate functions tied by `hlink`, the answer
is read off the object's own classifier (`Sem.eval`), and the time before the first `fit` (`Plan.orig`) is covered. -/
structure Sem (C κ R : Type) where
  direct : C → Kind → List Nat → R
  viaRows : C → Kind → List (List κ) → R

/-- the answer a plan produces on a given object (`orig` = the classifier handed to the constructor) -/
def Sem.eval {R : Type} (sem : Sem C κ R) (orig : Option C) (s : St C L W) : Plan κ → Option R
  | .table kind rows => s.clf.map (fun c => sem.viaRows c kind rows)
  | .direct kind qs => s.clf.map (fun c => sem.direct c kind qs)
  | .orig kind qs => orig.map (fun c => sem.direct c kind qs)

/-- **Whenever the speed-up object answers, the plain object gives the same answer** (`predict`, `predict_proba`
and `predict_freq` alike, before and after the first `fit`): for related objects whose classifier is the fresh
fit on the recorded list (`clf_is_fresh_fit`), a sound table, a symmetric kernel, and a precomputed clone that
computes from the kernel rows what the original computes from the samples (`hlink`: Parzen window, `K @ V_`). -/
theorem speedup_never_changes_prediction_state {R : Type} (cfg : Cfg L W) (fitFn : Data L W → C)
    (sem : Sem C κ R) (k : Nat → Nat → κ) (pre : Tab κ) (hs : TabSound k pre) (hsym : ∀ i j, k i j = k j i)
    (hlink : ∀ d tr qs kind, mapOpt (normIdx cfg.n) d.idx = some tr →
      sem.viaRows (fitFn d) kind (directRows k tr qs) = sem.direct (fitFn d) kind qs)
    (orig : Option C) (sOn sOff : St C L W) (hr : SpeedRel orig sOn sOff)
    (hcoh : ∀ c d, sOff.clf = some c → sOff.cur = some d → c = fitFn d)
    (kind : Kind) (q : List Int) (pOn : Plan κ)
    (h : predictPlan { cfg with speed := true } orig.isSome sOn pre kind q = .ok pOn) :
    ∃ pOff, predictPlan { cfg with speed := false } orig.isSome sOff pre kind q = .ok pOff ∧
      sem.eval orig sOn pOn = sem.eval orig sOff pOff ∧ sem.eval orig sOn pOn ≠ none := by
  rcases hr with ⟨hc, rfl⟩ | ⟨hc, rfl, ho⟩
  · cases hcur : sOn.cur with
    | none => exact absurd hcur hc
    | some d =>
      simp only [predictPlan, if_true, hcur] at h
      cases hrows : tableRows { cfg with speed := true } pre d.idx q with
      | error e => rw [hrows] at h; cases h
      | ok rows =>
        obtain ⟨tr, qs, htr, hqs, rfl⟩ := tableRows_eq_direct _ k pre hs hsym d.idx q rows hrows
        cases hc' : sOn.clf with
        | none => rw [hrows, hc'] at h; cases h
        | some c =>
          rw [hrows, hc'] at h
          cases h
          cases hcoh c d hc' hcur
          refine ⟨.direct kind qs, predictPlan_speed_false cfg _ sOn pre kind q qs hqs (congrArg Option.isNone hc'), ?_, ?_⟩
          · simp only [Sem.eval, hc', Option.map_some]
            exact congrArg some (hlink d tr qs kind htr)
          · simp only [Sem.eval, hc']
            exact Option.some_ne_none _
  · simp only [predictPlan, if_true] at h
    cases hqs : mapOpt (normIdx cfg.n) q with
    | none => rw [hqs] at h; cases h
    | some qs =>
      cases horig : orig with
      | none => rw [hqs, horig] at h; cases h
      | some c0 =>
        rw [hqs, horig] at h
        cases h
        refine ⟨.direct kind qs, predictPlan_speed_false cfg _ sOff pre kind q qs hqs (congrArg Option.isNone (ho.trans horig)), ?_,
          Option.some_ne_none _⟩
        simp only [Sem.eval, ho, horig]

/-- The same **over whole histories**: for every classifier handed to the constructor (fitted or not), every
`set_base_clf`, every call sequence (raising calls included), every kind of prediction and every query. -/
theorem speedup_never_changes_prediction {R : Type} (cfg : Cfg L W) (fitFn : Data L W → C)
    (pfitFn : C → Data L W → C) (hn : cfg.native = false)
    (sem : Sem C κ R) (k : Nat → Nat → κ) (pre : Tab κ) (hs : TabSound k pre) (hsym : ∀ i j, k i j = k j i)
    (hlink : ∀ d tr qs kind, mapOpt (normIdx cfg.n) d.idx = some tr →
      sem.viaRows (fitFn d) kind (directRows k tr qs) = sem.direct (fitFn d) kind qs)
    (orig : Option C) (sb : Bool) (sOn sOff : St C L W)
    (hOn : init { cfg with speed := true } orig sb = .ok sOn)
    (hOff : init { cfg with speed := false } orig sb = .ok sOff)
    (ops : List (Op L W)) (kind : Kind) (q : List Int) (pOn : Plan κ)
    (h : predictPlan { cfg with speed := true } orig.isSome
      (run { cfg with speed := true } fitFn pfitFn sOn ops) pre kind q = .ok pOn) :
    ∃ pOff, predictPlan { cfg with speed := false } orig.isSome
        (run { cfg with speed := false } fitFn pfitFn sOff ops) pre kind q = .ok pOff ∧
      sem.eval orig (run { cfg with speed := true } fitFn pfitFn sOn ops) pOn =
        sem.eval orig (run { cfg with speed := false } fitFn pfitFn sOff ops) pOff := by
  have hrel := speedRel_run cfg fitFn pfitFn orig hn ops sOn sOff (speedRel_init cfg orig sb sOn sOff hOn hOff)
  have hinv := clf_is_fresh_fit { cfg with speed := false } fitFn pfitFn hn ops sOff
    (init_inv _ fitFn orig sb sOff hOff)
  obtain ⟨pOff, h1, h2, -⟩ := speedup_never_changes_prediction_state cfg fitFn sem k pre hs hsym hlink orig _ _ hrel
    hinv.2.2.1 kind q pOn h
  exact ⟨pOff, h1, h2⟩

/-- Parzen window frequencies are a function of the kernel rows only, so they agree as well. -/
theorem freqRows_table_eq_direct [Add κ] [Mul κ] [OfNat κ 0] [OfNat κ 1] (cfg : Cfg L W) (eqL : L → L → Bool)
    (k : Nat → Nat → κ) (pre : Tab κ) (hs : TabSound k pre) (hsym : ∀ i j, k i j = k j i)
    (train q : List Int) (rows : List (List κ)) (y : List L) (sw : Option (List κ)) (classes : List L)
    (h : tableRows cfg pre train q = .ok rows) :
    ∃ tr qs, mapOpt (normIdx cfg.n) train = some tr ∧ mapOpt (normIdx cfg.n) q = some qs ∧
      freqRows eqL rows y sw classes = freqRows eqL (directRows k tr qs) y sw classes := by
  obtain ⟨tr, qs, h1, h2, h3⟩ := tableRows_eq_direct cfg k pre hs hsym train q rows h
  exact ⟨tr, qs, h1, h2, by rw [h3]⟩

/-! ## Non-vacuity: concrete instances meet the hypotheses -/

/-- a non-trivial run: fit (stored as base), partial fit with a label override, a rejected call (mixed
weights), restart from the base -/
example :
    let cfg : Cfg Nat Nat := ⟨4, [0, 1, 0, 1], none, false, true, false⟩
    let ops : List (Op Nat Nat) :=
      [.fit [0, 1] none none true, .pfit [1, 2] (some [0, 1]) none false false,
       .pfit [2] (some [1]) (some [1]) false false, .pfit [3] none none true false]
    (run cfg id (fun c _ => c) ⟨none, none, none, none⟩ ops).clf = some ⟨[0, 1, 3], [0, 1, 1], none⟩ := by
  decide +kernel

example : Inv (C := Data Nat Nat) (⟨4, [0, 1, 0, 1], none, false, true, false⟩ : Cfg Nat Nat) id ⟨none, none, none, none⟩ :=
  init_inv _ id none false _ rfl

/-- a sound, complete table and a symmetric kernel: the hypotheses of `speedup_eq_direct` -/
example :
    let cfg : Cfg Nat Nat := ⟨3, [0, 1, 0], none, false, false, true⟩
    let k : Nat → Nat → Nat := fun i j => i + j
    let pre := (precompute cfg (fun _ => false) k Tab.empty [0, 1, 2] [0, 1, 2] 0 0).1
    TabSound k pre ∧ (∀ i j, k i j = k j i) ∧ (∀ i ∈ [0, 1], ∀ j ∈ [2], pre i j ≠ none) ∧
      tableRows cfg pre [0, 1] [2] = .ok [[2, 3]] := by
  refine ⟨(precompute_sound _ _ _ _ _ _ _ _ (tab_empty_sound _)).1, fun i j => Nat.add_comm i j, by decide, rfl⟩

/-- the native path records what it should -/
example :
    let cfg : Cfg Nat Nat := ⟨4, [0, 1, 0, 1], none, true, false, false⟩
    (run cfg Hist.fit Hist.pfit ⟨none, none, none, none⟩
      [.fit [0, 1] none none true, .pfit [2] none none false false, .pfit [3] (some [0]) none true false]).clf =
      some ⟨⟨[0, 1], [0, 1], none⟩, [⟨[3], [0], none⟩]⟩ := by decide +kernel

end Ska.C19

/-! ## Regressions: statements about definitions that model code as it was before a repair -/

namespace Ska.C19.Regressions
open Ska Ska.IW

section OldPartialFit
variable {C L W : Type}

/-- the concatenation block as it was before the repair: the three assignments happened one after the
other on the object; on an exception the result carries the out-of-step record the object was left with -/
def mergeV0 (unique : Bool) (d : Data L W) (idx : List Int) (ay : List L) (aw : Option (List W)) :
    Except (Data L W × Err) (Data L W) :=
  let keep := keepMask unique d.idx idx
  let idx' := maskSel d.idx keep ++ idx
  match selKeep unique keep d.y with
  | none => .error (⟨idx', d.y, d.sw⟩, .index)
  | some ky =>
    let y' := ky ++ ay
    match d.sw with
    | none =>
      match aw with
      | none => .ok ⟨idx', y', none⟩
      | some _ => .error (⟨idx', y', none⟩, .mixed)
    | some w =>
      match selKeep unique keep w with
      | none => .error (⟨idx', y', some w⟩, .index)
      | some kw =>
        match aw with
        | some a => .ok ⟨idx', y', some (kw ++ a)⟩
        | none => .error (⟨idx', y', some w⟩, .mixed)

def partialNativeV0 (cfg : Cfg L W) (pfitFn : C → Data L W → C) (s : St C L W)
    (idx : List Int) (ay : List L) (aw : Option (List W)) (useBase setBase : Bool) :
    St C L W × Option Err :=
  let s1 : St C L W := if useBase then ⟨s.bclf, s.cur, s.bclf, s.base⟩ else s
  if !(xIndexOk cfg idx) then (s1, some .index)
  else
    match s1.clf with
    | none => (s1, some .notFitted)
    | some c =>
      let c' := pfitFn c ⟨idx, ay, aw⟩
      if setBase then (⟨some c', s1.cur, some c', s1.base⟩, none)
      else (⟨some c', s1.cur, s1.bclf, s1.base⟩, none)

def partialEmuV0 (cfg : Cfg L W) (fitFn : Data L W → C) (s : St C L W)
    (idx : List Int) (ay : List L) (aw : Option (List W)) (useBase setBase : Bool) :
    St C L W × Option Err :=
  match s.cur with
  | none => (s, some .notFitted)
  | some cur0 =>
    let clf1 : Option C := if useBase then none else s.clf
    match (if useBase then s.base else some cur0) with
    | none => (⟨clf1, s.cur, s.bclf, s.base⟩, some .attr)
    | some d =>
      match mergeV0 cfg.unique d idx ay aw with
      | .error (d', e) => (⟨clf1, some d', s.bclf, s.base⟩, some e)
      | .ok d' => fit cfg fitFn ⟨clf1, some d', s.bclf, s.base⟩ d'.idx (some d'.y) d'.sw setBase

/-- `partial_fit` as it was before the repair -/
def partialFitV0 (cfg : Cfg L W) (fitFn : Data L W → C) (pfitFn : C → Data L W → C) (s : St C L W)
    (idx : List Int) (y : Option (List L)) (sw : Option (List W)) (useBase setBase : Bool) :
    St C L W × Option Err :=
  match validatePartial cfg s idx y sw useBase with
  | .error e => (s, some e)
  | .ok (ay, aw) =>
    if cfg.native then partialNativeV0 cfg pfitFn s idx ay aw useBase setBase
    else partialEmuV0 cfg fitFn s idx ay aw useBase setBase

end OldPartialFit

/-- old code: weights `None` so far, then a `partial_fit` with weights raised in `_concat_sw` *after*
`idx_` / `y_` were extended; the next (successful) `partial_fit` trained on the rejected sample 2 as well -/
theorem clf_is_fresh_fit_counterexample :
    let cfg : Cfg Nat Nat := ⟨4, [0, 1, 0, 1], none, false, false, false⟩
    let s0 : St (Data Nat Nat) Nat Nat := ⟨none, none, none, none⟩
    let s1 := (fit cfg id s0 [0, 1] none none false).1
    let r2 := partialFitV0 cfg id (fun c _ => c) s1 [2] (some [1]) (some [1]) false false
    let r3 := partialFitV0 cfg id (fun c _ => c) r2.1 [3] none none false false
    r2.2 = some .mixed ∧ r2.1 ≠ s1 ∧ r3.2 = none ∧
      r3.1.clf = some ⟨[0, 1, 2, 3], [0, 1, 1, 1], none⟩ := by decide +kernel

/-- old code: three raising paths left a modified object behind (`_concat_sw` on mixed weights; the base
classifier handed to `__init__` has no `base_idx_`, raised after `clf_` was replaced by an unfitted clone;
an index below `-n` that passes the validation when labels are given) -/
theorem partialFit_error_not_atomic_counterexample :
    let cfg : Cfg Nat Nat := ⟨4, [0, 1, 0, 1], none, false, false, false⟩
    let d : Data Nat Nat := ⟨[0, 1], [0, 1], none⟩
    let s : St (Data Nat Nat) Nat Nat := ⟨some d, some d, none, none⟩
    let sb : St (Data Nat Nat) Nat Nat := ⟨some d, some d, some d, none⟩
    partialFitV0 cfg id (fun c _ => c) s [2] (some [1]) (some [1]) false false =
        (⟨some d, some ⟨[0, 1, 2], [0, 1, 1], none⟩, none, none⟩, some .mixed) ∧
    partialFitV0 cfg id (fun c _ => c) sb [2] none none true false =
        (⟨none, some d, some d, none⟩, some .attr) ∧
    partialFitV0 cfg id (fun c _ => c) s [-5] (some [1]) none false false =
        (⟨some d, some ⟨[0, 1, -5], [0, 1, 1], none⟩, none, none⟩, some .index) := by decide +kernel

/-- the repaired code on the same three inputs: the same exceptions (the unknown base data now as
`NotFittedError`), the object untouched -/
theorem partialFit_error_atomic_repaired :
    let cfg : Cfg Nat Nat := ⟨4, [0, 1, 0, 1], none, false, false, false⟩
    let d : Data Nat Nat := ⟨[0, 1], [0, 1], none⟩
    let s : St (Data Nat Nat) Nat Nat := ⟨some d, some d, none, none⟩
    let sb : St (Data Nat Nat) Nat Nat := ⟨some d, some d, some d, none⟩
    partialFit cfg id (fun c _ => c) s [2] (some [1]) (some [1]) false false = (s, some .mixed) ∧
    partialFit cfg id (fun c _ => c) sb [2] none none true false = (sb, some .notFitted) ∧
    partialFit cfg id (fun c _ => c) s [-5] (some [1]) none false false = (s, some .index) := by decide +kernel

/-- `predictPlan` as the code was before /repo commit 1805c2fd: in the speed-up branch without `idx_`
all three methods returned `self.clf.predict_proba(...)`. -/
def predictPlanV0 {C L W κ : Type} (cfg : Cfg L W) (origFitted : Bool) (s : St C L W) (pre : Tab κ)
    (kind : Kind) (q : List Int) : Except Err (Plan κ) :=
  if cfg.speed then
    match s.cur with
    | some d =>
      match tableRows cfg pre d.idx q with
      | .error e => .error e
      | .ok rows => if s.clf.isNone then .error .notFitted else .ok (.table kind rows)
    | none =>
      match mapOpt (normIdx cfg.n) q with
      | none => .error .index
      | some qs => if origFitted then .ok (.orig .proba qs) else .error .notFitted
  else
    match mapOpt (normIdx cfg.n) q with
    | none => .error .index
    | some qs => if s.clf.isNone then .error .notFitted else .ok (.direct kind qs)

/-- old code: a Parzen window classifier handed over already fitted, no `fit` through the wrapper yet: with the
speed-up `predict` and `predict_freq` answered with `self.clf.predict_proba(...)`, without it with
`clf_.predict` / `clf_.predict_freq`. -/
theorem speedup_prefitted_counterexample :
    let cfgOn : Cfg Nat Nat := ⟨3, [0, 1, 0], none, false, false, true⟩
    let cfgOff : Cfg Nat Nat := ⟨3, [0, 1, 0], none, false, false, false⟩
    let tOn : St Nat Nat Nat := ⟨none, none, none, none⟩
    let tOff : St Nat Nat Nat := ⟨some 7, none, none, none⟩
    predictPlanV0 (κ := Nat) cfgOn true tOn Tab.empty .label [0, 2] = .ok (.orig .proba [0, 2]) ∧
    predictPlanV0 (κ := Nat) cfgOn true tOn Tab.empty .freq [0, 2] = .ok (.orig .proba [0, 2]) ∧
    predictPlanV0 (κ := Nat) cfgOff true tOff Tab.empty .label [0, 2] = .ok (.direct .label [0, 2]) ∧
    predictPlanV0 (κ := Nat) cfgOff true tOff Tab.empty .freq [0, 2] = .ok (.direct .freq [0, 2]) := by
  refine ⟨rfl, rfl, rfl, rfl⟩

/-- the repaired code on the same input: the object handed to the constructor answers with the method
that was asked for -/
theorem speedup_prefitted_repaired :
    let cfgOn : Cfg Nat Nat := ⟨3, [0, 1, 0], none, false, false, true⟩
    let tOn : St Nat Nat Nat := ⟨none, none, none, none⟩
    predictPlan (κ := Nat) cfgOn true tOn Tab.empty .label [0, 2] = .ok (.orig .label [0, 2]) ∧
    predictPlan (κ := Nat) cfgOn true tOn Tab.empty .freq [0, 2] = .ok (.orig .freq [0, 2]) := by
  refine ⟨rfl, rfl⟩

end Ska.C19.Regressions
