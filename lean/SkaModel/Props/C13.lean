import SkaModel.Props.C05

/-!
# C13 — `fit` is history-free and never rewrites constructor parameters

Theorems over the effect semantics of `SkaModel/Core/Effects.lean` (frame part shared with C05).
The per-class instances — `FrameOK summary_<Class>_<method> = true` for every public method of every
classifier, regressor, budget manager and stream strategy, and `HistoryFree summary_<Class>_fit =
true` — are regenerated from the current source into `SkaModel/Gen/EffectsC13.lean` on every run
(`effects_<Class>_<method>`, `fit_<Class>_historyFree`, `pure_<Class>_<method>`).
The sliding-window clause of the property is in `Props/C13w.lean` (separate model).

Honest limits: the theorems are about summaries (translator validated dynamically by
`harness/props/c13.py`: refit-vs-fresh-clone on different data, `get_params` and caller-owned dicts
before/after every public call in random call sequences).  History-freeness is stated for what `fit`
reads and writes: an attribute that an earlier `fit` set and this `fit` neither writes nor reads
stays on the object; whether `predict` looks at it is covered by the dynamic refit-vs-fresh oracle.
-/

namespace Ska.C13
open Ska.Effects

/-- **`fit` is history free.**  If the summary of `fit` never looks at a non-parameter attribute of
`self` before having written it in the same call (`HistoryFree`), then for *any* two objects that
agree on the constructor parameters — in particular an object with an arbitrary history of earlier
`fit` / `predict` / `query` calls and a fresh clone — and the same arguments (`F`): both calls read
exactly the same values, take the same branches, compute the same values (hence return the same
thing or raise the same exception) and leave the same value in every attribute `fit` may write
(every such attribute is certainly written, so nothing of an earlier fit survives in them). -/
theorem fit_history_free (S : Summary) (hh : HistoryFree S = true) (F : HOra) (o o' : Nat → Val)
    (hparams : ∀ a, S.params.contains a = true → o a = o' a) :
    (hRun F S.body ⟨o, [], 0, false⟩).log = (hRun F S.body ⟨o', [], 0, false⟩).log ∧
    (hRun F S.body ⟨o, [], 0, false⟩).dead = (hRun F S.body ⟨o', [], 0, false⟩).dead ∧
    ((hRun F S.body ⟨o, [], 0, false⟩).dead = false →
      ∀ a, (S.params.contains a || (mayWrite S.body).testBit a) = true →
        (hRun F S.body ⟨o, [], 0, false⟩).obj a = (hRun F S.body ⟨o', [], 0, false⟩).obj a) := by
  rw [historyFree_eq, Bool.and_eq_true, Option.all_eq_true] at hh
  obtain ⟨hchk, hcomp⟩ := hh
  have h0 : HAgree S.params 0 ⟨o, [], 0, false⟩ ⟨o', [], 0, false⟩ :=
    ⟨fun a ha => hparams a (by rwa [Nat.zero_testBit, Bool.or_false] at ha), rfl, rfl⟩
  obtain ⟨hlog, -, hdead, hlive⟩ := hist_sound F S.params S.body h0 rfl rfl hchk
  refine ⟨hlog, hdead, fun hd a ha => ?_⟩
  obtain ⟨W', hW', hag⟩ := hlive hd
  apply hag.1 a
  rcases Bool.or_eq_true _ _ ▸ ha with ha | ha
  · rw [ha, Bool.true_or]
  · -- every attribute `fit` may write is among the certainly written ones
    have hw := congrArg (·.testBit a) (eq_of_beq (hcomp W' hW'))
    simp only [Nat.testBit_and, ha, Bool.true_and] at hw
    rw [hw, Bool.or_true]

/-- **Prediction leaves the object alone.**  A method whose summary is a pure reader (obligations
`pure_<Class>_<method>` regenerated for every `predict*` / `sample*` method) leaves every attribute of `self` as it
found it, on every path, for all arguments and oracles: nothing resolved during a prediction can leak into a later
`fit` or prediction.  (In this data-flow semantics only `writeAttr` changes the attribute map: the statement is about
the value each attribute holds, not about in-place mutation of the object it refers to, which is `FrameOK`'s subject.) -/
theorem pureReader_preserves_object (F : HOra) (p : Prog) (h : pureReader p = true) :
    ∀ s : HSt, (hRun F p s).obj = s.obj := by
  induction p with
  | skip => intro s; rfl
  | abort => intro s; rfl
  | seq e rest ih =>
    intro s
    -- only `writeAttr` changes the object
    cases e with
    | writeAttr a r => cases h
    | mutate q st => exact ih (Bool.and_eq_true _ _ ▸ h).2 _
    | callFit q => exact ih (Bool.and_eq_true _ _ ▸ h).2 _
    | _ => exact ih h _
  | ite t e rest iht ihe ihr =>
    intro s
    simp only [pureReader, Bool.and_eq_true] at h
    have hrest : ∀ u : HSt, u.obj = s.obj → (if u.dead then u else hRun F rest u).obj = s.obj := by
      intro u hu
      split
      · exact hu
      · rw [ihr h.2, hu]
    simp only [hRun]
    cases F.cond s.clk s.log with
    | true => exact hrest _ (iht h.1.1 _)
    | false => exact hrest _ (ihe h.1.2 _)

/-- **C13, combined statement** (`frame_fit_history_free` of DESIGN Part II §4): a `fit` whose summary
neither reads a fitted attribute before writing it nor writes / mutates a parameter (i) computes
the same model from any history as from a fresh clone and (ii) leaves `get_params` — including the
contents of every object a parameter refers to — unchanged, for all heaps, arguments and oracles. -/
theorem frame_fit_history_free (S : Summary) (hh : HistoryFree S = true) (hok : FrameOK S = true) :
    (∀ (F : HOra) (o o' : Nat → Val), (∀ a, S.params.contains a = true → o a = o' a) →
      (hRun F S.body ⟨o, [], 0, false⟩).log = (hRun F S.body ⟨o', [], 0, false⟩).log ∧
      (hRun F S.body ⟨o, [], 0, false⟩).dead = (hRun F S.body ⟨o', [], 0, false⟩).dead ∧
      ((hRun F S.body ⟨o, [], 0, false⟩).dead = false →
        ∀ a, (S.params.contains a || (mayWrite S.body).testBit a) = true →
          (hRun F S.body ⟨o, [], 0, false⟩).obj a = (hRun F S.body ⟨o', [], 0, false⟩).obj a)) ∧
    (∀ (C : Ctx), C.WF → C.ps = S.params → ∀ (inner : Nat → Heap → Heap), InnerOK C inner →
      ∀ (ω : Ora) (s : St), s.dead = false → ∀ (D₀ : Nat → Prop), C05.OwnInv S C s.h D₀ →
        getParams (run C.self inner ω S.body s).h C.self S.params = getParams s.h C.self S.params ∧
        (∀ r, r < C.n₀ → r ≠ C.self → ¬ C.O r → (∀ k, ¬ C.W r k) →
          (run C.self inner ω S.body s).h.cell r = s.h.cell r)) :=
  ⟨fun F o o' hp => fit_history_free S hh F o o' hp,
   fun C hC hps inner hin ω s hlive D₀ hent =>
     let h := C05.frameOK_preserves_params S hok C hC hps inner hin ω s hlive D₀ hent
     ⟨h.1, h.2.1⟩⟩

/-- **No public method changes what `get_params` reports**: any sequence of public calls
(`fit` / `partial_fit` / `predict*` / `query` / `update` …) whose summaries are all `FrameOK`
leaves the parameters of the object and every caller-owned object (e.g. a `metric_dict` passed to
the constructor) unchanged. -/
theorem public_calls_preserve_params (ps cl sf : List Nat) (inner : Nat → Heap → Heap) (C : Ctx)
    (hC : C.WF) (hps : C.ps = ps) (hin : InnerOK C inner) (calls : List C05.Call)
    (hok : ∀ c ∈ calls, FrameOK ⟨ps, cl, sf, c.body⟩ = true) (h : Heap) (D₀ : Nat → Prop)
    (hent : C05.OwnInv ⟨ps, cl, sf, Prog.skip⟩ C h D₀) :
    getParams (C05.runCalls C.self inner calls h) C.self ps = getParams h C.self ps ∧
    (∀ r, r < C.n₀ → r ≠ C.self → ¬ C.O r → (∀ k, ¬ C.W r k) →
      (C05.runCalls C.self inner calls h).cell r = h.cell r) := by
  subst hps
  have := C05.frameRel_caller_view hC (C05.frameOK_sequence C.ps cl sf inner C hC rfl hin calls hok h D₀ hent)
  exact ⟨this.1, this.2.1⟩

/-- `self.X_ = X[is_lbld]; self.metric_dict_ = dict(self.metric_dict); self.metric_dict_["gamma"] = g`
(attributes: 0 = parameter `metric_dict`, 1 = `X_`, 2 = `metric_dict_`) — the repaired
`ParzenWindowClassifier.fit` pattern. -/
def sampleFit : Summary :=
  { params := [0], closedAttrs := [], safeAttrs := [2],
    body := .seq (.writeAttr 1 (.fresh [])) (.seq (.writeAttr 2 (.copy (.attr 0)))
      (.seq (.mutate (.attr 2) []) .skip)) }

example : FrameOK sampleFit = true := by decide +kernel
example : HistoryFree sampleFit = true := by decide +kernel

/-- `self.metric_dict = {} if self.metric_dict is None else self.metric_dict`
(`NICKernelRegressor.fit` before its repair: the resolved default is written to the parameter itself). -/
def nicFit : Summary :=
  { params := [0], closedAttrs := [], safeAttrs := [],
    body := .seq (.writeAttr 1 (.fresh [])) (.ite (.seq (.writeAttr 0 (.fresh [])) .skip)
      (.seq (.writeAttr 0 (.alias (.attr 0))) .skip) .skip) }

theorem nic_param_write_counterexample :
    FrameOK nicFit = false ∧
    getParams (run 0 (fun _ h => h) C05.ω₁ nicFit.body C05.s₀).h 0 nicFit.params
      ≠ getParams C05.s₀.h 0 nicFit.params := by decide +kernel

/-- A `fit` that reuses a cached attribute of an earlier fit:
`if not hasattr(self, "cache_"): self.cache_ = f(X); self.model_ = g(self.cache_)`. -/
def cachedFit : Summary :=
  { params := [0], closedAttrs := [], safeAttrs := [],
    body := .seq (.readAttr 1) (.ite (.seq (.writeAttr 1 (.fresh [])) .skip) .skip
      (.seq (.readAttr 1) (.seq (.writeAttr 2 (.fresh [])) .skip))) }

def Fc : HOra :=
  { val := fun _ log => match log with | v :: _ => v | [] => .atom 0
    cond := fun _ log => match log with | .atom 0 :: _ => true | _ => false }

/-- … is not history free, and in the semantics an object with a history (`cache_` = 9) ends with a
different model than a fresh one (`cache_` unset = 0). -/
theorem cached_fit_counterexample :
    HistoryFree cachedFit = false ∧
    (hRun Fc cachedFit.body ⟨fun k => if k = 1 then .atom 9 else .atom 0, [], 0, false⟩).obj 2
      ≠ (hRun Fc cachedFit.body ⟨fun _ => .atom 0, [], 0, false⟩).obj 2 := by decide +kernel

namespace Regressions

/-- `ParzenWindowClassifier.fit` before commit 047f603c: `metric_dict_` aliased the parameter and
the resolved `gamma` was written through the alias. -/
def pwcFitOld : Summary :=
  { params := [0], closedAttrs := [], safeAttrs := [],
    body := .seq (.writeAttr 2 (.alias (.attr 0))) (.seq (.mutate (.attr 2) []) .skip) }

/-- cell 0 = the classifier, its parameter 0 refers to cell 1 = the caller's dict -/
def sPwc : St := ⟨⟨fun r _ => if r = 0 then .ref 1 else .atom 7, 2⟩, fun _ => .atom 0, 0, false⟩

theorem pwc_gamma_mean_counterexample :
    FrameOK pwcFitOld = false ∧
    (run 0 (fun _ h => h) C05.ω₁ pwcFitOld.body sPwc).h.cell 1 0 ≠ sPwc.h.cell 1 0 := by decide +kernel

end Regressions

end Ska.C13
