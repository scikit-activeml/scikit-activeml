import SkaModel.Props.C02
import SkaModel.Core.Skeleton

/-!
# C01 — a pool query returns a valid batch: right size, distinct, only candidates

`ValidBatch` is the property's statement, `validBatchB_iff` ties the Boolean run on implementation
outputs to it, and `poolQueryA_valid*` prove it for the scatter + `simple_batch` skeleton for all
pool sizes, mappings, candidate utilities, batch sizes and noise.  C01 is obtained from C02
(`validBatch_of_validUtils`).  The hypothesis `mp.Nodup` on a mapping (here, in C02, C08) mirrors
`_validate_data`: index candidates pass `check_indices`, i.e. `np.unique` (`skactiveml/base.py`,
`utils/_validation.py`); for `candidates=None` it is `unlabeledIdx_nodup`, for `uniqueSorted` it is assumed.
-/

namespace Ska.C01
open Ska Ska.C18 Ska.C02

/-- **C01**: exactly `min(batch_size, #candidates)` pairwise distinct indices, each a candidate. -/
def ValidBatch (cand : List Nat) (b : Nat) (q : List Nat) : Prop :=
  q.length = min b cand.length ∧ q.Nodup ∧ ∀ i ∈ q, i ∈ cand

theorem validBatchB_iff (cand : List Nat) (b : Nat) (q : List Nat) :
    validBatchB cand b q = true ↔ ValidBatch cand b q := by
  simp only [validBatchB, ValidBatch, Bool.and_eq_true, decide_eq_true_eq, nodupB_iff, List.all_eq_true,
    List.contains_iff_mem, and_assoc]

/-- `unlabeled_indices(y)`: exactly the samples whose label is missing, each once, all in range. -/
theorem unlabeledIdx_spec (y : List Bool) :
    (unlabeledIdx y).Nodup ∧ (∀ j, j ∈ unlabeledIdx y ↔ y[j]? = some true) ∧
      ∀ j ∈ unlabeledIdx y, j < y.length :=
  ⟨unlabeledIdx_nodup y, mem_unlabeledIdx y,
    fun j hj => (List.getElem?_eq_some_iff.mp ((mem_unlabeledIdx y j).mp hj)).1⟩

theorem validBatch_of_validUtils {α : Type} [LinearOrder α] [Zero α] {kind : SelKind} {n : Nat} {cand : List Nat}
    {b : Nat} {rs : List (Nat × List (Option α))} (hl : rs.length = min b cand.length)
    (hv : ValidUtils kind n cand (rs.map Prod.fst) (rs.map Prod.snd)) : ValidBatch cand b (rs.map Prod.fst) :=
  have ⟨hnd, hmem⟩ := stepwise_implies_valid _ _ _ _ _ hv
  ⟨List.length_map (as := rs) Prod.fst ▸ hl, hnd, fun i hi => (hmem i hi).1⟩

variable {α : Type} [LinearOrder α] [Zero α] [Add α]
variable {β : Type} [LinearOrder β] [Zero β]

/-- **Skeleton A (index / None candidates, max mode)**: for every pool size, mapping, candidate
utilities (numbers, no infinities), batch size ≥ 1 and positive noise, the query succeeds and returns
a valid batch w.r.t. the candidate set `mp`. -/
theorem poolQueryA_valid (isInf : α → Bool) (n : Nat) (mp : List Nat) (uc : List (Option α))
    (b : Nat) (noises : List (List β)) (choice : List Nat)
    (hlen : uc.length = mp.length) (hnd : mp.Nodup) (hr : ∀ i ∈ mp, i < n)
    (hall : ∀ x ∈ uc, ∃ v, x = some v ∧ isInf v = false) (hb : 1 ≤ b) (hne : 1 ≤ mp.length)
    (hn : min b mp.length ≤ noises.length) (hpos : PosNoise n noises) :
    ∃ rs, poolQueryA isInf n (some mp) uc b .max noises choice = .ok rs ∧
      ValidBatch mp b (rs.map Prod.fst) := by
  obtain ⟨rs, hrs, hl, hv⟩ := poolQueryA_utils isInf n mp uc b noises choice hlen hnd hr hall hb hne hn hpos
  exact ⟨rs, hrs, validBatch_of_validUtils hl hv⟩

/-- With `candidates=None` (mapping = the unlabeled samples of the labeling `y`): only samples that
are still unlabeled are selected, `min(b, #unlabeled)` of them, pairwise distinct. -/
theorem poolQueryA_none_valid (isInf : α → Bool) (y : List Bool) (uc : List (Option α))
    (b : Nat) (noises : List (List β)) (choice : List Nat)
    (hlen : uc.length = (unlabeledIdx y).length)
    (hall : ∀ x ∈ uc, ∃ v, x = some v ∧ isInf v = false) (hb : 1 ≤ b) (hne : 1 ≤ y.count true)
    (hn : min b (y.count true) ≤ noises.length) (hpos : PosNoise y.length noises) :
    ∃ rs, poolQueryA isInf y.length (some (unlabeledIdx y)) uc b .max noises choice = .ok rs ∧
      (rs.map Prod.fst).length = min b (y.count true) ∧ (rs.map Prod.fst).Nodup ∧
      ∀ i ∈ rs.map Prod.fst, y[i]? = some true := by
  obtain ⟨h1, h2, h3⟩ := unlabeledIdx_spec y
  have hl := unlabeledIdx_length y
  obtain ⟨rs, hrs, hv1, hv2, hv3⟩ := poolQueryA_valid isInf y.length (unlabeledIdx y) uc b noises choice
    hlen h1 h3 hall hb (hl ▸ hne) (hl ▸ hn) hpos
  exact ⟨rs, hrs, hl ▸ hv1, hv2, fun i hi => (h2 i).mp (hv3 i hi)⟩

/-- Feature-row candidates: row numbers of the candidate matrix. -/
theorem poolQueryA_valid_rows (isInf : α → Bool) (n : Nat) (uc : List (Option α))
    (b : Nat) (noises : List (List β)) (choice : List Nat)
    (hall : ∀ x ∈ uc, ∃ v, x = some v ∧ isInf v = false) (hb : 1 ≤ b) (hne : 1 ≤ uc.length)
    (hn : min b uc.length ≤ noises.length) (hpos : PosNoise uc.length noises) :
    ∃ rs, poolQueryA isInf n none uc b .max noises choice = .ok rs ∧
      ValidBatch (List.range uc.length) b (rs.map Prod.fst) := by
  obtain ⟨rs, hrs, hl, hv⟩ := poolQueryA_utils_rows isInf n uc b noises choice hall hb hne hn hpos
  exact ⟨rs, hrs, validBatch_of_validUtils (List.length_range ▸ hl) hv⟩

/-- What a NaN among the candidate utilities costs (the hypothesis "no NaN" above is necessary):
whatever the candidate utilities, Skeleton A returns `min(b, #candidates, #non-NaN utilities)`
distinct positions holding numbers — i.e. a *short* batch exactly when some utility is NaN. -/
theorem poolQueryA_valid_nan (isInf : α → Bool) (n : Nat) (mapping : Option (List Nat))
    (uc : List (Option α)) (b : Nat) (noises : List (List β)) (choice : List Nat)
    (hfin : ∀ v, some v ∈ fullUtilities n mapping uc → isInf v = false) (hb : 1 ≤ b)
    (hne : 1 ≤ (nCandOf mapping uc))
    (hn : min b (nCandOf mapping uc) ≤ noises.length) (hpos : PosNoise (fullUtilities n mapping uc).length noises) :
    ∃ rs, poolQueryA isInf n mapping uc b .max noises choice = .ok rs ∧
      rs.length = min (min b (nCandOf mapping uc))
        (countSome (fullUtilities n mapping uc)) ∧
      (rs.map Prod.fst).Nodup ∧
      ∀ p ∈ rs, ∃ v, (fullUtilities n mapping uc)[p.1]? = some (some v) := by
  obtain ⟨rs, hrs, hl, -, hnd, hmem, -, -⟩ :=
    simpleBatch_max_spec isInf (fullUtilities n mapping uc)
      (min b (nCandOf mapping uc)) noises choice hfin
      (Nat.le_min.mpr ⟨hb, hne⟩) (Nat.le_trans (Nat.min_le_left ..) hn) hpos
  exact ⟨rs, (poolQueryA_of_pos _ _ _ _ _ _ _ _ hb).trans hrs, hl, hnd, hmem⟩

/-- Proportional mode (sampling strategies built on `simple_batch(method="proportional")`): whenever
the call succeeds the picks are distinct, `min(b, #candidates, #non-NaN)` many, and carry non-zero mass. -/
theorem poolQueryA_prop_valid (isInf : α → Bool) (n : Nat) (mapping : Option (List Nat))
    (uc : List (Option α)) (b : Nat) (noises : List (List β)) (choice : List Nat)
    (rs : List (Nat × List (Option α)))
    (h : poolQueryA isInf n mapping uc b .proportional noises choice = .ok rs) :
    rs.length = min (min b (nCandOf mapping uc))
        (countSome (fullUtilities n mapping uc)) ∧
      (rs.map Prod.fst).Nodup ∧
      ∀ c ∈ rs.map Prod.fst, ∃ v, (fullUtilities n mapping uc)[c]? = some (some v) ∧ v ≠ 0 := by
  rw [poolQueryA, ite_error_eq_ok_iff] at h
  obtain ⟨h1, h2, h3, h4, -⟩ := simpleBatch_prop_spec isInf _ _ noises choice rs h.2
  refine ⟨h2, h1 ▸ h3, fun c hc => ?_⟩
  obtain ⟨v, hv, -, hv0⟩ := h4 c (h1 ▸ hc)
  exact ⟨v, hv, hv0⟩

open Ska.Skeleton in
/-- A `query` method whose regenerated skeleton is well formed denotes `poolQueryA` with its method. -/
theorem skel_sound (s : Skel) (h : s.wellFormed = true) (isInf : α → Bool) (n : Nat)
    (mapping : Option (List Nat)) (uc : List (Option α)) (b : Nat) (noises : List (List β)) (choice : List Nat) :
    ∃ m, s.methodOf = some m ∧
      s.denote isInf n mapping uc b noises choice = some (poolQueryA isInf n mapping uc b m noises choice) := by
  -- `methodOf.isSome` is the second of the conjuncts of `wellFormed`
  have hs : s.methodOf.isSome = true := by
    simp only [Skel.wellFormed, Bool.and_eq_true] at h
    exact h.1.1.1.1.1.2
  obtain ⟨m, hm⟩ := Option.isSome_iff_exists.mp hs
  exact ⟨m, hm, by rw [Skel.denote, if_pos h, hm]⟩

open Ska.Skeleton in
/-- **C01 for every class whose source has a well-formed maximising skeleton**: the obligation
`skel_<Class>_wf` (regenerated from the source and checked by `decide` on every run) is all that is
needed to conclude a valid batch, for all inputs. -/
theorem skel_max_valid (s : Skel) (h : s.wellFormed = true) (hmax : s.method = "max")
    (isInf : α → Bool) (n : Nat) (mp : List Nat) (uc : List (Option α))
    (b : Nat) (noises : List (List β)) (choice : List Nat)
    (hlen : uc.length = mp.length) (hnd : mp.Nodup) (hr : ∀ i ∈ mp, i < n)
    (hall : ∀ x ∈ uc, ∃ v, x = some v ∧ isInf v = false) (hb : 1 ≤ b) (hne : 1 ≤ mp.length)
    (hn : min b mp.length ≤ noises.length) (hpos : PosNoise n noises) :
    ∃ rs, s.denote isInf n (some mp) uc b noises choice = some (.ok rs) ∧
      ValidBatch mp b (rs.map Prod.fst) ∧ ValidUtils .max n mp (rs.map Prod.fst) (rs.map Prod.snd) := by
  obtain ⟨m, hm, hd⟩ := skel_sound s h isInf n (some mp) uc b noises choice
  cases hm.symm.trans (if_pos hmax : s.methodOf = some .max)
  obtain ⟨rs, hrs, hl, hv⟩ := poolQueryA_utils isInf n mp uc b noises choice hlen hnd hr hall hb hne hn hpos
  exact ⟨rs, by rw [hd, hrs], validBatch_of_validUtils hl hv, hv⟩

example : ValidBatch [1, 3, 4] 2 [4, 1] := by rw [← validBatchB_iff]; decide +kernel
example : unlabeledIdx [false, true, false, true, true] = [1, 3, 4] := by decide +kernel

end Ska.C01
