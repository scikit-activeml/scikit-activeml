import SkaModel.Lemmas.Aggregation

/-!
# C17 — annotation aggregation equals plain counting

All statements quantify over every encoded label matrix (any number of samples, annotators and
classes, any missing pattern; codes are the output of `ExtLabelEncoder.transform`, see
`encoded_codes_valid`), every weight matrix over an arbitrary semiring `α` (NaN weights are `none`;
no sign condition is needed), every noise matrix.  `majorityVote_max` additionally uses a linear order
on `α` (no compatibility with `+` is needed), the normalisation theorems a field of characteristic 0.
-/

namespace Ska.C17
open Ska Ska.Label Ska.Agg

section Votes
variable {α : Type} [Semiring α]

/-- The codes `ExtLabelEncoder.transform` produces are valid inputs of the aggregation functions:
`-1` or a class index below `K = len(classes_)`. -/
theorem encoded_codes_valid {γ : Type} [LinearOrder γ] (cls : List γ) (missing : γ → Bool) (y : List γ)
    (es : List Int) (h : transformFlat cls missing y = .ok es) : ∀ e ∈ es, ValidCode cls.length e := by
  intro e he
  obtain ⟨i, hi, rfl⟩ := List.getElem_of_mem he
  obtain ⟨hl, hget⟩ := transformFlat_spec cls missing y es h
  have hiy : i < y.length := hl ▸ hi
  obtain ⟨h1, h2⟩ := hget i hiy hi
  cases hm : missing y[i] with
  | true => exact Or.inl (h1 hm)
  | false =>
    obtain ⟨c, hc, hlt, -⟩ := h2 hm
    exact Or.inr (hc ▸ ⟨Int.natCast_nonneg c, Int.ofNat_lt.mpr hlt⟩)

/-- **`compute_vote_vectors` returns for every sample and class exactly the weighted number of
annotators that voted for that class, ignoring missing labels** (and NaN weights):
`V[i][c] = Σ_j w[i][j] · [y[i][j] = c]`, for every shape, missing pattern and weight matrix. -/
theorem voteVectors_eq_count (K : Nat) (yenc : List (List Int)) (w : Option (List (List (Option α))))
    (V : List (List α)) (h : computeVoteVectors K yenc w = .ok V)
    (hv : ∀ r ∈ yenc, ∀ e ∈ r, ValidCode K e) :
    V.length = yenc.length ∧
    ∀ i, ∀ hi : i < yenc.length, ∃ row wi, V[i]? = some row ∧ (effWeights yenc w)[i]? = some wi ∧
      row.length = K ∧
      ∀ c, c < K → row[c]? = some
        (((yenc[i].zip wi).map (fun ew => if ew.1 = (c : Int) then weightOf ew.2 else 0)).sum) := by
  obtain ⟨hl, hrow⟩ := computeVoteVectors_rows h hv
  refine ⟨hl, fun i hi => ?_⟩
  obtain ⟨wi, hw, hV⟩ := hrow i hi
  refine ⟨_, wi, hV, hw, by rw [List.length_map, List.length_range], fun c hc => ?_⟩
  rw [getElem?_map_range, if_pos hc, rowVote_eq_sum]

/-- Unweighted (`w=None`): the vote is the number of annotators that chose the class. -/
theorem voteVectors_unweighted (K : Nat) (yenc : List (List Int)) (V : List (List α))
    (h : computeVoteVectors K yenc none = .ok V) (hv : ∀ r ∈ yenc, ∀ e ∈ r, ValidCode K e) :
    ∀ i, ∀ hi : i < yenc.length, ∃ row, V[i]? = some row ∧ row.length = K ∧
      ∀ c, c < K → row[c]? = some (((yenc[i].filter (fun e => decide (e = (c : Int)))).length : α)) := by
  intro i hi
  obtain ⟨wi, hw, hV⟩ := (computeVoteVectors_rows h hv).2 i hi
  rw [effWeights, onesLike, List.getElem?_map, List.getElem?_eq_getElem hi] at hw
  obtain rfl := Option.some.inj hw
  refine ⟨_, hV, by rw [List.length_map, List.length_range], fun c hc => ?_⟩
  rw [getElem?_map_range, if_pos hc, rowVote_ones]

/-- The call succeeds exactly when at least one class is known and `w` has the shape of `y`; the
two error branches are `ValueError`s. -/
theorem voteVectors_errors (K : Nat) (yenc : List (List Int)) (w : Option (List (List (Option α)))) :
    (K = 0 → computeVoteVectors K yenc w = .error .noClasses) ∧
    (K ≠ 0 → sameShape yenc (effWeights yenc w) = false → computeVoteVectors K yenc w = .error .shape) ∧
    (K ≠ 0 → sameShape yenc (effWeights yenc w) = true → ∃ V, computeVoteVectors K yenc w = .ok V) := by
  -- the error side is where the order of the guards shows
  refine ⟨fun h => by rw [computeVoteVectors, if_pos h], fun h hs => by rw [computeVoteVectors, if_neg h, hs]; rfl,
    fun h hs => ⟨_, computeVoteVectors_eq_ok_iff.mpr ⟨h, hs, rfl⟩⟩⟩

end Votes

section Majority
variable {α : Type} [Semiring α] [LinearOrder α]
variable {β : Type} [LinearOrder β] [Zero β]

/-- **`majority_vote` returns for every sample a class with maximal vote, and the missing-label
sentinel (code `-1`) exactly for the samples without any label.**  Noise is what
`rand_argmax(V, axis=1)` draws: one row of `K` numbers per labeled sample, all strictly positive
(numpy draws from `[0,1)`; the `2⁻⁵³` corner of a zero is excluded as in C18). -/
theorem majorityVote_max (K : Nat) (yenc : List (List Int)) (w : Option (List (List (Option α))))
    (noise : List (List β)) (hK : 0 < K)
    (hv : ∀ r ∈ yenc, ∀ e ∈ r, ValidCode K e)
    (hs : sameShape yenc (effWeights yenc w) = true)
    (hn : noise.length = (selectRows (yenc.map rowLabeled) yenc).length)
    (hpos : ∀ nz ∈ noise, nz.length = K ∧ ∀ x ∈ nz, 0 < x) :
    ∃ res, majorityVote K yenc w noise = .ok res ∧ res.length = yenc.length ∧
      ∀ i, ∀ hi : i < yenc.length, ∃ wi, (effWeights yenc w)[i]? = some wi ∧
        (res[i]? = some (-1) ↔ rowLabeled yenc[i] = false) ∧
        (rowLabeled yenc[i] = true → ∃ c : Nat, c < K ∧ res[i]? = some (c : Int) ∧
          ∀ c', c' < K → rowVote c' yenc[i] wi ≤ rowVote c yenc[i] wi) := by
  obtain ⟨res, h1, h2⟩ := majorityVote_forall₂ K yenc w noise hK hv hs hn hpos
  have hwl := sameShape_length _ _ hs
  obtain ⟨hl, hget⟩ := List.forall₂_iff_get.mp h2
  have hz : (yenc.zip (effWeights yenc w)).length = yenc.length := by rw [List.length_zip, ← hwl, Nat.min_self]
  refine ⟨res, h1, hl.symm.trans hz, fun i hi => ?_⟩
  have hir : i < res.length := by rw [← hl, hz]; exact hi
  have hiw : i < (effWeights yenc w).length := hwl ▸ hi
  have := hget i (hz.symm ▸ hi) hir
  rw [List.get_eq_getElem, List.get_eq_getElem, List.getElem_zip] at this
  refine ⟨(effWeights yenc w)[i], List.getElem?_eq_getElem hiw, ?_⟩
  rw [List.getElem?_eq_getElem hir, Option.some.injEq]
  cases hlab : rowLabeled yenc[i] with
  | false =>
    rw [hlab, if_neg Bool.false_ne_true] at this
    exact ⟨⟨fun _ => rfl, fun _ => this⟩, fun h => nomatch h⟩
  | true =>
    rw [hlab, if_pos rfl] at this
    obtain ⟨c, hc, hres, hmax⟩ := this
    exact ⟨⟨fun h => Int.noConfusion (hres.symm.trans h), fun h => nomatch h⟩,
      fun _ => ⟨c, hc, congrArg some hres, hmax⟩⟩

/-- `rowLabeled` is "the sample has at least one non-missing label". -/
theorem rowLabeled_iff (r : List Int) : rowLabeled r = true ↔ ∃ e ∈ r, e ≠ -1 := by
  rw [rowLabeled, List.any_eq_true]
  simp only [decide_eq_true_eq]

end Majority

section Confusion
variable {α : Type} [Field α]

/-- **`normalize=None`: for every annotator the raw confusion counts of its non-missing labels
against the true labels**: entry `(i, j)` of annotator `a` is the number of samples with true class
`i` that `a` labeled `j` (samples `a` did not label are not counted anywhere). -/
theorem confusion_counts (K : Nat) (ts : List Int) (predCols : List (List Int))
    (C : List (List (List α)))
    (h : extConfusionMatrix (fun n => (n : α)) K ts predCols (some .none_) = .ok C) :
    C.length = predCols.length ∧
    ∀ a, ∀ ha : a < predCols.length, ∀ i j, i < K → j < K →
      ((C[a]?.bind (·[i]?)).bind (·[j]?)) =
        some ((((ts.zip predCols[a]).filter (pairIs i j)).length : Nat) : α) := by
  rw [extConfusionMatrix_some, ite_error_eq_ok_iff] at h
  obtain rfl := Except.ok.inj h.2
  refine ⟨List.length_map _, fun a ha i j hi hj => ?_⟩
  rw [List.getElem?_map, List.getElem?_eq_getElem ha, Option.map_some, Option.bind_some, normalizeCm,
    List.getElem?_map, getElem?_confusionCounts K _ i hi, Option.map_some, Option.bind_some, List.map_map,
    getElem?_map_range, if_pos hj, Function.comp, labeledPairs_filter]

/-- `y_true` with a missing label is rejected; an unknown `normalize` is rejected first. -/
theorem confusion_rejects (cast : Nat → α) (K : Nat) (ts : List Int) (predCols : List (List Int)) :
    extConfusionMatrix cast K ts predCols none = .error .normalize ∧
    (∀ nm, (-1 : Int) ∈ ts → extConfusionMatrix cast K ts predCols (some nm) = .error .trueMissing) := by
  refine ⟨rfl, fun nm hm => ?_⟩
  rw [extConfusionMatrix_some, if_pos (List.any_eq_true.mpr ⟨-1, hm, decide_eq_true rfl⟩)]

/-- Whatever the mode, the result is the per-annotator normalisation of the per-annotator counts. -/
theorem confusion_is_normalised_counts (cast : Nat → α) (K : Nat) (ts : List Int)
    (predCols : List (List Int)) (nm : Norm) (C : List (List (List α)))
    (h : extConfusionMatrix cast K ts predCols (some nm) = .ok C) :
    C = predCols.map (fun ps => normalizeCm cast K nm (confusionCounts K (labeledPairs ts ps))) := by
  rw [extConfusionMatrix_some, ite_error_eq_ok_iff] at h
  exact (Except.ok.inj h.2).symm

variable [CharZero α]

/-- **`normalize='true'`**: every row of an annotator's matrix is the row of counts divided by its
sum — hence sums to one — and the constant `1/K` where the row of counts is empty. -/
theorem confusion_normalised_true (K : Nat) (cm : List (List Nat)) (i : Nat) (hi : i < cm.length) :
    ∃ row, (normalizeCm (fun n => (n : α)) K .true_ cm)[i]? = some row ∧
      (natSum cm[i] ≠ 0 → row = cm[i].map (fun (c : Nat) => (c : α) / ((natSum cm[i] : Nat) : α)) ∧ row.sum = 1) ∧
      (natSum cm[i] = 0 → ∀ x ∈ row, x = 1 / (K : α)) := by
  refine ⟨_, by rw [normalizeCm, List.getElem?_map, List.getElem?_eq_getElem hi]; rfl, fun hs => ?_,
    fun hs x hx => ?_⟩
  · simp only [if_neg hs, true_and]
    exact normalised_row_sum cm[i] hs
  · simp only [if_pos hs, List.mem_map] at hx
    obtain ⟨_, -, rfl⟩ := hx
    rfl

/-- **`normalize='all'`**: every entry is the count divided by the annotator's total — the whole
matrix sums to one — and the constant `1/K²` for an annotator without any label. -/
theorem confusion_normalised_all (K : Nat) (cm : List (List Nat)) :
    let s := natSum (cm.map natSum)
    (s ≠ 0 → normalizeCm (fun n => (n : α)) K .all cm =
        cm.map (fun r => r.map (fun (c : Nat) => (c : α) / ((s : Nat) : α))) ∧
      ((normalizeCm (fun n => (n : α)) K .all cm).map List.sum).sum = 1) ∧
    (s = 0 → ∀ r ∈ normalizeCm (fun n => (n : α)) K .all cm, ∀ x ∈ r, x = 1 / ((K * K : Nat) : α)) := by
  refine ⟨fun hs => ?_, fun hs r hr x hx => ?_⟩
  · have e : normalizeCm (fun n => (n : α)) K .all cm =
        cm.map (fun r => r.map (fun (c : Nat) => (c : α) / ((natSum (cm.map natSum) : Nat) : α))) := by
      simp only [normalizeCm, if_neg hs]
    refine ⟨e, ?_⟩
    -- the sum of the row sums is the normalised list of the rows' totals
    rw [e, List.map_map, ← normalised_row_sum (cm.map natSum) hs, List.map_map]
    refine congrArg List.sum (List.map_congr_left fun r _ => ?_)
    simp only [Function.comp, sum_map_div, cast_natSum]
  · simp only [normalizeCm, if_pos hs, List.mem_map] at hr
    obtain ⟨r0, -, rfl⟩ := hr
    obtain ⟨c, -, rfl⟩ := List.mem_map.mp hx
    rfl

/-- **`normalize='pred'`**: every column of an annotator's (square, `K × K`) matrix is the column of
counts divided by its sum — hence sums to one — and the constant `1/K` where the column is empty. -/
theorem confusion_normalised_pred (K : Nat) (cm : List (List Nat)) (hrect : ∀ r ∈ cm, r.length = K)
    (j : Nat) (hj : j < K) :
    let s := natSum (colOf cm j)
    (s ≠ 0 → ((normalizeCm (fun n => (n : α)) K .pred cm).map (fun r => r.getD j 0)).sum = 1) ∧
    (s = 0 → ∀ r ∈ normalizeCm (fun n => (n : α)) K .pred cm, r.getD j 0 = 1 / (K : α)) := by
  intro s
  have hcol : ∀ r ∈ cm, ∀ f : Nat → α, ((List.range r.length).map f).getD j 0 = f j := fun r hr f => by
    rw [List.getD_eq_getElem?_getD, getElem?_map_range, if_pos (hrect r hr ▸ hj), Option.getD_some]
  refine ⟨fun hs => ?_, fun hs r hr => ?_⟩
  · -- column `j` of the result is the normalised column `j` of the counts
    rw [← normalised_row_sum (colOf cm j) hs, colOf, normalizeCm, List.map_map, List.map_map]
    exact congrArg List.sum (List.map_congr_left fun r hr => (hcol r hr _).trans (if_neg hs))
  · simp only [normalizeCm, List.mem_map] at hr
    obtain ⟨r0, hr0, rfl⟩ := hr
    rw [hcol r0 hr0, if_pos hs]

/-- the count matrices `ext_confusion_matrix` normalises are square (`K × K`), so
`confusion_normalised_pred` applies to them. -/
theorem confusion_counts_square (K : Nat) (pairs : List (Int × Int)) :
    (confusionCounts K pairs).length = K ∧ ∀ r ∈ confusionCounts K pairs, r.length = K := by
  refine ⟨by simp [confusionCounts], fun r hr => ?_⟩
  simp only [confusionCounts, List.mem_map] at hr
  obtain ⟨i, -, rfl⟩ := hr
  simp

end Confusion

/-! ## Non-vacuity: concrete instances -/

-- y = [[0, 1, missing], [1, 1, 0]], w = [[2, 3, 5], [1, NaN, 4]], K = 2
example : computeVoteVectors (α := Int) 2 [[0, 1, -1], [1, 1, 0]]
    (some [[some 2, some 3, some 5], [some 1, none, some 4]]) = .ok [[2, 3], [4, 1]] := by decide +kernel

example : computeVoteVectors (α := Int) 2 [[0, 1, -1], [1, 1, 0]] none = .ok [[1, 1], [1, 2]] := by decide +kernel

example : ∀ r ∈ [[(0:Int), 1, -1], [1, 1, 0]], ∀ e ∈ r, ValidCode 2 e := by
  unfold ValidCode; decide +kernel

-- rows: tie broken by the noise / unlabeled sample / clear majority
example : majorityVote (α := Int) (β := Nat) 2 [[0, 1, -1], [-1, -1, -1], [1, 1, 0]] none [[1, 2], [3, 1]]
    = .ok [1, -1, 1] := by decide +kernel

example : extConfusionMatrix (α := Rat) (fun n => (n : Rat)) 2 [0, 0, 1] [[0, 1, -1]] (some .none_)
    = .ok [[[1, 1], [0, 0]]] := by decide +kernel

-- the hypotheses of the normalisation theorems are met by these counts: row 0 / column 0 / the total are
-- non-zero, row 1 is empty (fallback)
example : natSum ((confusionCounts 2 (labeledPairs [0, 0, 1] [0, 1, -1]))[0]!) ≠ 0 ∧
    natSum ((confusionCounts 2 (labeledPairs [0, 0, 1] [0, 1, -1]))[1]!) = 0 ∧
    natSum (colOf (confusionCounts 2 (labeledPairs [0, 0, 1] [0, 1, -1])) 0) ≠ 0 ∧
    natSum ((confusionCounts 2 (labeledPairs [0, 0, 1] [0, 1, -1])).map natSum) ≠ 0 := by decide +kernel

end Ska.C17
