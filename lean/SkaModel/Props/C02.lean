import SkaModel.Lemmas.Pool
import SkaModel.Props.C18

/-!
# C02 — returned utilities agree with the returned selection

`ValidUtils` is the property's statement; `validUtilsB_iff` shows the Boolean decider the driver runs
on every implementation output decides exactly it; `poolQueryA_utils` proves it for the common
scatter + `simple_batch` tail ("Skeleton A") for all inputs; `stepwise_implies_valid` shows that
C02's step conditions imply the distinctness and membership clauses of C01.
-/

namespace Ska.C02
open Ska Ska.C18

variable {α : Type} [LinearOrder α] [Zero α]

/-- what the chosen entry of a row must satisfy -/
def PickOK (kind : SelKind) (row : List (Option α)) (pick : Nat) : Prop :=
  match kind with
  | .max => ∃ m, nanmax row = some m ∧ row[pick]? = some (some m)
  | .mass => ∃ v, row[pick]? = some (some v) ∧ 0 < v
  | .number => ∃ v, row[pick]? = some (some v)

/-- Row `k` of the utilities: one column per sample, NaN exactly at the positions that are not
selectable at this step (non-candidates and earlier picks), and the pick is OK. -/
def RowOK (kind : SelKind) (n : Nat) (cand earlier : List Nat) (pick : Nat) (row : List (Option α)) : Prop :=
  row.length = n ∧ (∀ j, j < n → (row[j]? = some none ↔ (j ∉ cand ∨ j ∈ earlier))) ∧ PickOK kind row pick

/-- **C02**: one row per selected sample; row `k` is `RowOK` w.r.t. the picks `0..k-1`. -/
def ValidUtils (kind : SelKind) (n : Nat) (cand q : List Nat) (U : List (List (Option α))) : Prop :=
  U.length = q.length ∧
  ∀ k, ∀ hk : k < q.length, ∀ hu : k < U.length, RowOK kind n cand (q.take k) q[k] U[k]

omit [LinearOrder α] [Zero α] in
theorem nanPatternRowB_iff (n : Nat) (cand earlier : List Nat) (row : List (Option α)) :
    nanPatternRowB n cand earlier row = true ↔
      (row.length = n ∧ ∀ j, j < n → (row[j]? = some none ↔ (j ∉ cand ∨ j ∈ earlier))) := by
  have hb : ∀ a p q : Bool, (a == (!p || q)) = true ↔ (a = true ↔ (p = false ∨ q = true)) := by decide
  simp only [nanPatternRowB, Bool.and_eq_true, decide_eq_true_eq, List.all_eq_true, List.mem_range, hb,
    Bool.eq_false_iff, ne_eq, List.contains_iff_mem]
  refine and_congr_right fun hl => forall₂_congr fun j hj => ?_
  rw [getD_eq_getElem row none (hl ▸ hj), List.getElem?_eq_getElem (hl ▸ hj), Option.isNone_iff_eq_none,
    Option.some.injEq]

theorem pickOkB_iff (kind : SelKind) (row : List (Option α)) (pick : Nat) :
    pickOkB kind row pick = true ↔ PickOK kind row pick := by
  cases kind with
  | max =>
    simp only [pickOkB, argmaxRowB, PickOK, ← getD_none_eq_some]
    cases nanmax row with
    | none => simp
    | some m =>
      cases row.getD pick none with
      | none => simp
      | some v =>
        exact (eqv_iff v m).trans
          ⟨fun h => ⟨m, rfl, h ▸ rfl⟩, fun ⟨_, h1, h2⟩ => Option.some.inj (h2.trans h1.symm)⟩
  | mass =>
    simp only [pickOkB, posMassRowB, PickOK, ← getD_none_eq_some]
    cases row.getD pick none <;> simp
  | number => exact Option.isSome_iff_exists.trans (exists_congr fun v => getD_none_eq_some)

theorem validRowsB_iff (kind : SelKind) (n : Nat) (cand : List Nat) (e q : List Nat) (U : List (List (Option α))) :
    validRowsB kind n cand e q U = true ↔ U.length = q.length ∧
      ∀ k, ∀ _ : k < q.length, ∀ hu : k < U.length,
        (nanPatternRowB n cand (e ++ q.take k) U[k] && pickOkB kind U[k] q[k]) = true :=
  stepsB_iff (fun e U q => validRowsB kind n cand e q U)
    (fun e row p => nanPatternRowB n cand e row && pickOkB kind row p)
    -- the four match equations of `validRowsB`; each holds by `rfl`, at nine times the checking cost
    (validRowsB.eq_1 kind n cand) (fun _ _ _ => by simp only [validRowsB]) (fun _ _ _ => by simp only [validRowsB])
    (fun e r rs p ps => validRowsB.eq_2 kind n cand e p ps r rs) e U q

/-- The Boolean the driver evaluates on implementation outputs decides exactly `ValidUtils`. -/
theorem validUtilsB_iff (kind : SelKind) (n : Nat) (cand q : List Nat) (U : List (List (Option α))) :
    validUtilsB kind n cand q U = true ↔ ValidUtils kind n cand q U := by
  rw [validUtilsB, validRowsB_iff]
  simp only [List.nil_append, Bool.and_eq_true, nanPatternRowB_iff, pickOkB_iff, ValidUtils, RowOK, and_assoc]

theorem PickOK.isNumber {kind : SelKind} {row : List (Option α)} {pick : Nat} (h : PickOK kind row pick) :
    ∃ v, row[pick]? = some (some v) := by
  cases kind with
  | max => exact h.imp fun _ h => h.2
  | mass => exact h.imp fun _ h => h.1
  | number => exact h

/-- The pick of an admissible row is a number, hence in range, a candidate and none of the earlier picks. -/
theorem RowOK.pick_spec {kind : SelKind} {n : Nat} {cand earlier : List Nat} {pick : Nat} {row : List (Option α)}
    (h : RowOK kind n cand earlier pick row) : pick < n ∧ pick ∈ cand ∧ pick ∉ earlier := by
  obtain ⟨hl, hnan, hpick⟩ := h
  obtain ⟨v, hv⟩ := hpick.isNumber
  have hlt : pick < n := hl ▸ (List.getElem?_eq_some_iff.mp hv).1
  have hn : ¬ (pick ∉ cand ∨ pick ∈ earlier) := fun h' => by cases hv.symm.trans ((hnan pick hlt).mpr h')
  exact ⟨hlt, Decidable.not_not.mp fun hc => hn (.inl hc), fun he => hn (.inr he)⟩

/-- Any `(q, U)` satisfying C02 (with any selection kind) consists of pairwise distinct candidates. -/
theorem stepwise_implies_valid (kind : SelKind) (n : Nat) (cand q : List Nat)
    (U : List (List (Option α))) (h : ValidUtils kind n cand q U) :
    q.Nodup ∧ ∀ i ∈ q, i ∈ cand ∧ i < n := by
  have key : ∀ k, ∀ hk : k < q.length, q[k] < n ∧ q[k] ∈ cand ∧ q[k] ∉ q.take k :=
    fun k hk => (h.2 k hk (h.1 ▸ hk)).pick_spec
  refine ⟨nodup_of_fresh q fun k hk => (key k hk).2.2, fun i hi => ?_⟩
  obtain ⟨k, hk, rfl⟩ := List.getElem_of_mem hi
  exact ⟨(key k hk).2.1, (key k hk).1⟩

variable {β : Type} [LinearOrder β] [Zero β] [Add α]

/-- `simple_batch` in max mode returns utilities that agree with its selection, with the candidate
set being any index list `cand` that marks exactly the non-NaN entries of `u`. -/
theorem simpleBatch_max_validUtils (isInf : α → Bool) (u : List (Option α)) (cand : List Nat)
    (b : Nat) (noises : List (List β)) (choice : List Nat)
    (hc : ∀ j, j < u.length → (u[j]? = some none ↔ j ∉ cand))
    (hfin : ∀ v, some v ∈ u → isInf v = false) (hb : 1 ≤ b)
    (hn : min b (countSome u) ≤ noises.length) (hpos : PosNoise u.length noises) :
    ∃ rs, simpleBatch isInf u b .max noises choice = .ok rs ∧
      rs.length = min b (countSome u) ∧
      ValidUtils .max u.length cand (rs.map Prod.fst) (rs.map Prod.snd) := by
  obtain ⟨rs, hrs, hl, hstep, -, -, hrows, -⟩ :=
    simpleBatch_max_spec isInf u b noises choice hfin hb hn hpos
  refine ⟨rs, hrs, hl, by rw [List.length_map, List.length_map], fun k hk hu => ?_⟩
  have hk' : k < rs.length := List.length_map (as := rs) Prod.fst ▸ hk
  rw [List.getElem_map, List.getElem_map]
  refine ⟨?_, fun j hj => ?_, stepMax_rows_max _ rs hstep k hk'⟩
  · rw [hrows k hk', setNones_length]
  · rw [hrows k hk', getElem?_setNones]
    by_cases hin : j ∈ List.take k (List.map Prod.fst rs)
    · rw [if_pos ⟨hin, hj⟩]
      exact iff_of_true rfl (.inr hin)
    · rw [if_neg fun h => hin h.1, hc j hj]
      exact ⟨.inl, fun h => h.resolve_right hin⟩

/-- **Skeleton A (max mode) returns utilities that agree with the selection**, for every pool size
`n`, every mapping (distinct rows of `X`), every candidate utility vector without NaN / infinities,
every batch size ≥ 1 and all positive noise draws. -/
theorem poolQueryA_utils (isInf : α → Bool) (n : Nat) (mp : List Nat) (uc : List (Option α))
    (b : Nat) (noises : List (List β)) (choice : List Nat)
    (hlen : uc.length = mp.length) (hnd : mp.Nodup) (hr : ∀ i ∈ mp, i < n)
    (hall : ∀ x ∈ uc, ∃ v, x = some v ∧ isInf v = false) (hb : 1 ≤ b) (hne : 1 ≤ mp.length)
    (hn : min b mp.length ≤ noises.length) (hpos : PosNoise n noises) :
    ∃ rs, poolQueryA isInf n (some mp) uc b .max noises choice = .ok rs ∧
      rs.length = min b mp.length ∧
      ValidUtils .max n mp (rs.map Prod.fst) (rs.map Prod.snd) := by
  have hall' : ∀ x ∈ uc, ∃ v, x = some v := fun x hx => (hall x hx).imp fun _ => And.left
  have hcount := countSome_scatter n mp uc hlen hnd hr hall'
  have hfin : ∀ v, some v ∈ scatter n mp uc → isInf v = false := fun v hv =>
    let ⟨w, hw, hwi⟩ := hall _ (some_mem_of_mem_scatter n mp uc v hv)
    Option.some.inj hw ▸ hwi
  have hc : ∀ j, j < (scatter n mp uc).length → ((scatter n mp uc)[j]? = some none ↔ j ∉ mp) := fun j hj =>
    getElem?_scatter_eq_some_none_iff n mp uc hlen hnd hr hall' j (scatter_length n mp uc ▸ hj)
  have hmin : min (min b mp.length) (countSome (scatter n mp uc)) = min b mp.length := by
    rw [hcount, Nat.min_assoc, Nat.min_self]
  obtain ⟨rs, hrs, hl, hv⟩ :=
    simpleBatch_max_validUtils isInf (scatter n mp uc) mp (min b mp.length) noises choice hc hfin
      (Nat.le_min.mpr ⟨hb, hne⟩) (hmin.symm ▸ hn) ((scatter_length n mp uc).symm ▸ hpos)
  rw [scatter_length] at hv
  exact ⟨rs, (poolQueryA_of_pos _ _ _ _ _ _ _ _ hb).trans hrs, hl.trans hmin, hv⟩

/-- Feature-row candidates are index candidates of a pool that consists of exactly the candidate rows. -/
theorem poolQueryA_rows_eq (isInf : α → Bool) (n : Nat) (uc : List (Option α)) (b : Nat) (m : Method)
    (noises : List (List β)) (choice : List Nat) :
    poolQueryA isInf n none uc b m noises choice =
      poolQueryA isInf uc.length (some (List.range uc.length)) uc b m noises choice := by
  simp only [poolQueryA, fullUtilities, nCandOf, scatter_range, List.length_range]

/-- The same for feature-row candidates (no mapping): one column per candidate row, candidates are
all row numbers `0..nCand-1`. -/
theorem poolQueryA_utils_rows (isInf : α → Bool) (n : Nat) (uc : List (Option α))
    (b : Nat) (noises : List (List β)) (choice : List Nat)
    (hall : ∀ x ∈ uc, ∃ v, x = some v ∧ isInf v = false) (hb : 1 ≤ b) (hne : 1 ≤ uc.length)
    (hn : min b uc.length ≤ noises.length) (hpos : PosNoise uc.length noises) :
    ∃ rs, poolQueryA isInf n none uc b .max noises choice = .ok rs ∧
      rs.length = min b uc.length ∧
      ValidUtils .max uc.length (List.range uc.length) (rs.map Prod.fst) (rs.map Prod.snd) := by
  have hl : (List.range uc.length).length = uc.length := List.length_range
  have := poolQueryA_utils isInf uc.length (List.range uc.length) uc b noises choice hl.symm List.nodup_range
    (fun _ => List.mem_range.mp) hall hb (hl.symm ▸ hne) (hl.symm ▸ hn) hpos
  rwa [hl, ← poolQueryA_rows_eq isInf n] at this

/-- With no candidate at all the real code raises (`batch_size` is clipped to 0 and `simple_batch`
rejects it); the pool loop of C14 never calls `query` in that situation. -/
theorem poolQueryA_no_candidates_raises (isInf : α → Bool) (n : Nat) (uc : List (Option α)) (b : Nat)
    (m : Method) (noises : List (List β)) (choice : List Nat) (hb : 1 ≤ b)
    (hfin : ∀ v, some v ∈ scatter n [] uc → isInf v = false) :
    poolQueryA isInf n (some []) uc b m noises choice = .error .batchSize := by
  rw [poolQueryA_of_pos _ _ _ _ _ _ _ _ hb, nCandOf, List.length_nil, Nat.min_zero]
  exact simpleBatch_rejects_batch0 isInf _ m noises choice hfin

example : ValidUtils (α := Int) .max 3 [0, 2] [2, 0]
    [[some 1, none, some 4], [some 1, none, none]] := by
  rw [← validUtilsB_iff]; decide +kernel

end Ska.C02
