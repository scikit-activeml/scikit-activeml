import SkaModel.Core.Uncertainty
import SkaModel.Props.C08

/-!
# C08 for UncertaintySampling: its scores are sample-wise, so restriction of the candidate set leaves them unchanged

Model: `SkaModel/Core/Uncertainty.lean` (`uncertainty_scores` for `least_confident` / `margin_sampling`, the scatter through
`mapping` and the multiplication by `utility_weight`), tied to the implementation by the bit-exact correspondence of check
C08 (the probability rows are captured from the classifier the strategy really calls).  `P j` is the probability row the
classifier returns for sample `j` (row-wise prediction is the assumption the classifier contributes).
-/

set_option linter.unusedSectionVars false

namespace Ska.C08us
open Ska Ska.Uncertainty

section Pointwise
variable {α : Type} [LT α] [DecidableLT α] [Sub α] [Mul α] [OfNat α 1]

/-- every candidate's score is a function of its own probability row -/
theorem scores_pointwise (m : UMethod) (probas : List (List α)) (k : Nat) :
    (scores m probas)[k]? = (probas[k]?).map (score m) :=
  List.getElem?_map

theorem getElem?_weight (u : List (Option α)) (w : List α) (j : Nat) :
    (weight u w)[j]? = match u[j]?, w[j]? with
      | some x, some wi => some (x.map (fun v => v * wi))
      | _, _ => none := by
  unfold weight
  rw [List.getElem?_zipWith]
  cases u[j]? <;> cases w[j]? <;> rfl

/-- **Restricting the candidates of UncertaintySampling leaves the utilities of the remaining candidates unchanged**
(index candidates / `candidates=None`; any utility weights). -/
theorem us_restrict (m : UMethod) (n : Nat) (mp mp' : List Nat) (P : Nat → List α) (w : List α)
    (hnd : mp.Nodup) (hr : ∀ i ∈ mp, i < n) (hnd' : mp'.Nodup) (hsub : ∀ i ∈ mp', i ∈ mp) :
    ∀ j ∈ mp', (usUtilities m n mp' (mp'.map P) w)[j]? = (usUtilities m n mp (mp.map P) w)[j]? := by
  intro j hj
  -- both vectors are `scatter n · (·.map f)` for `f = some ∘ score m ∘ P`, and `weight` acts entry by entry
  rw [usUtilities, usUtilities, getElem?_weight, getElem?_weight, scores, scores, List.map_map, List.map_map,
    List.map_map, List.map_map, C08.pointwise_restrict n mp mp' ((some ∘ score m) ∘ P) hnd hr hnd' hsub j hj]

end Pointwise

section Spec
variable {α : Type} [LinearOrder α]

theorem maxRow_spec (p : α) (ps : List α) :
    maxRow p ps ∈ p :: ps ∧ ∀ x ∈ p :: ps, x ≤ maxRow p ps := by
  induction ps generalizing p with
  | nil => exact ⟨List.mem_singleton_self p, fun x hx => le_of_eq (List.mem_singleton.mp hx)⟩
  | cons q qs ih =>
    rw [maxRow]
    by_cases hlt : p < q
    · rw [if_pos hlt]
      obtain ⟨h1, h2⟩ := ih q
      exact ⟨List.mem_cons_of_mem _ h1,
        List.forall_mem_cons.mpr ⟨le_trans (le_of_lt hlt) (h2 q List.mem_cons_self), h2⟩⟩
    · rw [if_neg hlt]
      obtain ⟨h1, h2⟩ := ih p
      obtain ⟨hp, hqs⟩ := List.forall_mem_cons.mp h2
      exact ⟨(List.mem_cons.mp h1).elim (fun e => List.mem_cons.mpr (.inl e))
          fun h => List.mem_cons_of_mem _ (List.mem_cons_of_mem _ h),
        List.forall_mem_cons.mpr ⟨hp, List.forall_mem_cons.mpr ⟨le_trans (not_lt.mp hlt) hp, hqs⟩⟩⟩

variable [Sub α] [One α]

/-- **least_confident is one minus the largest class probability** of the row (an entry of the row that bounds all others) -/
theorem leastConfident_spec (p : α) (ps : List α) :
    ∃ v ∈ p :: ps, leastConfident (p :: ps) = 1 - v ∧ ∀ x ∈ p :: ps, x ≤ v := by
  obtain ⟨h1, h2⟩ := maxRow_spec p ps
  exact ⟨maxRow p ps, h1, rfl, h2⟩

end Spec

/-- concrete integer rows (not probabilities): least confident `1 - 2`, margin `1 - (4 - 2)` -/
example : leastConfident ([1, 2, 1] : List Int) = -1 ∧ margin ([1, 4, 2] : List Int) = -1 := by decide +kernel

end Ska.C08us
