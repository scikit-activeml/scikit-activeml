import SkaModel.Lemmas.Regressor

/-!
# C15 — regressor predictions are coherent with their predictive distribution

Statements are about the model `SkaModel/Core/Regressor.lean`, tied to `/repo` by `harness/props/c15.py`
(posterior parameters bit-exact on dyadic kernels; `predict` against the returned distribution object;
wrapper fallbacks).
Arithmetic statements hold over every linear ordered field (exact arithmetic).

Clauses of the property:
* "predict returns exactly the mean (and, on request, std and entropy) of the distribution returned by
  predict_target_distribution": `predict_is_mean`, `predict_parts`;
* "standard deviations are finite and non-negative whenever a proper prior or at least two labeled
  samples are available": `combine_pos`, `combine_scale_pos`, `estimateMl_spec`, `nic_std_finite_proper_prior`,
  `nadaraya_watson_std_finite` (kernel regressors: finiteness is what `ν_post > 2` gives),
  `wrapper_fallback_values` (wrappers: at least two labels ⇒ `std = sqrt(var)`, `var ≥ 0`);
  the excluded corner is real: `improper_prior_counterexample`;
* "samples drawn by sample_y have shape (n_query_points, n_samples)": `sample_shape`,
  `fallback_sample_shape` (reproducibility: the result is a function of the draws, which are a function
  of the seed — MT19937, trusted; measured in the harness);
* "wrapped regressors fall back to the documented default (mean 0, or the empirical label mean)":
  `wrapper_fallback_values`, `wrapper_delegates`, `normal_fallback` (for any number of labels, also constant
  ones), `normal_fallback_few_labels`; the pre-repair behaviour is recorded in
  `Regressions.normal_fallback_zero_std_counterexample`.
-/

namespace Ska.C15
open Ska Ska.Classifier Ska.Regressor

section Predict
variable {α : Type}

/-- `ProbabilisticRegressor.predict`: whatever the flags, the (first component of the) result is
`rv.mean()`; the tuple has the documented shape `(mean[, std][, entropy])` and a bare array without flags. -/
theorem predict_is_mean (d : Dist α) :
    predictOut d false false = .single d.mean ∧
    predictOut d true false = .tuple [d.mean, d.std] ∧
    predictOut d false true = .tuple [d.mean, d.entropy] ∧
    predictOut d true true = .tuple [d.mean, d.std, d.entropy] :=
  ⟨rfl, rfl, rfl, rfl⟩

theorem predict_parts (d : Dist α) (rs re : Bool) :
    (predictParts d rs re).head? = some d.mean ∧
    (predictParts d rs re).length = 1 + (if rs then 1 else 0) + (if re then 1 else 0) := by
  cases rs <;> cases re <;> exact ⟨rfl, rfl⟩

variable [OfNat α 0]

/-- `sample_y`: `n_samples` draws of `n_query` values each are returned as `n_query` rows of
`n_samples` entries, entry `(i, j)` being draw `j` at query point `i`. -/
theorem sample_shape (q s : Nat) (draws : List (List α)) (hs : draws.length = s)
    (hq : ∀ r ∈ draws, r.length = q) :
    (sampleY q draws).length = q ∧ (∀ r ∈ sampleY q draws, r.length = s) ∧
    ∀ i j, ∀ hi : i < q, ∀ hj : j < draws.length,
      ((sampleY q draws).getD i []).getD j 0 = (draws[j]).getD i 0 := by
  refine ⟨by rw [sampleY, transposeM, List.length_map, List.length_range], fun r hr => ?_, fun i j hi hj => ?_⟩
  · obtain ⟨i, -, rfl⟩ := List.mem_map.mp hr
    rw [List.length_map, hs]
  · rw [sampleY, transposeM, getD_of_getElem? [] ((getElem?_map_range _ q i).trans (if_pos hi)),
      getD_eq_getElem _ _ (by rwa [List.length_map]), List.getElem_map]

end Predict

section Num
set_option linter.unusedSectionVars false
variable {α : Type} [Field α] [LinearOrder α] [IsStrictOrderedRing α]

/-- `_combine_params`: for a prior with `κ₀, ν₀, σ₀² ≥ 0`, an update with `κ_u = ν_u = N ≥ 0`,
`var ≥ 0`, and `κ₀ + N > 0`, `ν₀ + N > 0`: the posterior has `κ > 0`, `ν > 0`, `σ² ≥ 0`, and the
squared scale `(1+κ)/κ·σ²` handed to Student's t is `≥ 0`. -/
theorem combine_pos (p u : NIC α) (hpk : 0 ≤ p.kappa) (hpn : 0 ≤ p.nu) (hps : 0 ≤ p.sigmaSq)
    (huk : 0 ≤ u.kappa) (hun : 0 ≤ u.nu) (hus : 0 ≤ u.sigmaSq)
    (hk : 0 < p.kappa + u.kappa) (hn : 0 < p.nu + u.nu) :
    0 < (combineParams p u).kappa ∧ 0 < (combineParams p u).nu ∧ 0 ≤ (combineParams p u).sigmaSq ∧
    0 ≤ scaleSq (combineParams p u) ∧
    (combineParams p u).kappa = p.kappa + u.kappa ∧ (combineParams p u).nu = p.nu + u.nu := by
  have hsig := (div_nonneg (mul_nonneg hpn hps) hn.le).trans (combineParams_sigmaSq_ge p u hpk huk hun hus hk hn)
  exact ⟨hk, hn, hsig, scaleSq_nonneg _ hk hsig, rfl, rfl⟩

/-- with `ν₀ > 0` and `σ₀² > 0` the posterior variance parameter, hence the squared scale, is strictly
positive (scipy's frozen distributions need `scale > 0`; a zero scale yields NaN moments). -/
theorem combine_scale_pos (p u : NIC α) (hpk : 0 ≤ p.kappa) (hpn : 0 < p.nu) (hps : 0 < p.sigmaSq)
    (huk : 0 ≤ u.kappa) (hun : 0 ≤ u.nu) (hus : 0 ≤ u.sigmaSq) (hk : 0 < p.kappa + u.kappa) :
    0 < (combineParams p u).sigmaSq ∧ 0 < scaleSq (combineParams p u) := by
  have hn : 0 < p.nu + u.nu := add_pos_of_pos_of_nonneg hpn hun
  have hsig := (div_pos (mul_pos hpn hps) hn).trans_le (combineParams_sigmaSq_ge p u hpk huk hun hus hk hn)
  exact ⟨hsig, scaleSq_pos _ hk hsig⟩

/-- the maximum-likelihood update of one query point: for non-negative (weighted) kernel values with
positive total mass, `N > 0` and `var ≥ 0`. -/
theorem estimateMl_spec (krow y : List α) (hk : ∀ k ∈ krow, 0 ≤ k) (hN : 0 < sumL krow) :
    0 < (estimateMl krow y).1 ∧ 0 ≤ (estimateMl krow y).2.2 :=
  ⟨hN, mul_nonneg (div_nonneg zero_le_one hN.le)
    (sumL_nonneg _ (forall_mem_zipWith (fun _ _ hk _ => mul_nonneg hk (sqr_nonneg _)) hk fun _ _ => trivial))⟩

/-- every update produced by the model satisfies the hypotheses of `combine_pos`. -/
theorem updateParams_nonneg (w : Option (List α)) (krow y : List α) (hk : ∀ k ∈ krow, 0 ≤ k)
    (hw : ∀ l, w = some l → ∀ x ∈ l, 0 ≤ x) (hN : y.length ≠ 0 → 0 < sumL (weightRow w krow)) :
    0 ≤ (updateParams w krow y).kappa ∧ 0 ≤ (updateParams w krow y).nu ∧ 0 ≤ (updateParams w krow y).sigmaSq ∧
    (updateParams w krow y).kappa = (updateParams w krow y).nu ∧
    (y.length ≠ 0 → 0 < (updateParams w krow y).nu) := by
  unfold updateParams
  split
  · next h => exact ⟨le_rfl, le_rfl, le_rfl, rfl, fun hy => absurd h hy⟩
  · next h =>
    obtain ⟨h1, h2⟩ := estimateMl_spec (weightRow w krow) y (weightRow_nonneg w krow hk hw) (hN h)
    exact ⟨le_of_lt h1, le_of_lt h1, h2, rfl, fun _ => h1⟩

/-- a prior with `ν₀ > 2`, `κ₀ ≥ 0`, `σ₀² ≥ 0` and a positive posterior `κ` (a proper `κ₀`, or at least one label
with positive kernel mass): the predictive Student-t has `df > 2` and a variance `≥ 0`. -/
theorem nicPosterior_std_finite (prior : NIC α) (w : Option (List α)) (krow y : List α)
    (hk0 : 0 ≤ prior.kappa) (hn0 : 2 < prior.nu) (hs0 : 0 ≤ prior.sigmaSq)
    (hk : ∀ k ∈ krow, 0 ≤ k) (hw : ∀ l, w = some l → ∀ x ∈ l, 0 ≤ x)
    (hN : y.length ≠ 0 → 0 < sumL (weightRow w krow)) (hpos : 0 < prior.kappa ∨ y.length ≠ 0) :
    ∃ v, tVariance (nicPosterior prior w krow y).nu (scaleSq (nicPosterior prior w krow y)) = some v ∧ 0 ≤ v := by
  obtain ⟨u1, u2, u3, u4, u5⟩ := updateParams_nonneg w krow y hk hw hN
  have hn0' : 0 < prior.nu := zero_lt_two.trans hn0
  have hκ : 0 < prior.kappa + (updateParams w krow y).kappa :=
    hpos.elim (add_pos_of_pos_of_nonneg · u1) fun hy => add_pos_of_nonneg_of_pos hk0 (u4 ▸ u5 hy)
  obtain ⟨-, -, -, c4, -, -⟩ := combine_pos prior _ hk0 hn0'.le hs0 u1 u2 u3 hκ (add_pos_of_pos_of_nonneg hn0' u2)
  exact tVariance_of_two_lt _ _ (lt_add_of_lt_of_nonneg hn0 u2) c4

/-- **proper prior** (`κ₀ > 0`, `ν₀ > 2`, `σ₀² ≥ 0`): for every training set (also the empty one),
non-negative kernel and weights, the predictive Student-t has `df > 2`, hence a finite variance
`ν/(ν−2)·scale² ≥ 0` — the standard deviation is finite and non-negative. -/
theorem nic_std_finite_proper_prior (prior : NIC α) (w : Option (List α)) (krow y : List α)
    (hk0 : 0 < prior.kappa) (hn0 : 2 < prior.nu) (hs0 : 0 ≤ prior.sigmaSq)
    (hk : ∀ k ∈ krow, 0 ≤ k) (hw : ∀ l, w = some l → ∀ x ∈ l, 0 ≤ x)
    (hN : y.length ≠ 0 → 0 < sumL (weightRow w krow)) :
    ∃ v, tVariance (nicPosterior prior w krow y).nu (scaleSq (nicPosterior prior w krow y)) = some v ∧ 0 ≤ v :=
  nicPosterior_std_finite prior w krow y hk0.le hn0 hs0 hk hw hN (.inl hk0)

/-- **NadarayaWatsonRegressor** (`κ₀ = 0`, `ν₀ = 3`, `σ₀² = 1`) with at least one label and positive
kernel mass: finite, non-negative standard deviation. -/
theorem nadaraya_watson_std_finite (mu0 : α) (w : Option (List α)) (krow y : List α) (hy : y.length ≠ 0)
    (hk : ∀ k ∈ krow, 0 ≤ k) (hw : ∀ l, w = some l → ∀ x ∈ l, 0 ≤ x) (hN : 0 < sumL (weightRow w krow)) :
    ∃ v, tVariance (nicPosterior ⟨0, 3, mu0, 1⟩ w krow y).nu (scaleSq (nicPosterior ⟨0, 3, mu0, 1⟩ w krow y)) = some v ∧
      0 ≤ v :=
  nicPosterior_std_finite ⟨0, 3, mu0, 1⟩ w krow y le_rfl (Nat.ofNat_lt.mpr (by decide)) zero_le_one hk hw (fun _ => hN) (.inr hy)

/-- without a proper prior and without labels the claim fails (and the property does not make it):
`ν_post = ν₀ = 1` gives no finite variance. -/
theorem improper_prior_counterexample :
    (nicPosterior (α := Int) ⟨1, 1, 0, 1⟩ none [] []).nu = 1 ∧
    tVariance (α := Int) (nicPosterior ⟨1, 1, 0, 1⟩ none [] []).nu (scaleSq (nicPosterior ⟨1, 1, 0, 1⟩ none [] [])) = none := by
  decide +kernel

/-- `SklearnRegressor.predict`: a fitted wrapped estimator's output is passed through unchanged. -/
theorem wrapper_delegates (sqrt : α → α) (em : List α) (es : Option (List α)) (ys : List α) (n : Nat) (rs : Bool) :
    wrapperPredict sqrt true em es ys n rs = (em, es) := rfl

/-- `SklearnRegressor.predict`: when the wrapped estimator is not fitted, every query point gets
* mean `0`, std `1` with no labeled sample,
* mean `y`, std `1` with one labeled sample `y`,
* the empirical mean `Σy/n` and `sqrt` of the population variance (which is `≥ 0`) with `n ≥ 2` labels;
the std array is returned exactly when `return_std` is set. -/
theorem wrapper_fallback_values (sqrt : α → α) (em : List α) (es : Option (List α)) (n : Nat) :
    (∀ rs, wrapperPredict sqrt false em es [] n rs =
        (List.replicate n 0, if rs then some (List.replicate n 1) else none)) ∧
    (∀ rs y, wrapperPredict sqrt false em es [y] n rs =
        (List.replicate n y, if rs then some (List.replicate n 1) else none)) ∧
    (∀ rs (ys : List α), 2 ≤ ys.length →
        wrapperPredict sqrt false em es ys n rs =
          (List.replicate n (sumL ys / (ys.length : α)),
           if rs then some (List.replicate n (sqrt (labelVar ys))) else none) ∧ 0 ≤ labelVar ys) := by
  refine ⟨fun rs => rfl, fun rs y => ?_, fun rs ys h2 => ⟨?_, labelVar_nonneg ys⟩⟩
  · have : labelMean [y] = y := by
      rw [labelMean_of_pos [y] Nat.one_pos, sumL_cons, sumL_nil, add_zero, List.length_singleton, Nat.cast_one, div_one]
    show (List.replicate n (labelMean [y]), _) = _
    rw [this]
    rfl
  · rw [← labelMean_of_pos ys (Nat.lt_of_lt_of_le Nat.two_pos h2), ← (if_pos h2 : labelStd sqrt ys = _)]; rfl

/-- with the scale bounded from below by a positive `tiny`, `SklearnNormalRegressor` with an unfitted
estimator predicts, for any number of labels (also constant ones), the label mean (`0` without labels)
and the standard deviation `max(_label_std, tiny)`, which is a positive number — never NaN.
(`hsqrt`: scipy reports `sqrt(scale²)`; in IEEE doubles `tiny²` underflows, so the reported std of
constant labels is `0.0` — still finite and non-negative.) -/
theorem normal_fallback (sqrt : α → α) (hsqrt : ∀ x, 0 ≤ x → sqrt (x * x) = x) (tiny : α) (htiny : 0 < tiny)
    (ys : List α) (n : Nat) :
    normalFallbackPredict sqrt tiny ys n =
      (List.replicate n (some (labelMean ys)), List.replicate n (some (boundScale tiny (labelStd sqrt ys)))) ∧
    0 < boundScale tiny (labelStd sqrt ys) ∧ labelStd sqrt ys ≤ boundScale tiny (labelStd sqrt ys) ∧
    (tiny ≤ labelStd sqrt ys → boundScale tiny (labelStd sqrt ys) = labelStd sqrt ys) := by
  have hpos : 0 < boundScale tiny (labelStd sqrt ys) := boundScale_eq_max tiny _ ▸ lt_max_of_lt_left htiny
  refine ⟨by simp [normalFallbackPredict, normMean, normStd, hpos, hsqrt _ (le_of_lt hpos)], hpos, ?_, ?_⟩
  · rw [boundScale_eq_max]; exact le_max_right _ _
  · intro h; rw [boundScale_eq_max, max_eq_right h]

/-- fewer than two labels: the scale is `1` (for `tiny ≤ 1`). -/
theorem normal_fallback_few_labels (sqrt : α → α) (hsqrt : ∀ x, 0 ≤ x → sqrt (x * x) = x) (tiny : α)
    (htiny : 0 < tiny) (ht1 : tiny ≤ 1) (ys : List α) (n : Nat) (h : ys.length < 2) :
    normalFallbackPredict sqrt tiny ys n = (List.replicate n (some (labelMean ys)), List.replicate n (some 1)) := by
  have hs : labelStd sqrt ys = 1 := if_neg (Nat.not_lt.mpr (Nat.le_of_lt_succ h))
  obtain ⟨e, -, -, hb⟩ := normal_fallback sqrt hsqrt tiny htiny ys n
  rw [e, hb (hs ▸ ht1), hs]

/-- the fallback of `sample_y` keeps the shape `(n_query, n_samples)` of the normal draws. -/
theorem fallback_sample_shape (z : List (List α)) (std mean : α) :
    (fallbackSample z std mean).length = z.length ∧
    ∀ i, ∀ hi : i < z.length, ((fallbackSample z std mean)[i]'(by simp [fallbackSample]; exact hi)).length = z[i].length := by
  refine ⟨by simp [fallbackSample], ?_⟩
  intro i hi
  simp [fallbackSample]

end Num

/-! ## Non-vacuity -/

example : combineParams (α := Rat) ⟨1/10, 5/2, 0, 1⟩ ⟨2, 2, 3, 1/2⟩ = ⟨21/10, 9/2, 20/7, 61/63⟩ := by
  rw [combineParams]; simp only [NIC.mk.injEq]; decide +kernel

example : estimateMl (α := Rat) [1, 1/2, 1/2] [2, 4, 0] = (2, 2, 2) := by
  decide +kernel

example : sampleY (α := Int) 3 [[1, 2, 3], [4, 5, 6]] = [[1, 4], [2, 5], [3, 6]] := by decide +kernel

end Ska.C15

/-! ## Regressions: statements about definitions that model code as it was before a repair -/

namespace Ska.C15.Regressions
open Ska Ska.Classifier Ska.Regressor

/-- before commit 90dd3135 (scale not bounded): two equal labels `3, 3` (any `sqrt` with `sqrt 0 = 0`)
gave NaN mean and std instead of `3` and `0`. -/
theorem normal_fallback_zero_std_counterexample :
    normalFallbackPredictOld (α := Int) (fun x => x) [3, 3] 2 = ([none, none], [none, none]) ∧
    labelMean (α := Int) [3, 3] = 3 := by decide +kernel

/-- the same labels with the scale bounded below: mean `3`, std `tiny` (here `tiny := 1`). -/
example : normalFallbackPredict (α := Int) (fun x => x) 1 [3, 3] 2 = ([some 3, some 3], [some 1, some 1]) := by
  decide +kernel

end Ska.C15.Regressions
