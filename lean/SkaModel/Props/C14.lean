import SkaModel.Core.Loop
import SkaModel.Props.C01
import SkaModel.Props.C01seq
import SkaModel.Props.C01choice

/-!
# C14 — a pool active-learning loop labels every sample exactly once

`alLoop_exhausts`: for **every** query function that returns a C01-valid batch for `candidates=None`
at every labeling, every initial labeling, every batch size ≥ 1 and every oracle (the oracle only
decides *which* label is revealed, the mask evolves the same way): each query returns only unlabeled
samples, no sample is queried twice over the whole run, and the pool is exhausted after exactly
`⌈u/b⌉` queries.  `alTraceAccepts_sound`: a recorded run of the real code accepted by the Boolean
acceptor has exactly these properties.  The hypothesis is discharged by C01 for Skeleton A strategies
(`skeletonA_loop`) and, through `validBatchU_of_mem_unlabeledIdx`, for the loops of `C01seq` / `C01choice`
(`maskedSeq_loop`, `choiceSeq_loop`, `shrinkSeq_loop`); `validBatchU_iff_validBatch` states the hypothesis as
C01's `ValidBatch` on the unlabeled indices.
-/

namespace Ska.C14
open Ska Ska.C01

/-- C01 for `candidates=None` on the labeling mask `y`. -/
def ValidBatchU (y : List Bool) (b : Nat) (q : List Nat) : Prop :=
  q.length = min b (unl y) ∧ q.Nodup ∧ ∀ i ∈ q, y[i]? = some true

theorem validBatchU_iff_validBatch (y : List Bool) (b : Nat) (q : List Nat) :
    ValidBatchU y b q ↔ ValidBatch (unlabeledIdx y) b q := by
  rw [ValidBatchU, ValidBatch, unl, unlabeledIdx_length]
  exact and_congr_right fun _ => and_congr_right fun _ => forall₂_congr fun i _ => (mem_unlabeledIdx y i).symm

theorem validBatchUB_iff (y : List Bool) (b : Nat) (q : List Nat) :
    validBatchUB y b q = true ↔ ValidBatchU y b q := by
  simp only [validBatchUB, ValidBatchU, Bool.and_eq_true, decide_eq_true_eq, nodupB_iff, List.all_eq_true,
    and_assoc]
  refine and_congr_right fun _ => and_congr_right fun _ => forall₂_congr fun i _ => ?_
  rw [List.getD_eq_getElem?_getD, Option.getD_eq_iff]
  exact or_iff_left fun h => Bool.false_ne_true h.2

theorem unl_set_false (y : List Bool) (i : Nat) (h : y[i]? = some true) :
    unl (y.set i false) + 1 = unl y := by
  obtain ⟨hi, hy⟩ := List.getElem?_eq_some_iff.mp h
  exact countP_set_add_one (· == true) y i false hi (by rw [hy]; rfl) rfl

theorem reveal_cons (y : List Bool) (i : Nat) (q : List Nat) : reveal y (i :: q) = reveal (y.set i false) q := rfl

theorem unl_reveal (y : List Bool) (q : List Nat) (nd : q.Nodup)
    (hq : ∀ i ∈ q, y[i]? = some true) :
    unl (reveal y q) + q.length = unl y ∧
    (∀ j, j ∉ q → (reveal y q)[j]? = y[j]?) ∧
    (∀ j ∈ q, (reveal y q)[j]? = some false) := by
  -- `reveal` is a fold of `set`s: its entries are known, the count is by induction
  refine ⟨?_, fun j hj => (getElem?_foldl_set (fun _ => false) q y j).trans (if_neg fun h => hj h.1),
    fun j hj => (getElem?_foldl_set (fun _ => false) q y j).trans
      (if_pos ⟨hj, (List.getElem?_eq_some_iff.mp (hq j hj)).1⟩)⟩
  induction q generalizing y with
  | nil => rfl
  | cons i rest ih =>
    have nd' := List.nodup_cons.mp nd
    have hq' : ∀ j ∈ rest, (y.set i false)[j]? = some true := fun j hj => by
      rw [List.getElem?_set_ne fun (e : i = j) => nd'.1 (e ▸ hj)]
      exact hq j (List.mem_cons_of_mem _ hj)
    rw [reveal_cons, List.length_cons, ← Nat.add_assoc, ih _ nd'.2 hq', unl_set_false y i (hq i List.mem_cons_self)]

/-- `⌈u/b⌉ = ⌈(u - min b u)/b⌉ + 1` for `u > 0`. -/
theorem ceil_step (u b m : Nat) (hb : 0 < b) (hu : 0 < u) (hm : m = min b u) :
    (u - m + b - 1) / b + 1 = (u + b - 1) / b := by
  subst hm
  rw [Nat.sub_add_comm (Nat.succ_le_of_lt hu), Nat.add_div_right _ hb]
  rcases Nat.le_total b u with hle | hle
  · rw [Nat.min_eq_left hle, Nat.sub_add_cancel hle]
  · rw [Nat.min_eq_right hle, Nat.sub_self, Nat.zero_add, Nat.div_eq_of_lt (Nat.sub_lt hb Nat.one_pos),
      Nat.div_eq_of_lt (Nat.lt_of_lt_of_le (Nat.sub_lt hu Nat.one_pos) hle)]

/-- Conclusions of C14 for a list of batches `tr` queried from the initial labeling `y`. -/
def Exhausts (y : List Bool) (b : Nat) (tr : List (List Nat)) : Prop :=
  tr.length = (unl y + b - 1) / b ∧ tr.flatten.Nodup ∧
  (∀ i ∈ tr.flatten, y[i]? = some true) ∧ tr.flatten.length = unl y

theorem exhausts_nil (y : List Bool) (b : Nat) (hb : 0 < b) (h : unl y = 0) : Exhausts y b [] := by
  rw [Exhausts, h, Nat.zero_add, Nat.div_eq_of_lt (Nat.sub_lt hb Nat.one_pos)]
  exact ⟨rfl, List.nodup_nil, fun _ hi => (List.not_mem_nil hi).elim, rfl⟩

theorem exhausts_cons (y : List Bool) (b : Nat) (hb : 0 < b) (q : List Nat) (rest : List (List Nat))
    (h0 : unl y ≠ 0) (hq : ValidBatchU y b q) (hr : Exhausts (reveal y q) b rest) :
    Exhausts y b (q :: rest) := by
  obtain ⟨hl, hnd, hmem⟩ := hq
  obtain ⟨r1, r2, r3⟩ := unl_reveal y q hnd hmem
  obtain ⟨i1, i2, i3, i4⟩ := hr
  -- a sample queried later is unlabeled after `q` was revealed, hence not in `q` and unlabeled before
  have later : ∀ i ∈ rest.flatten, i ∉ q ∧ y[i]? = some true := fun i hi =>
    have hni : i ∉ q := fun hin => by cases (r3 i hin).symm.trans (i3 i hi)
    ⟨hni, r2 i hni ▸ i3 i hi⟩
  refine ⟨?_, ?_, ?_, ?_⟩
  · rw [List.length_cons, i1, Nat.eq_sub_of_add_eq r1]
    exact ceil_step (unl y) b _ hb (Nat.pos_of_ne_zero h0) hl
  · rw [List.flatten_cons, List.nodup_append]
    exact ⟨hnd, i2, fun a ha c hc hac => (later c hc).1 (hac ▸ ha)⟩
  · intro i hi
    rcases List.mem_append.mp (List.flatten_cons ▸ hi) with hi | hi
    · exact hmem i hi
    · exact (later i hi).2
  · rw [List.flatten_cons, List.length_append, i4, Nat.add_comm]
    exact r1

/-- **The pool loop labels every sample exactly once** (any query function satisfying C01). -/
theorem alLoop_exhausts (query : List Bool → List Nat) (b : Nat) (hb : 0 < b)
    (hq : ∀ y, 0 < unl y → ValidBatchU y b (query y)) :
    ∀ fuel y, unl y ≤ fuel → Exhausts y b (alLoop query fuel y) := by
  intro fuel
  induction fuel with
  | zero => exact fun y h => exhausts_nil y b hb (Nat.le_zero.mp h)
  | succ k ih =>
    intro y h
    rw [alLoop]
    by_cases h0 : unl y = 0
    · rw [if_pos h0]
      exact exhausts_nil y b hb h0
    · rw [if_neg h0]
      have hv := hq y (Nat.pos_of_ne_zero h0)
      refine exhausts_cons y b hb _ _ h0 hv (ih _ ?_)
      -- the batch is not empty, so fewer samples are unlabeled afterwards
      have hpos : 0 < (query y).length := hv.1 ▸ Nat.lt_min.mpr ⟨hb, Nat.pos_of_ne_zero h0⟩
      exact Nat.le_of_lt_succ (Nat.lt_of_lt_of_le
        ((Nat.lt_add_of_pos_right hpos).trans_eq (unl_reveal y (query y) hv.2.1 hv.2.2).1) h)

/-- A recorded run accepted by the Boolean acceptor satisfies all conclusions of C14. -/
theorem alTraceAccepts_sound (b : Nat) (hb : 0 < b) (tr : List (List Nat)) :
    ∀ y, alTraceAccepts b y tr = true → Exhausts y b tr := by
  induction tr with
  | nil => exact fun y h => exhausts_nil y b hb (eq_of_beq (h : (unl y == 0) = true))
  | cons q rest ih =>
    intro y h
    rw [alTraceAccepts, Bool.and_eq_true, Bool.and_eq_true, bne_iff_ne] at h
    exact exhausts_cons y b hb q rest h.1.1 ((validBatchUB_iff y b q).mp h.1.2) (ih _ h.2)

theorem validBatchU_of_mem_unlabeledIdx {y : List Bool} {b : Nat} {q : List Nat} (hl : q.length = min b (unl y))
    (hnd : q.Nodup) (hmem : ∀ i ∈ q, i ∈ unlabeledIdx y) : ValidBatchU y b q :=
  ⟨hl, hnd, fun i hi => (mem_unlabeledIdx y i).mp (hmem i hi)⟩

/-- Skeleton A discharges the hypothesis of `alLoop_exhausts`: if at every labeling the strategy's
query is `poolQueryA` on the unlabeled samples with numeric candidate utilities (whatever they are —
`utilOf` is arbitrary, and so are the noise draws `noiseOf` as long as they are positive), the loop
labels every sample exactly once. -/
theorem skeletonA_loop {α : Type} [LinearOrder α] [Zero α] [Add α] {β : Type} [LinearOrder β] [Zero β]
    (isInf : α → Bool) (b : Nat) (hb : 0 < b)
    (utilOf : List Bool → List (Option α)) (noiseOf : List Bool → List (List β))
    (hutil : ∀ y, (utilOf y).length = (unlabeledIdx y).length ∧
      ∀ x ∈ utilOf y, ∃ v, x = some v ∧ isInf v = false)
    (hnoise : ∀ y, b ≤ (noiseOf y).length ∧ Ska.C18.PosNoise y.length (noiseOf y))
    (query : List Bool → List Nat)
    (hquery : ∀ y rs, poolQueryA isInf y.length (some (unlabeledIdx y)) (utilOf y) b .max (noiseOf y) [] = .ok rs →
      query y = rs.map Prod.fst) :
    ∀ y, Exhausts y b (alLoop query (unl y) y) := by
  refine fun y => alLoop_exhausts query b hb (fun y' hpos => ?_) (unl y) y (Nat.le_refl _)
  obtain ⟨rs, hrs, h⟩ := poolQueryA_none_valid isInf y' (utilOf y') b (noiseOf y') [] (hutil y').1 (hutil y').2 hb
    hpos (Nat.le_trans (Nat.min_le_left ..) (hnoise y').1) (hnoise y').2
  rw [hquery y' rs hrs]
  exact h

/-- The strategies with a masked arg-max loop (the harness's set `SEQ_MASKED`, `harness/props/_pool.py`)
discharge the hypothesis of `alLoop_exhausts` through `maskedSeq_valid`: if at every labeling the query is a masked sequential arg-max selection over
`min(b, #unlabeled)` rows (whatever the rows are) that are NaN outside the unlabeled samples, contain a
number, and obey the mask discipline, the loop labels every sample exactly once. -/
theorem maskedSeq_loop {α : Type} [LinearOrder α] {β : Type} [LinearOrder β] [Zero β]
    (b : Nat) (hb : 0 < b)
    (rowsOf : List Bool → List (List (Option α))) (noiseOf : List Bool → List (List β))
    (hshape : ∀ y, (rowsOf y).length = min b (unl y) ∧ (rowsOf y).length = (noiseOf y).length)
    (hrows : ∀ y, ∀ k, ∀ hk : k < (rowsOf y).length, ∀ hk' : k < (noiseOf y).length,
        ((noiseOf y)[k]).length = ((rowsOf y)[k]).length ∧ (∀ x ∈ (noiseOf y)[k], 0 < x) ∧
          0 < countSome ((rowsOf y)[k]))
    (hcand : ∀ y, ∀ row ∈ rowsOf y, Ska.Seq.nanOutsideB (unlabeledIdx y) row = true)
    (hmask : ∀ y, Ska.Seq.maskOkB [] (rowsOf y) (Ska.Seq.seqPicks (rowsOf y) (noiseOf y)) = true) :
    ∀ y, Exhausts y b (alLoop (fun y => Ska.Seq.seqPicks (rowsOf y) (noiseOf y)) (unl y) y) := by
  refine fun y => alLoop_exhausts _ b hb (fun y' _ => ?_) (unl y) y (Nat.le_refl _)
  obtain ⟨h1, h2, h3, -⟩ := Ska.C01seq.maskedSeq_valid (unlabeledIdx y') (rowsOf y') (noiseOf y') (hshape y').2
    (hrows y') (hcand y') (hmask y')
  exact validBatchU_of_mem_unlabeledIdx (h1.trans (hshape y').1) h2 h3

theorem nodup_map_getD (space : List Nat) (hs : space.Nodup) (picks : List Nat) (hp : picks.Nodup)
    (hlt : ∀ p ∈ picks, p < space.length) :
    (picks.map (fun p => space.getD p 0)).Nodup ∧ ∀ i ∈ picks.map (fun p => space.getD p 0), i ∈ space :=
  ⟨nodup_map_of_inj_on _ picks (fun a ha b hb e => (List.getD_inj (hlt a ha) (hlt b hb) hs).mp e) hp,
    List.forall_mem_map.mpr fun p hp' => getD_eq_getElem space 0 (hlt p hp') ▸ List.getElem_mem _⟩

/-- The drawing strategies (`Badge`, `Falcun`) discharge the hypothesis of `alLoop_exhausts` through
`choiceSeq_valid`: if at every labeling the query draws `min(b, #unlabeled)` positions with `choice` from weight
vectors over the unlabeled samples (whatever the weights are) that satisfy `choice`'s preconditions and carry no
mass at the earlier picks, the loop labels every sample exactly once. -/
theorem choiceSeq_loop {α : Type} [Field α] [LinearOrder α] [IsStrictOrderedRing α]
    (b : Nat) (hb : 0 < b)
    (rowsOf : List Bool → List (List α)) (usOf : List Bool → List α)
    (hshape : ∀ y, (rowsOf y).length = min b (unl y) ∧ (rowsOf y).length = (usOf y).length)
    (hlen : ∀ y, ∀ row ∈ rowsOf y, row.length = unl y)
    (hprob : ∀ y, ∀ k, ∀ hk : k < (rowsOf y).length, ∀ hk' : k < (usOf y).length,
        Ska.Seq.probOkB (rowsOf y)[k] (usOf y)[k] = true)
    (hzero : ∀ y, Ska.Seq.zeroOkB [] (rowsOf y) (Ska.Seq.choicePicks (rowsOf y) (usOf y)) = true) :
    ∀ y, Exhausts y b (alLoop (fun y => (Ska.Seq.choicePicks (rowsOf y) (usOf y)).map
        (fun p => (unlabeledIdx y).getD p 0)) (unl y) y) := by
  refine fun y => alLoop_exhausts _ b hb (fun y' _ => ?_) (unl y) y (Nat.le_refl _)
  obtain ⟨h1, h2, h3⟩ := Ska.C01choice.choiceSeq_valid [] (rowsOf y') (usOf y') List.nodup_nil (hshape y').2
    (hprob y') (hzero y')
  -- a drawn position has a weight, so it lies inside its weight vector, which has one entry per unlabeled sample
  have hlt : ∀ p ∈ Ska.Seq.choicePicks (rowsOf y') (usOf y'), p < (unlabeledIdx y').length := by
    intro p hp
    obtain ⟨k, hk, rfl⟩ := List.getElem_of_mem hp
    obtain ⟨v, hv, -⟩ := h3 k (h1 ▸ hk) hk
    rw [unlabeledIdx_length, ← unl, ← hlen y' _ (List.getElem_mem (h1 ▸ hk))]
    exact (List.getElem?_eq_some_iff.mp hv).1
  obtain ⟨m2, m3⟩ := nodup_map_getD (unlabeledIdx y') (unlabeledIdx_nodup y') _ h2 hlt
  exact validBatchU_of_mem_unlabeledIdx ((List.length_map _).trans (h1.trans (hshape y').1)) m2 m3

/-- `_greedy_sampling` (GreedySamplingX / GreedySamplingTarget) discharges the hypothesis through
`shrinkSeq_valid`: the list of remaining candidates starts as the unlabeled samples; whatever the scores are, if
the loop runs for `min(b, #unlabeled)` steps it labels every sample exactly once. -/
theorem shrinkSeq_loop {α : Type} [LinearOrder α] {β : Type} [LinearOrder β] [Zero β]
    (b : Nat) (hb : 0 < b)
    (rowsOf : List Bool → List (List (Option α))) (noiseOf : List Bool → List (List β))
    (picksOf : List Bool → List Nat)
    (hshape : ∀ y, (rowsOf y).length = min b (unl y) ∧ (rowsOf y).length = (noiseOf y).length)
    (hrun : ∀ y, Ska.Seq.shrinkSeq (unlabeledIdx y) (rowsOf y) (noiseOf y) = some (picksOf y)) :
    ∀ y, Exhausts y b (alLoop picksOf (unl y) y) := by
  refine fun y => alLoop_exhausts _ b hb (fun y' _ => ?_) (unl y) y (Nat.le_refl _)
  obtain ⟨h1, h2, h3⟩ := Ska.C01choice.shrinkSeq_valid (unlabeledIdx y') (rowsOf y') (noiseOf y') (picksOf y')
    (unlabeledIdx_nodup y') (hrun y')
  refine validBatchU_of_mem_unlabeledIdx ?_ h2 h3
  rw [h1, ← (hshape y').2, Nat.min_self, (hshape y').1]

example : alTraceAccepts 2 [true, false, true, true] [[3, 0], [2]] = true := by decide
example : Exhausts [true, false, true, true] 2 [[3, 0], [2]] :=
  alTraceAccepts_sound 2 (by decide) _ _ (by decide)

end Ska.C14
