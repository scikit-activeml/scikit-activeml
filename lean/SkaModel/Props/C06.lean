import SkaModel.Core.Rng
import SkaModel.Props.C13

/-!
# C06 — results are reproducible for a fixed `random_state`

Theorems over the draw-site model of `SkaModel/Core/Rng.lean`.  The per-class instances
(`NoGlobal rng_<Class>_<method> = true`) are regenerated from the current source into
`SkaModel/Gen/RngC06.lean` on every run; classes whose table contains a `global` / `unseeded` site
on the unchanged tree get the negated fact and are handled by the dynamic oracle of
`harness/props/c06.py`.

Trusted (DESIGN Part II §4 C06): third-party estimators are deterministic given their `random_state`;
MT19937 is a deterministic function of its seed; thread-level nondeterminism is not modelled.
-/

namespace Ska.C06
open Ska.Rng

theorem step_noGlobal (ownS argS g g' : Stream) (c : Cur) (k : Nat) :
    ∀ s : Src, s.usesGlobal = false →
      step ownS argS g { c with glob := k } s = { step ownS argS g' c s with glob := k }
  | .own, _ => rfl
  | .derived, _ => rfl
  | .seededArg, _ => rfl

theorem noGlobal_cons (s : Src) (p : List Src) :
    NoGlobal (s :: p) = true ↔ s.usesGlobal = false ∧ NoGlobal p = true := by
  rw [NoGlobal, List.all_cons, Bool.and_eq_true, Bool.not_eq_true']; rfl

/-- Without a global site the global generator is only carried along: neither its contents nor its cursor reach
the other components of the state, and the cursor stays where it was put. -/
theorem run_noGlobal (ownS argS g g' : Stream) (p : List Src) (h : NoGlobal p = true) (c : Cur) (k : Nat) :
    run ownS argS g p { c with glob := k } = { run ownS argS g' p c with glob := k } := by
  induction p generalizing c with
  | nil => rfl
  | cons s p ih =>
    obtain ⟨hs, hp⟩ := (noGlobal_cons s p).mp h
    rw [run, run, ← ih hp, step_noGlobal ownS argS g g' c k s hs]

/-- **Independence from the process-global generator.**  If no draw site of a method uses the
global source (neither `np.random.*` nor an unseeded third-party estimator), everything it draws —
hence every result it computes — is the same for all contents `g, g'` of the global generator, and
the global generator is not advanced. -/
theorem no_global_independent (ownS argS g g' : Stream) (p : List Src) (h : NoGlobal p = true)
    (c : Cur) :
    (run ownS argS g p c).drawn = (run ownS argS g' p c).drawn ∧ (run ownS argS g p c).glob = c.glob :=
  -- `(e :)`: the sides match the goal once projected (`{ c with glob := c.glob }` is `c`, `{ r with glob := k }.drawn` is `r.drawn`)
  ⟨(congrArg Cur.drawn (run_noGlobal ownS argS g g' p h c c.glob) :),
    (congrArg Cur.glob (run_noGlobal ownS argS g g p h c c.glob) :)⟩

/-- **Twin objects.**  Two runs with equal own and argument generators (equal constructor
parameters) and equal draw tables draw the same values, whatever the global generator holds,
provided no site uses it. -/
theorem run_det (ownS ownS' argS argS' g g' : Stream) (p : List Src) (h : NoGlobal p = true)
    (ho : ownS = ownS') (ha : argS = argS') (c : Cur) :
    (run ownS argS g p c).drawn = (run ownS' argS' g' p c).drawn :=
  ho ▸ ha ▸ (no_global_independent ownS argS g g' p h c).1

/-- the per-call generator of the draw-site model is the one `check_random_state` returns -/
theorem ownStream_eq_checkRandomState (mk : Nat → Stream) (seed : Seed) (mult : Nat) (g : Stream) (c : Nat) :
    ownStream mk seed mult g c = (checkRandomState mk seed (some mult) g c).stream := by
  cases seed <;> rfl

/-- **With a multiplier, a given `random_state` is never handed out and never advanced**: the generator returned
is a new object, and a caller-owned instance stands where it stood — for every multiplier (1 included). -/
theorem crs_private (mk : Nat → Stream) (seed : Seed) (mult : Nat) (g : Stream) (c : Nat)
    (hs : seed.given = true) :
    (checkRandomState mk seed (some mult) g c).shared = false ∧
    ∀ st cur, seed = .inst st cur → (checkRandomState mk seed (some mult) g c).callerCur = cur := by
  cases seed with
  | none => cases hs
  | int n => exact ⟨rfl, fun _ _ h => by cases h⟩
  | inst st cur => exact ⟨rfl, fun _ _ h => by cases h; rfl⟩

/-- … and what it returns is a function of `(random_state, multiplier)` alone -/
theorem crs_deterministic (mk : Nat → Stream) (seed : Seed) (mult : Nat) (g g' : Stream) (c c' : Nat)
    (hs : seed.given = true) :
    (checkRandomState mk seed (some mult) g c).stream = (checkRandomState mk seed (some mult) g' c').stream := by
  cases seed with
  | none => cases hs
  | int n => rfl
  | inst st cur => rfl

/-- **Repeating a pool query gives the same result**, and the result does not depend on the global
generator: with `random_state` an integer or a `RandomState` instance, `random_state_` is a function
of `(random_state, #unlabeled + 1)` only — the instance is deep-copied, so the second call starts
from the same state (`seed` and `mult` are the same in both calls; `globCur`/`globCur'` and `g`/`g'`
are whatever the global generator happens to be at either call). -/
theorem pool_repeat_equal {β : Type} (F : List Nat → β) (mk : Nat → Stream) (seed : Seed) (mult : Nat)
    (argS g g' : Stream) (globCur globCur' : Nat) (p : List Src) (h : NoGlobal p = true)
    (hs : seed.given = true) :
    (poolQuery F mk seed mult argS g globCur p).1 = (poolQuery F mk seed mult argS g' globCur' p).1 := by
  have hown : ownStream mk seed mult g' globCur' = ownStream mk seed mult g globCur := by
    rw [ownStream_eq_checkRandomState, ownStream_eq_checkRandomState,
      crs_deterministic mk seed mult g' g globCur' globCur hs]
  simp only [poolQuery]
  rw [hown]
  exact congrArg (fun c => F c.drawn) (run_noGlobal _ argS g g' p h ⟨0, 0, globCur', []⟩ globCur)

/-- **Any number of repetitions of a pool query return the result of the first**, with `random_state` a
caller-owned instance: by induction over the number of calls, using that each call leaves the instance where
it was. -/
theorem repeat_all_equal {β : Type} (F : List Nat → β) (mk : Nat → Stream) (st : Stream) (mult : Nat)
    (argS g : Stream) (globCur : Nat) (p : List Src) (n cur : Nat) :
    ∀ r ∈ repeatQueries F mk st mult argS g globCur p n cur,
      r = (poolQuery F mk (.inst st cur) mult argS g globCur p).1 := by
  induction n with
  | zero => intro r hr; cases hr
  | succ n ih =>
    intro r hr
    -- the call leaves the caller's instance at `cur`: the remaining calls are the same `n` calls again
    rw [repeatQueries, (crs_private mk (.inst st cur) mult g globCur rfl).2 st cur rfl, List.mem_cons] at hr
    rcases hr with rfl | hr
    · rw [poolQuery, ownStream_eq_checkRandomState]
    · exact ih r hr

/-- Handing the caller's instance itself to the method breaks this already for two calls and one draw (a shortcut
in `check_random_state` for multiplier 1 would do this, and `SingleAnnotatorWrapper._query_annotators` before its repair did). -/
theorem shared_instance_counterexample :
    repeatQueriesShared id (fun i => i) (fun _ => 0) (fun _ => 0) 0 [.own] 2 0 = [[0], [1]] := by decide +kernel

/-- Without a seed the statement is false in the model as in the code (`random_state=None` draws
from the global generator): the hypothesis `seed.given` is needed. -/
theorem unseeded_counterexample :
    (poolQuery id (fun n i => n + i) .none 3 (fun _ => 0) (fun i => i) 0 [.own]).1
      ≠ (poolQuery id (fun n i => n + i) .none 3 (fun _ => 0) (fun i => i) 5 [.own]).1 := by decide +kernel

/-- … and a single unseeded third-party estimator makes the result depend on the global generator
even with an integer seed (TypiClust / ProbCover / Clue / DropQuery with `cluster_algo_dict=None`). -/
theorem unseeded_ctor_counterexample :
    (poolQuery id (fun n i => n + i) (.int 1) 3 (fun _ => 0) (fun i => i) 0 [.unseeded, .own]).1
      ≠ (poolQuery id (fun n i => n + i) (.int 1) 3 (fun _ => 0) (fun i => 7 * i) 4 [.unseeded, .own]).1 := by
  decide +kernel

-- `Ska.Effects` is not opened: beside `Ska.Rng` its `run` would be ambiguous
/-- **A pool query is a function of the constructor parameters and the call arguments.**  If the effect summary of
`query` (regenerated from the current source into `SkaModel/Gen/EffectsC05.lean`, obligation
`query_<Class>_historyFree`) never looks at a non-parameter attribute of `self` before having written it in the same
call, then for any two strategy objects that agree on the constructor parameters — one with an arbitrary history of
earlier queries, one freshly constructed — and the same arguments and draws (`F`), both calls read the same values,
take the same branches and compute the same values: whatever an earlier query cached on the object cannot reach the
result.  (Instance of the read-before-write theorem proved for `fit` in C13.) -/
theorem query_history_free (S : Ska.Effects.Summary) (hh : Ska.Effects.HistoryFree S = true) (F : Ska.Effects.HOra)
    (o o' : Nat → Ska.Effects.Val) (hparams : ∀ a, S.params.contains a = true → o a = o' a) :
    (Ska.Effects.hRun F S.body ⟨o, [], 0, false⟩).log = (Ska.Effects.hRun F S.body ⟨o', [], 0, false⟩).log ∧
    (Ska.Effects.hRun F S.body ⟨o, [], 0, false⟩).dead = (Ska.Effects.hRun F S.body ⟨o', [], 0, false⟩).dead :=
  ⟨(Ska.C13.fit_history_free S hh F o o' hparams).1, (Ska.C13.fit_history_free S hh F o o' hparams).2.1⟩

/-- the hypotheses are satisfiable by a non-trivial table -/
example : NoGlobal [.own, .derived, .seededArg, .own] = true := by decide +kernel
example : NoGlobal [.own, .unseeded] = false := by decide +kernel

end Ska.C06
