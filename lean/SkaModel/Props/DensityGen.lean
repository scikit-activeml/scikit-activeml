import SkaModel.Lemmas.DensityGen
import SkaModel.Props.C03dens

/-!
# C03 for the density-window kernel *as translated from the current Python source*

`SkaModel/Gen/DensityGen.lean` is re-written by `harness/translate/pydensity.py` from `StreamDensityBasedAL._calculate_ldf`
on every run of check C03.  `Lemmas/DensityGen.lean` proves the translated function equal to `Density.calcLdf` for all inputs;
here the window theorems of `Props/C03dens.lean` are transferred to it.
-/

namespace Ska.DensityGenProps
open Ska Ska.Budget Ska.Density Ska.Gen.Dens Ska.DensityGen Ska.C03dens

variable {α : Type} [LT α] [DecidableLT α] {χ : Type}

/-- **tie**: the translated `_calculate_ldf` is the modelled one -/
theorem gen_calculate_ldf_eq (dist : χ → χ → α) (inf : α) (o : WObj α χ) (x : χ) :
    _calculate_ldf dist inf o x = ((calcLdf o.window_size inf dist (dw o) x).1, wput o (calcLdf o.window_size inf dist (dw o) x).2) :=
  calculate_ldf_eq dist inf o x

/-- the translated kernel never touches `window_` nor `window_size` (only `min_dist_` is rewritten and extended) -/
theorem gen_ldf_leaves_window (dist : χ → χ → α) (inf : α) (o : WObj α χ) (x : χ) :
    (_calculate_ldf dist inf o x).2.window_ = o.window_ ∧ (_calculate_ldf dist inf o x).2.window_size = o.window_size := by
  rw [gen_calculate_ldf_eq]
  exact ⟨calcLdf_win o.window_size inf dist (dw o) x, rfl⟩

/-- one instance of the loops of `query` / `update` with the translated kernel (kernel, then `window_.append(x)`) is the
modelled step -/
theorem gen_step_eq (dist : χ → χ → α) (inf : α) (o : WObj α χ) (x : χ) :
    let r := _calculate_ldf dist inf o x
    (decide (0 < r.1), ({ win := pushMax o.window_size r.2.window_ x, md := r.2.min_dist_ } : DW α χ))
      = step o.window_size inf dist (dw o) x := by
  simp only [gen_calculate_ldf_eq, step, wput]

/-- **window invariant on the translated source**: an aligned object (one minimal distance per window member, within
capacity) stays aligned after every processed instance -/
theorem gen_step_aligned (dist : χ → χ → α) (inf : α) (o : WObj α χ) (x : χ) (h : Aligned o.window_size (dw o)) :
    Aligned o.window_size ({ win := pushMax o.window_size (_calculate_ldf dist inf o x).2.window_ x,
                             md := (_calculate_ldf dist inf o x).2.min_dist_ } : DW α χ) := by
  have := step_aligned o.window_size inf dist (dw o) x h
  rwa [← gen_step_eq dist inf o x] at this

end Ska.DensityGenProps
