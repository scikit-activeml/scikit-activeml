import SkaModel.Lemmas.Pool

/-!
# C08 — a sample's utility does not depend on how candidates are addressed

Index algebra of `_transform_candidates` and of the scatter step, for all labelings, index sets and
utility functions:

* `none_eq_idx_unlabeled`: `candidates=None` and `candidates=<indices of the unlabeled samples>` produce
  the same mapping, hence literally the same computation (`addressing_none_eq_idx`);
* `mem_uniqueSorted`: order and multiplicity of index candidates do not change which samples are candidates;
* `rows_eq_idx_gather`: the utilities reported for feature-row candidates are the index-mode utilities
  gathered at the mapped positions;
* `randArgmax_unique`: when the best candidate is unique every (positive) noise selects it, so the three
  addressings select the same sample;
* `pointwise_restrict` / `pointwise_permute`: for a strategy whose candidate utilities are a function of
  the candidate itself, restricting the candidate set leaves the remaining utilities unchanged and
  permuting the rows permutes the utilities.
That a given strategy's score really is pointwise is validated on samples by the harness, not proved (proved for
UncertaintySampling's two scores in `Props/C08us.lean`).
-/

namespace Ska.C08
open Ska Ska.C18

/-- **`candidates=None` ≡ `candidates=<indices of the unlabeled samples>`**: both yield the same
mapping, for every labeling. -/
theorem none_eq_idx_unlabeled (y : List Bool) :
    transformCandidates (.idx (unlabeledIdx y)) y = transformCandidates .none y := by
  simp only [transformCandidates]
  rw [uniqueSorted_of_pairwise_lt (unlabeledIdx y) (unlabeledIdx_pairwise y)]

/-- … and therefore the whole Skeleton-A query is literally the same computation, for every utility
function `utilOf` of the mapped candidates, batch size, method, noise and choice draw. -/
theorem addressing_none_eq_idx {α β : Type} [LT α] [DecidableLT α] [OfNat α 0] [Add α]
    [LT β] [DecidableLT β] [OfNat β 0] (isInf : α → Bool) (y : List Bool)
    (utilOf : Option (List Nat) → List (Option α)) (b : Nat) (m : Method)
    (noises : List (List β)) (choice : List Nat) :
    poolQueryA isInf y.length (transformCandidates (.idx (unlabeledIdx y)) y)
        (utilOf (transformCandidates (.idx (unlabeledIdx y)) y)) b m noises choice =
      poolQueryA isInf y.length (transformCandidates .none y)
        (utilOf (transformCandidates .none y)) b m noises choice := by
  rw [none_eq_idx_unlabeled]

/-- `np.unique(indices)` has exactly the members of `indices`: order and multiplicity of the given index candidates do
not change which samples are candidates. -/
theorem mem_uniqueSorted (z : Nat) (l : List Nat) : z ∈ uniqueSorted l ↔ z ∈ l := by
  induction l with
  | nil => exact Iff.rfl
  | cons x xs ih => rw [uniqueSorted_cons, mem_insertUnique, ih, List.mem_cons]

variable {α : Type}

/-- **Feature-row addressing reports the index-mode utilities of the same samples**: with the same
candidate utilities `uc`, row-mode column `k` equals index-mode column `mapping[k]`. -/
theorem rows_eq_idx_gather (n : Nat) (mp : List Nat) (uc : List (Option α))
    (hlen : uc.length = mp.length) (hnd : mp.Nodup) (hr : ∀ i ∈ mp, i < n)
    (k : Nat) (hk : k < mp.length) :
    (fullUtilities n none uc)[k]? = (fullUtilities n (some mp) uc)[mp[k]]? :=
  (getElem?_scatter_of_mem n mp uc hlen hnd hr k hk).symm

theorem randArgmax_eq_of_unique {α β : Type} [LinearOrder α] [LinearOrder β] [Zero β]
    (a : List (Option α)) (noise : List β) (m : α) (j : Nat)
    (hm : nanmax a = some m) (hj : a[j]? = some (some m)) (huniq : ∀ i, a[i]? = some (some m) → i = j)
    (hlen : noise.length = a.length) (hp : ∀ x ∈ noise, 0 < x) : randArgmax a noise = j := by
  obtain ⟨m', hm', hg, -⟩ := randArgmax_is_max_of_pos a noise hlen hp
    ((countSome_pos_iff a).mpr ⟨m, List.mem_of_getElem? hj⟩)
  cases hm.symm.trans hm'
  exact huniq _ hg

/-- If exactly one entry attains the maximum, `rand_argmax` returns it for **every** positive noise
vector — so any two addressings (whose tie-breaking noise may differ) select the same sample. -/
theorem randArgmax_unique {α β : Type} [LinearOrder α] [LinearOrder β] [Zero β]
    (a : List (Option α)) (noise noise' : List β) (m : α) (j : Nat)
    (hm : nanmax a = some m) (hj : a[j]? = some (some m))
    (huniq : ∀ i, a[i]? = some (some m) → i = j)
    (hlen : noise.length = a.length) (hp : ∀ x ∈ noise, 0 < x)
    (hlen' : noise'.length = a.length) (hp' : ∀ x ∈ noise', 0 < x) :
    randArgmax a noise = j ∧ randArgmax a noise' = j :=
  ⟨randArgmax_eq_of_unique a noise m j hm hj huniq hlen hp, randArgmax_eq_of_unique a noise' m j hm hj huniq hlen' hp'⟩

/-- **Restricting the candidate set leaves the remaining utilities unchanged** when the candidate
utilities are a function `f` of the candidate (its row index standing for the sample). -/
theorem pointwise_restrict (n : Nat) (mp mp' : List Nat) (f : Nat → Option α)
    (hnd : mp.Nodup) (hr : ∀ i ∈ mp, i < n) (hnd' : mp'.Nodup) (hsub : ∀ i ∈ mp', i ∈ mp) :
    ∀ j ∈ mp', (scatter n mp' (mp'.map f))[j]? = (scatter n mp (mp.map f))[j]? := by
  intro j hj
  rw [getElem?_scatter_map n mp' f hnd' (fun i hi => hr i (hsub i hi)) j hj,
    getElem?_scatter_map n mp f hnd hr j (hsub j hj)]

/-- **Reordering the rows reorders the utilities accordingly**: if row `j` moves to `σ j` (σ injective,
staying in range) and the candidate utilities travel with their samples, the utility found at `σ j`
after the permutation is the one found at `j` before — for candidates and non-candidates alike. -/
theorem pointwise_permute (n : Nat) (mp : List Nat) (uc : List (Option α)) (σ : Nat → Nat)
    (hlen : uc.length = mp.length) (hnd : mp.Nodup) (hr : ∀ i ∈ mp, i < n)
    (hinj : ∀ a b, a < n → b < n → σ a = σ b → a = b) (hσr : ∀ a, a < n → σ a < n)
    (j : Nat) (hj : j < n) :
    (scatter n (mp.map σ) uc)[σ j]? = (scatter n mp uc)[j]? := by
  have hnd' : (mp.map σ).Nodup :=
    nodup_map_of_inj_on σ mp (fun a ha b hb e => hinj a b (hr a ha) (hr b hb) e) hnd
  have hr' : ∀ i ∈ mp.map σ, i < n := List.forall_mem_map.mpr fun a ha => hσr a (hr a ha)
  by_cases hm : j ∈ mp
  · obtain ⟨k, hk, rfl⟩ := List.getElem_of_mem hm
    have h := getElem?_scatter_of_mem n (mp.map σ) uc (hlen.trans (List.length_map σ).symm) hnd' hr' k
      ((List.length_map σ).symm ▸ hk)
    rw [List.getElem_map] at h
    rw [h, getElem?_scatter_of_mem n mp uc hlen hnd hr k hk]
  · have hm' : σ j ∉ mp.map σ := fun h =>
      let ⟨a, ha, hab⟩ := List.mem_map.mp h
      hm (hinj a j (hr a ha) hj hab ▸ ha)
    rw [getElem?_scatter_of_not_mem n (mp.map σ) uc (σ j) (hσr j hj) hm',
      getElem?_scatter_of_not_mem n mp uc j hj hm]

example : transformCandidates (.idx [4, 1, 4, 3]) [false, true, false, true, true] = some [1, 3, 4] := by decide +kernel
example : transformCandidates .none [false, true, false, true, true] = some [1, 3, 4] := by decide +kernel

end Ska.C08
