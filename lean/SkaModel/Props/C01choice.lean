import SkaModel.Core.SeqChoice
import SkaModel.Lemmas.Pool
import Mathlib.Algebra.Order.Field.Basic

/-!
# C01 / C02 for the strategies that draw their batch (`Badge`, `Falcun`) or shrink a list (`GreedySampling*`)

* `choiceIdx_spec`: numpy's `RandomState.choice(p=…)` (cumulative sums, normalisation by the last one,
  `searchsorted(u, side='right')`) returns a position that carries **positive** weight — for every weight
  vector without negative entries and with positive total, and every uniform draw `0 ≤ u < 1`.
* `choiceSeq_valid`: hence **any** loop that zeroes the weights of its earlier picks before drawing (the *zero
  discipline*, a decidable condition the harness evaluates on the vectors captured from the real `choice`
  calls) returns pairwise distinct positions inside the weight vector, each with positive weight (so its
  utilities entry is a number, not NaN) — for every batch length, all weights, all draws.
* `shrinkSeq_valid`, `shrink_step_is_max`: the shrinking-list loop of `_greedy_sampling` returns pairwise
  distinct members of the initial candidate list, each attaining the maximum of the scores of the candidates
  still remaining.

The weight / score vectors are oracles (strategy-specific numerics); the per-strategy hypotheses are checked
on every run against the arrays actually passed to `choice` / `rand_argmax`.
-/

namespace Ska.C01choice
open Ska Ska.Seq Ska.C18

section Deciders
variable {α : Type} [LT α] [DecidableLT α] [OfNat α 0]

theorem notPosAt_false_of_pos (p : List α) (j : Nat) (v : α) (h : p[j]? = some v) (hp : 0 < v) :
    notPosAt p j = false := by
  rw [notPosAt, h]
  simp only [hp, decide_true, Bool.not_true]

theorem zeroOkB_iff (e : List Nat) (rows : List (List α)) (ps : List Nat) :
    zeroOkB e rows ps = true ↔ rows.length = ps.length ∧
      ∀ k, ∀ _ : k < ps.length, ∀ hr : k < rows.length, (e ++ ps.take k).all (notPosAt rows[k]) = true :=
  stepsB_iff zeroOkB (fun e row _ => e.all (notPosAt row)) (fun _ => rfl) (fun _ _ _ => rfl) (fun _ _ _ => rfl)
    (fun _ _ _ _ _ => rfl) e rows ps

end Deciders

section Choice
variable {α : Type} [Field α] [LinearOrder α] [IsStrictOrderedRing α]

/-- `searchsorted(side='right')` on the running sums: if `u·s` lies between the sum so far and the final
sum, the search stops inside the list at an entry that lifts the running sum above `u·s`; that entry is
positive whatever the signs of the others. -/
theorem searchFrom_pos (s u : α) (hs : 0 < s) (l : List α) (acc : α)
    (h1 : acc ≤ u * s) (h2 : u * s < l.foldl (· + ·) acc) :
    ∃ v, l[searchFrom s u acc l]? = some v ∧ 0 < v := by
  induction l generalizing acc with
  | nil => exact absurd h2 (not_lt.mpr h1)
  | cons x xs ih =>
    have e : u < (acc + x) / s ↔ u * s < acc + x := lt_div_iff₀ hs
    rw [searchFrom]
    by_cases hc : u < (acc + x) / s
    · rw [if_pos hc]
      exact ⟨x, rfl, pos_of_lt_add_right (lt_of_le_of_lt h1 (e.mp hc))⟩
    · rw [if_neg hc]
      exact ih (acc + x) (le_of_not_gt (mt e.mpr hc)) h2

/-- **`choice(p=…)` returns a position with positive weight.** -/
theorem choiceIdx_spec (p : List α) (u : α) (hnn : ∀ x ∈ p, 0 ≤ x) (hs : 0 < total p)
    (hu0 : 0 ≤ u) (hu1 : u < 1) :
    ∃ v, p[choiceIdx p u]? = some v ∧ 0 < v :=
  searchFrom_pos (total p) u hs p 0 (mul_nonneg hu0 (le_of_lt hs)) (mul_lt_of_lt_one_left hs hu1)

omit [IsStrictOrderedRing α] in
theorem probOkB_iff (p : List α) (u : α) :
    probOkB p u = true ↔ (∀ x ∈ p, 0 ≤ x) ∧ 0 < total p ∧ 0 ≤ u ∧ u < 1 := by
  unfold probOkB
  simp only [Bool.and_eq_true, List.all_eq_true, Bool.not_eq_true', decide_eq_false_iff_not, not_lt,
    decide_eq_true_eq, and_assoc]

/-- The statement used by the check.  `first` are picks made before the first draw (Badge takes the arg-max of
its first weight vector); the drawn positions are pairwise distinct, distinct from `first`, inside their
weight vector and of positive weight. -/
theorem choiceSeq_valid (first : List Nat) (rows : List (List α)) (us : List α)
    (hfirst : first.Nodup) (hlen : rows.length = us.length)
    (hrows : ∀ k, ∀ hk : k < rows.length, ∀ hk' : k < us.length, probOkB rows[k] us[k] = true)
    (hzero : zeroOkB first rows (choicePicks rows us) = true) :
    (choicePicks rows us).length = rows.length ∧ (first ++ choicePicks rows us).Nodup ∧
    (∀ k, ∀ hk : k < rows.length, ∀ hp : k < (choicePicks rows us).length,
        ∃ v, rows[k][(choicePicks rows us)[k]]? = some v ∧ 0 < v) := by
  obtain ⟨hl, hz⟩ := (zeroOkB_iff _ _ _).mp hzero
  -- a drawn position carries positive weight, which its row has at none of the earlier picks
  have hpos : ∀ k, ∀ hk : k < rows.length, ∀ hp : k < (choicePicks rows us).length,
      ∃ v, rows[k][(choicePicks rows us)[k]]? = some v ∧ 0 < v := by
    intro k hk hp
    obtain ⟨hnn, hs, hu0, hu1⟩ := (probOkB_iff _ _).mp (hrows k hk (hlen ▸ hk))
    have := choiceIdx_spec _ _ hnn hs hu0 hu1
    rwa [← List.getElem_zipWith (f := choiceIdx) (h := hp)] at this
  refine ⟨hl.symm, nodup_append_of_fresh _ _ hfirst fun k hk hin => ?_, hpos⟩
  obtain ⟨v, hv, hvpos⟩ := hpos k (hl ▸ hk) hk
  have := List.all_eq_true.mp (hz k hk (hl ▸ hk)) _ hin
  rw [notPosAt_false_of_pos _ _ v hv hvpos] at this
  cases this

/-- without the zero discipline the loop can repeat a pick (the seeded change `C01b` removes exactly this) -/
theorem undisciplined_draws_can_repeat :
    choicePicks (α := Rat) [[1, 1], [1, 1]] [0, 0] = [0, 0] ∧
    zeroOkB (α := Rat) [] [[1, 1], [1, 1]] [0, 0] = false := by decide +kernel

end Choice

section Shrink

theorem shrinkPicks_cons_eq_some (r : List Nat) (p : Nat) (ps picks : List Nat) :
    shrinkPicks r (p :: ps) = some picks ↔
      ∃ c rest, r[p]? = some c ∧ shrinkPicks (r.eraseIdx p) ps = some rest ∧ picks = c :: rest := by
  rw [shrinkPicks]
  cases r[p]? with
  | none => exact iff_of_false nofun fun ⟨_, _, h, _⟩ => nomatch h
  | some c =>
    rw [Option.map_eq_some_iff]
    exact ⟨fun ⟨rest, h1, h2⟩ => ⟨c, rest, rfl, h1, h2.symm⟩,
      fun ⟨_, rest, hc, h1, h2⟩ => ⟨rest, h1, Option.some.inj hc ▸ h2.symm⟩⟩

theorem shrinkPicks_length {remaining ps picks : List Nat} (h : shrinkPicks remaining ps = some picks) :
    picks.length = ps.length := by
  induction ps generalizing remaining picks with
  | nil => cases h; rfl
  | cons p ps ih =>
    obtain ⟨c, rest, -, hrec, rfl⟩ := (shrinkPicks_cons_eq_some ..).mp h
    rw [List.length_cons, List.length_cons, ih hrec]

theorem shrinkPicks_valid {remaining ps picks : List Nat} (hnd : remaining.Nodup)
    (h : shrinkPicks remaining ps = some picks) : picks.Nodup ∧ ∀ c ∈ picks, c ∈ remaining := by
  induction ps generalizing remaining picks with
  | nil => cases h; exact ⟨List.nodup_nil, nofun⟩
  | cons p ps ih =>
    obtain ⟨c, rest, hc, hrec, rfl⟩ := (shrinkPicks_cons_eq_some ..).mp h
    obtain ⟨hp, hcv⟩ := List.getElem?_eq_some_iff.mp hc
    obtain ⟨i1, i2⟩ := ih (hnd.eraseIdx p) hrec
    refine ⟨List.nodup_cons.mpr ⟨fun hin => ?_, i1⟩, fun x hx => ?_⟩
    · -- `c` sits at position `p` only, and that position is erased
      obtain ⟨i, hne, hi⟩ := List.mem_eraseIdx_iff_getElem?.mp (i2 c hin)
      exact hne ((List.getElem?_inj hp hnd).mp (hc.trans hi.symm)).symm
    · rcases List.mem_cons.mp hx with rfl | hx
      · exact hcv ▸ List.getElem_mem hp
      · exact List.mem_of_mem_eraseIdx (i2 x hx)

variable {α : Type} [LinearOrder α]
variable {β : Type} [LinearOrder β] [Zero β]

/-- The statement used by the check: if the loop returns (every position `rand_argmax` gave lay inside the list of
remaining candidates), it returns one pick per step, pairwise distinct members of the initial list. -/
theorem shrinkSeq_valid (remaining : List Nat) (rows : List (List (Option α))) (noises : List (List β))
    (picks : List Nat) (hnd : remaining.Nodup)
    (h : shrinkSeq remaining rows noises = some picks) :
    picks.length = min rows.length noises.length ∧ picks.Nodup ∧ ∀ c ∈ picks, c ∈ remaining :=
  ⟨(shrinkPicks_length h).trans List.length_zipWith, shrinkPicks_valid hnd h⟩

/-- one step of the loop: the chosen position attains the maximum of the scores of the remaining candidates -/
theorem shrink_step_is_max (row : List (Option α)) (nz : List β)
    (hl : nz.length = row.length) (hp : ∀ x ∈ nz, 0 < x) (hs : 0 < countSome row) :
    ∃ m, nanmax row = some m ∧ row[randArgmax row nz]? = some (some m) := by
  obtain ⟨m, hm, hget, -⟩ := randArgmax_is_max_of_pos row nz hl hp hs
  exact ⟨m, hm, hget⟩

end Shrink

example : probOkB (α := Rat) [0, 1/2, 0, 1/2] (3/4) = true ∧ choiceIdx (α := Rat) [0, 1/2, 0, 1/2] (3/4) = 3 := by
  decide +kernel
example : zeroOkB (α := Rat) [3] [[1/2, 1/2, 0, 0], [0, 1, 0, 0]] (choicePicks [[1/2, 1/2, 0, 0], [0, 1, 0, 0]] [0, 1/2]) = true := by
  decide +kernel
example : shrinkPicks [4, 7, 9] [1, 1] = some [7, 9] := by decide +kernel

end Ska.C01choice
