import SkaModel.Lemmas.Selection
import Mathlib.Data.Nat.Basic
import Mathlib.Data.Int.Order.Basic

/-!
# C18 — selection primitives pick true optima and well-formed batches

All statements quantify over every utility vector (`List (Option α)`, `none` = NaN) over an
arbitrary linear order `α` (so `±inf`, negative values and ties are covered), every noise vector over
an arbitrary linear order `β` with a zero, every batch size.
-/

namespace Ska.C18
open Ska

variable {α : Type} [LinearOrder α]
variable {β : Type} [LinearOrder β] [Zero β]

/-- **rand_argmax returns the position of an exact maximum of the non-NaN entries** whenever some
maximal position carries positive noise (noise drawn by numpy lies in `[0,1)`). -/
theorem randArgmax_is_max (a : List (Option α)) (noise : List β) (m : α)
    (hlen : noise.length = a.length) (hnn : ∀ n ∈ noise, 0 ≤ n)
    (hm : nanmax a = some m)
    (hpos : ∃ i, ∃ hi : i < a.length, a[i] = some m ∧ 0 < noise[i]) :
    a[randArgmax a noise]? = some (some m) := by
  rw [randArgmax, hm]; exact getElem?_argmax_masked a noise m hlen hpos

theorem randArgmin_is_min (a : List (Option α)) (noise : List β) (m : α)
    (hlen : noise.length = a.length) (hm : nanmin a = some m)
    (hpos : ∃ i, ∃ hi : i < a.length, a[i] = some m ∧ 0 < noise[i]'(hlen ▸ hi)) :
    a[randArgmin a noise]? = some (some m) := by
  rw [randArgmin, hm]; exact getElem?_argmax_masked a noise m hlen hpos

/-- Axis variant (`axis=1`): every row's result is that row's maximum. -/
theorem randArgmaxRows_is_max (rows : List (List (Option α))) (noise : List (List β))
    (hlen : noise.length = rows.length)
    (hrow : ∀ k, ∀ hk : k < rows.length, (noise[k]'(by omega)).length = rows[k].length ∧
        (∀ n ∈ noise[k]'(by omega), 0 < n) ∧ 0 < countSome rows[k]) :
    (randArgmaxRows rows noise).length = rows.length ∧
    ∀ k, ∀ hk : k < rows.length, ∃ m, nanmax rows[k] = some m ∧
      rows[k][(randArgmaxRows rows noise)[k]'(by simp [randArgmaxRows]; omega)]? = some (some m) := by
  refine ⟨by rw [randArgmaxRows, List.length_zipWith, hlen, Nat.min_self], fun k hk => ?_⟩
  obtain ⟨h1, h2, h3⟩ := hrow k hk
  obtain ⟨m, hm, hget, -⟩ := randArgmax_is_max_of_pos rows[k] (noise[k]'(hlen ▸ hk)) h1 h2 h3
  exact ⟨m, hm, by rw [← hget]; simp only [randArgmaxRows, List.getElem_zipWith]⟩

/-- **2-d arrays, `axis=None`**: the pair returned by `rand_argmax` (flat arg-max unravelled with
`np.unravel_index`) addresses an exact maximum of the non-NaN entries of the whole array. -/
theorem randArgmax_flat2_is_max (rows : List (List (Option α))) (c : Nat) (hc : 0 < c)
    (hshape : ∀ r ∈ rows, r.length = c) (noise : List β)
    (hlen : noise.length = rows.flatten.length) (hp : ∀ n ∈ noise, 0 < n)
    (hsome : 0 < countSome rows.flatten) :
    ∃ m, nanmax rows.flatten = some m ∧
      (rows[(unravel2 c (randArgmax rows.flatten noise)).1]?).bind
        (fun r => r[(unravel2 c (randArgmax rows.flatten noise)).2]?) = some (some m) ∧
      ∀ v, some v ∈ rows.flatten → v ≤ m := by
  obtain ⟨m, hm, hget, hge⟩ := randArgmax_is_max_of_pos rows.flatten noise hlen hp hsome
  exact ⟨m, hm, (getElem?_flatten rows c hc hshape _).symm.trans hget, hge⟩

/-- The excluded corner is real: if numpy draws `0.0` on every maximal position the code returns a
non-maximal position (an honest limit of the implementation; probability 2⁻⁵³ per maximal entry). -/
theorem randArgmax_zero_noise_corner :
    randArgmax (α := Nat) (β := Nat) [some 1, some 5] [3, 0] = 0 := by decide

/-- **Every tied optimum is reachable**: for each maximal position `j` there is a noise vector with
entries in `{lo, hi}` (any `0 < lo < hi`, e.g. inside numpy's `[0,1)`) for which the result is `j`. -/
theorem randArgmax_reaches_every_tie (a : List (Option α)) (m : α) (hm : nanmax a = some m)
    (j : Nat) (hj : j < a.length) (haj : a[j] = some m) (lo hi : β) (h0 : 0 < lo) (hlh : lo < hi) :
    randArgmax a ((List.replicate a.length lo).set j hi) = j := by
  rw [randArgmax, hm]; exact argmax_masked_spike a m j hj haj lo hi h0 hlh

theorem randArgmin_reaches_every_tie (a : List (Option α)) (m : α) (hm : nanmin a = some m)
    (j : Nat) (hj : j < a.length) (haj : a[j] = some m) (lo hi : β) (h0 : 0 < lo) (hlh : lo < hi) :
    randArgmin a ((List.replicate a.length lo).set j hi) = j := by
  rw [randArgmin, hm]; exact argmax_masked_spike a m j hj haj lo hi h0 hlh

/-- Reproducibility: the result is a function of the array and the drawn noise (and the noise is a
function of the seed — MT19937, trusted). -/
theorem randArgmax_deterministic (a a' : List (Option α)) (n n' : List β) (ha : a = a') (hn : n = n') :
    randArgmax a n = randArgmax a' n' := by subst ha; subst hn; rfl

theorem simpleBatchMaxLoop_stepMax (b : Nat) (u : List (Option α)) (noises : List (List β))
    (hb : b ≤ countSome u) (hn : b ≤ noises.length) (hpos : PosNoise u.length noises) :
    (simpleBatchMaxLoop b u noises).length = b ∧ StepMax u (simpleBatchMaxLoop b u noises) := by
  induction b generalizing u noises with
  | zero => exact ⟨rfl, trivial⟩
  | succ b ih =>
    cases noises with
    | nil => cases hn
    | cons nz ns =>
      obtain ⟨hnz, hns⟩ := posNoise_cons.1 hpos
      obtain ⟨m, hm, hget, -⟩ := randArgmax_is_max_of_pos u nz hnz.1 hnz.2 (Nat.lt_of_lt_of_le b.succ_pos hb)
      have hc := countSome_set_none u (randArgmax u nz) m hget
      obtain ⟨i1, i2⟩ := ih (u.set (randArgmax u nz) none) ns (Nat.le_of_succ_le_succ (hb.trans_eq hc.symm))
        (Nat.le_of_succ_le_succ hn)
        (by rw [List.length_set]; exact hns)
      exact ⟨congrArg (· + 1) i1, rfl, ⟨m, hm, hget⟩, i2⟩

theorem stepMax_spec (u : List (Option α)) (rs : List (Nat × List (Option α))) (h : StepMax u rs) :
    (rs.map Prod.fst).Nodup ∧
    (∀ p ∈ rs, ∃ v, u[p.1]? = some (some v)) ∧
    (∀ k, ∀ hk : k < rs.length, rs[k].2 = setNones u ((rs.map Prod.fst).take k)) ∧
    (rs.map Prod.fst).Pairwise (fun i j => ∀ vi vj, u[i]? = some (some vi) → u[j]? = some (some vj) → vj ≤ vi) := by
  induction rs generalizing u with
  | nil => exact ⟨List.nodup_nil, nofun, nofun, List.Pairwise.nil⟩
  | cons r rest ih =>
    obtain ⟨i, row⟩ := r
    obtain ⟨hrow, ⟨m, hm, hget⟩, hrest⟩ := h
    obtain ⟨i1, i2, i3, i4⟩ := ih (u.set i none) hrest
    -- a later pick is a number of `u.set i none`, hence the same number of `u` at a position other than `i`
    have hi : i ∉ rest.map Prod.fst := fun hin => by
      obtain ⟨p, hp, rfl⟩ := List.mem_map.1 hin
      obtain ⟨v, hv⟩ := i2 p hp
      exact (getElem?_set_none_eq_some hv).2 rfl
    refine ⟨List.nodup_cons.2 ⟨hi, i1⟩,
      List.forall_mem_cons.2 ⟨⟨m, hget⟩, fun p hp => (i2 p hp).imp fun v hv => (getElem?_set_none_eq_some hv).1⟩,
      ?_, List.pairwise_cons.2 ⟨?_, i4.imp_of_mem fun {a b} ha hb hab vi vj hvi hvj => ?_⟩⟩
    · intro k hk
      cases k with
      | zero => exact hrow
      | succ k =>
        rw [List.map_cons, List.take_succ_cons, setNones_cons]
        exact i3 k (Nat.lt_of_succ_lt_succ hk)
    · intro j _ vi vj hvi hvj
      cases hget.symm.trans hvi
      rcases nanmax_cases u with ⟨hn, -⟩ | ⟨m', hm', -, hle⟩
      · exact nomatch hn.symm.trans hm
      · cases hm'.symm.trans hm; exact hle vj (List.mem_of_getElem? hvj)
    · have ne {c : Nat} (hc : c ∈ rest.map Prod.fst) : i ≠ c := fun e => hi (e ▸ hc)
      exact hab vi vj (by rwa [List.getElem?_set_ne (ne ha)]) (by rwa [List.getElem?_set_ne (ne hb)])

/-- **simple_batch (max)**: for every utility vector without infinities, every batch size ≥ 1 and
all positive noise draws, the call succeeds and returns `min(batch_size, #non-NaN)` picks that are
distinct, never NaN entries, with rows in which exactly the earlier picks were turned to NaN, each
pick attaining the maximum of its row, hence in non-increasing order of utility. -/
theorem simpleBatch_max_spec (isInf : α → Bool) [Zero α] [Add α] (u : List (Option α)) (b : Nat)
    (noises : List (List β)) (choice : List Nat)
    (hfin : ∀ v, some v ∈ u → isInf v = false) (hb : 1 ≤ b)
    (hn : min b (countSome u) ≤ noises.length) (hpos : PosNoise u.length noises) :
    ∃ rs, simpleBatch isInf u b .max noises choice = .ok rs ∧
      rs.length = min b (countSome u) ∧ StepMax u rs ∧
      (rs.map Prod.fst).Nodup ∧
      (∀ p ∈ rs, ∃ v, u[p.1]? = some (some v)) ∧
      (∀ k, ∀ hk : k < rs.length, rs[k].2 = setNones u ((rs.map Prod.fst).take k)) ∧
      (rs.map Prod.fst).Pairwise
        (fun i j => ∀ vi vj, u[i]? = some (some vi) → u[j]? = some (some vj) → vj ≤ vi) := by
  obtain ⟨l, st⟩ := simpleBatchMaxLoop_stepMax (min b (countSome u)) u noises (Nat.min_le_right ..) hn hpos
  exact ⟨_, simpleBatch_max_eq isInf u b noises choice (hasInf_eq_false isInf u hfin) hb, l, st, stepMax_spec u _ st⟩

/-- The two validations of `simple_batch`: a vector holding an infinity is rejected whatever the other
arguments are (`ensure_all_finite="allow-nan"`), then batch size 0. -/
theorem simpleBatch_rejects_inf (isInf : α → Bool) [Zero α] [Add α] (u : List (Option α)) (b : Nat) (m : Method)
    (noises : List (List β)) (choice : List Nat) (v : α) (hv : some v ∈ u) (hi : isInf v = true) :
    simpleBatch isInf u b m noises choice = .error .infinite := by
  have : hasInf isInf u = true := List.any_eq_true.2 ⟨some v, hv, hi⟩
  rw [simpleBatch, if_pos this]

theorem simpleBatch_rejects_batch0 (isInf : α → Bool) [Zero α] [Add α] (u : List (Option α)) (m : Method)
    (noises : List (List β)) (choice : List Nat) (hfin : ∀ v, some v ∈ u → isInf v = false) :
    simpleBatch isInf u 0 m noises choice = .error .batchSize := by
  rw [simpleBatch, hasInf_eq_false isInf u hfin, if_neg Bool.false_ne_true, if_pos Nat.zero_lt_one]

/-- **simple_batch (proportional)**: whenever the call succeeds (with any `choice` result obeying
numpy's contract — the model checks the contract and reports `oracle` otherwise), it returns
`min(batch_size, #non-NaN)` distinct picks, each a non-NaN entry of strictly positive probability
mass (never an entry of zero weight), and rows in which exactly the earlier picks are NaN. -/
theorem simpleBatch_prop_spec [Zero α] [Add α] (isInf : α → Bool) (u : List (Option α)) (b : Nat)
    (noises : List (List β)) (choice : List Nat) (rs : List (Nat × List (Option α)))
    (h : simpleBatch isInf u b .proportional noises choice = .ok rs) :
    rs.map Prod.fst = choice ∧ rs.length = min b (countSome u) ∧ choice.Nodup ∧
    (∀ c ∈ choice, ∃ v, u[c]? = some (some v) ∧ posW (nansum u) (some v) = true ∧ v ≠ 0) ∧
    (∀ k, ∀ hk : k < rs.length, rs[k].2 = setNones u (choice.take k)) := by
  obtain ⟨-, -, -, -, -, ⟨hlen, hnd, hall⟩, rfl⟩ := (simpleBatch_prop_ok_iff isInf u b noises choice rs).1 h
  refine ⟨propRows_fst u choice, ?_, hnd, fun c hc => ?_, propRows_rows u choice⟩
  · rw [← hlen, ← List.length_map (f := Prod.fst), propRows_fst]
  · obtain ⟨v, hv, hv0⟩ := posW_eq_true (hall c hc)
    exact ⟨v, getD_none_eq_some.mp hv, hv ▸ hall c hc, hv0⟩

/-- The proportional branch must raise when the total mass is zero, an entry has negative
probability, or fewer entries have positive probability than the clipped batch size (numpy's
`choice` does; measured in the correspondence). -/
theorem simpleBatch_prop_raises [Zero α] [Add α] (isInf : α → Bool) (u : List (Option α)) (b : Nat)
    (noises : List (List β)) (choice : List Nat)
    (hfin : ∀ v, some v ∈ u → isInf v = false) (hb : 1 ≤ b)
    (hbad : (¬ (0 : α) < nansum u ∧ ¬ nansum u < (0 : α)) ∨ (∃ x ∈ u, negW (nansum u) x = true) ∨
      (u.filter (posW (nansum u))).length < min b (countSome u)) :
    simpleBatch isInf u b .proportional noises choice = .error .mass := by
  rw [simpleBatch, hasInf_eq_false isInf u hfin, if_neg Bool.false_ne_true, if_neg (Nat.not_lt.2 hb)]
  dsimp only
  -- each condition fires its own guard, and every guard before it raises the same error
  rcases hbad with ⟨ha, hb'⟩ | ⟨x, hx, hneg⟩ | hlt
  · rw [if_pos (by simp [ha, hb'])]
  · rw [if_pos (List.any_eq_true.mpr ⟨x, hx, hneg⟩), ite_self]
  · rw [if_pos hlt, ite_self, ite_self]

/-! ## Non-vacuity: concrete instances meet the hypotheses -/

example : ∃ m, nanmax (α := Int) [some 3, none, some 7, some 7] = some m ∧
    [some 3, none, some 7, some (7:Int)][randArgmax (β := Nat) [some 3, none, some 7, some (7:Int)] [5, 9, 2, 4]]? = some (some m) :=
  ⟨7, by decide +kernel, by decide +kernel⟩

example : randArgmax (α := Int) (β := Nat) [some 3, none, some 7, some 7] ((List.replicate 4 1).set 2 2) = 2 := by
  decide +kernel

example : PosNoise (β := Nat) 3 [[1, 2, 3], [4, 1, 1]] := by
  unfold PosNoise; decide +kernel

example : StepMax (α := Int) [some 1, none, some 4] [(2, [some 1, none, some 4]), (0, [some 1, none, none])] :=
  ⟨rfl, ⟨4, by decide +kernel, by decide +kernel⟩, rfl, ⟨1, by decide +kernel, by decide +kernel⟩, trivial⟩

end Ska.C18
