import SkaModel.Gen.RngGen

/-! The bridge to `Core/Rng.lean`: the function translated from the current source of `skactiveml.utils.check_random_state`
(`Gen/RngGen.lean`) is `Ska.Rng.checkRandomState`, for all inputs. -/

namespace Ska.Gen.Rng
open Ska Ska.Rng Ska.PyRng

/-- the argument `random_state` as a Python value: a caller-owned instance at cursor `cur` is an object whose `i`-th next draw is
`st (cur + i)` -/
def absSeed : Seed → RSParam
  | .none => .none
  | .int n => .int n
  | .inst st cur => .inst ⟨fun i => st (cur + i), true, 0⟩

/-- numpy's global generator at cursor `globCur` -/
def globObj (globS : Stream) (globCur : Nat) : GenObj := ⟨fun i => globS (globCur + i), true, 0⟩

/-- cursor of the caller's instance before the call (0 when `random_state` is no instance) -/
def seedCur : Seed → Nat
  | .inst _ cur => cur
  | _ => 0

/-- what the caller can observe of a result: the values the returned generator will produce, whether it is an object the caller
owns, where the caller's instance stands afterwards -/
def toCrs (seed : Seed) (r : GenObj × Nat) : Crs :=
  ⟨fun i => r.1.stream (r.1.taken + i), r.1.callers, seedCur seed + (match seed with | .inst _ _ => r.2 | _ => 0)⟩

theorem check_random_state_eq (mk : Nat → Stream) (seed : Seed) (mult : Option Nat) (globS : Stream) (globCur : Nat) :
    toCrs seed (check_random_state mk (globObj globS globCur) (absSeed seed) mult) =
      checkRandomState mk seed mult globS globCur := by
  -- every case is unfolding; the only rewriting is `0 + i = i` under the stream's binder (the object returned has `taken = 0`)
  -- and `cur + 0`
  cases seed <;> cases mult <;>
    simp only [toCrs, check_random_state, check_random_state_sklearn, RSParam.isNone, absSeed, globObj, seedCur, deepcopy,
      randint, newRandomState, checkRandomState, derivedSeed, Nat.zero_add, Nat.add_zero, ↓reduceIte, Bool.false_eq_true]

end Ska.Gen.Rng
