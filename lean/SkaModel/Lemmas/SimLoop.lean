import SkaModel.Core.Budget
import SkaModel.Lemmas.Basic

/-! The protocol layer of the budget managers and stream strategies, without arithmetic: decision lists
and their indices (`simLoop`, `idxOf`, `bitsOf`), managers that refine a per-instance process
(`Refines`), managers whose rounds an abstract process accepts (`Acc`, `Tracks`), and what follows for
`runChunked`. Core Lean only. -/

namespace Ska.Budget

section Lists
variable {σ ι : Type}

theorem simLoop_length (step : σ → ι → Bool × σ) (xs : List ι) (s : σ) :
    (simLoop step s xs).1.length = xs.length := by
  induction xs generalizing s with
  | nil => rfl
  | cons x xs ih => simp [simLoop, ih]

theorem simLoop_append (step : σ → ι → Bool × σ) (xs ys : List ι) (s : σ) :
    simLoop step s (xs ++ ys) =
      ((simLoop step s xs).1 ++ (simLoop step (simLoop step s xs).2 ys).1,
       (simLoop step (simLoop step s xs).2 ys).2) := by
  induction xs generalizing s with
  | nil => simp [simLoop]
  | cons x xs ih => simp [simLoop, ih]

/-- a component of the loop state that is a fold over the *inputs* (`simLoop_proj`: over the decisions) -/
theorem simLoop_fold {β : Type} {step : σ → ι → Bool × σ} {f : σ → β} {g : β → ι → β}
    (h : ∀ s x, f (step s x).2 = g (f s) x) (xs : List ι) (s : σ) :
    f (simLoop step s xs).2 = xs.foldl g (f s) := by
  induction xs generalizing s with
  | nil => rfl
  | cons x xs ih => rw [simLoop, ih, h, List.foldl_cons]

theorem simLoop_const {β : Type} {step : σ → ι → Bool × σ} {f : σ → β}
    (h : ∀ s x, f (step s x).2 = f s) (xs : List ι) (s : σ) : f (simLoop step s xs).2 = f s := by
  induction xs generalizing s with
  | nil => rfl
  | cons x xs ih => rw [simLoop, ih, h]

theorem simLoop_count {step : σ → ι → Bool × σ} {f : σ → Nat}
    (h : ∀ s x, f (step s x).2 = f s + 1) (xs : List ι) (s : σ) : f (simLoop step s xs).2 = f s + xs.length := by
  induction xs generalizing s with
  | nil => rfl
  | cons x xs ih => rw [simLoop, ih, h, List.length_cons, Nat.add_right_comm, Nat.add_assoc]

/-- a projection of the loop state that follows `next` along the *decisions* ends in their fold -/
theorem simLoop_proj {A : Type} {next : A → Bool → A} {step : σ → ι → Bool × σ} {proj : σ → A}
    (hnext : ∀ s x, proj (step s x).2 = next (proj s) (step s x).1) (xs : List ι) (s : σ) :
    proj (simLoop step s xs).2 = (simLoop step s xs).1.foldl next (proj s) := by
  induction xs generalizing s with
  | nil => rfl
  | cons x xs ih => rw [simLoop, ih, hnext, List.foldl_cons]

theorem countTrue_append (a b : List Bool) : countTrue (a ++ b) = countTrue a + countTrue b := by
  simp [countTrue, List.filter_append]

theorem countTrue_cons (d : Bool) (ds : List Bool) : countTrue (d :: ds) = (if d then 1 else 0) + countTrue ds := by
  cases d
  · exact (Nat.zero_add _).symm
  · exact Nat.add_comm _ 1

theorem idxOf_eq_truePos (bs : List Bool) (i : Nat) : idxOf bs i = truePos i bs := by
  induction bs generalizing i with
  | nil => rfl
  | cons b bs ih => cases b <;> simp [idxOf, truePos_cons, ih]

theorem mem_idxOf (bs : List Bool) (i j : Nat) :
    j ∈ idxOf bs i ↔ i ≤ j ∧ bs[j - i]? = some true :=
  idxOf_eq_truePos bs i ▸ mem_truePos

theorem mem_idxOf_zero (bs : List Bool) (j : Nat) : j ∈ idxOf bs 0 ↔ bs[j]? = some true :=
  idxOf_eq_truePos bs 0 ▸ mem_truePos_zero

theorem idxOf_shift (bs : List Bool) (i k : Nat) : idxOf bs (i + k) = (idxOf bs i).map (· + k) := by
  induction bs generalizing i with
  | nil => rfl
  | cons b bs ih => cases b <;> simp [idxOf, Nat.add_right_comm i k 1, ih]

theorem idxOf_append (as bs : List Bool) (i : Nat) :
    idxOf (as ++ bs) i = idxOf as i ++ idxOf bs (i + as.length) := by
  induction as generalizing i with
  | nil => rfl
  | cons a as ih => cases a <;> simp [idxOf, ih, Nat.add_assoc, Nat.add_comm 1]

/-- `if d: queried_indices.append(i)` -/
theorem idxOf_concat (ds : List Bool) (d : Bool) (i : Nat) :
    idxOf (ds ++ [d]) i = if d then idxOf ds i ++ [i + ds.length] else idxOf ds i := by
  rw [idxOf_append]; cases d <;> simp [idxOf]

theorem idxOf_bounds (bs : List Bool) (i j : Nat) (h : j ∈ idxOf bs i) : i ≤ j ∧ j < i + bs.length := by
  obtain ⟨h1, h2⟩ := (mem_idxOf bs i j).mp h
  exact ⟨h1, (Nat.sub_lt_iff_lt_add' h1).mp (List.getElem?_eq_some_iff.mp h2).1⟩

theorem idxOf_pairwise (bs : List Bool) (i : Nat) : (idxOf bs i).Pairwise (· < ·) :=
  idxOf_eq_truePos bs i ▸ truePos_pairwise i bs

theorem idxOf_wellformed (ds : List Bool) :
    (idxOf ds 0).Pairwise (· < ·) ∧ ∀ i ∈ idxOf ds 0, i < ds.length :=
  ⟨idxOf_pairwise ds 0, fun i hi => Nat.zero_add ds.length ▸ (idxOf_bounds ds 0 i hi).2⟩

theorem bitsOf_of_lt {n : Nat} {idx : List Nat} (h : ∀ i ∈ idx, i < n) :
    bitsOf n idx = .ok ((List.range n).map (fun i => idx.contains i)) :=
  if_pos (List.all_eq_true.mpr fun i hi => decide_eq_true (h i hi))

theorem idxOf_contains (bs : List Bool) (j : Nat) (hj : j < bs.length) :
    (idxOf bs 0).contains j = bs[j] := by
  rw [Bool.eq_iff_iff, List.contains_iff_mem, mem_idxOf_zero, List.getElem?_eq_getElem hj, Option.some.injEq]

/-- `update` rebuilds exactly the decisions `query` took: `queried[queried_indices] = 1`. -/
theorem bitsOf_idxOf (bs : List Bool) : bitsOf bs.length (idxOf bs 0) = .ok bs := by
  rw [bitsOf_of_lt (idxOf_wellformed bs).2]
  congr 1
  apply List.ext_getElem
  · simp
  · intro j h1 h2
    simp only [List.getElem_map, List.getElem_range]
    exact idxOf_contains bs j h2

theorem bitsOf_simLoop (step : σ → ι → Bool × σ) (xs : List ι) (s : σ) :
    bitsOf xs.length (idxOf (simLoop step s xs).1 0) = .ok (simLoop step s xs).1 := by
  have := bitsOf_idxOf (simLoop step s xs).1
  rwa [simLoop_length] at this

theorem wellformed_simLoop (step : σ → ι → Bool × σ) (xs : List ι) (s : σ) :
    (idxOf (simLoop step s xs).1 0).Pairwise (· < ·) ∧ ∀ i ∈ idxOf (simLoop step s xs).1 0, i < xs.length := by
  have := idxOf_wellformed (simLoop step s xs).1
  rwa [simLoop_length] at this

theorem bitsOf_length (n : Nat) (idx : List Nat) (bits : List Bool) (h : bitsOf n idx = .ok bits) :
    bits.length = n := by
  unfold bitsOf at h
  split at h
  · cases h; simp
  · cases h

theorem idxOf_length (bs : List Bool) (i : Nat) : (idxOf bs i).length = countTrue bs := by
  induction bs generalizing i with
  | nil => rfl
  | cons b bs ih => cases b <;> simp [idxOf, countTrue, ih]

theorem idxOf_filter_lt (bs : List Bool) (i n : Nat) :
    (idxOf bs i).filter (fun j => decide (j < i + n)) = idxOf (bs.take n) i := by
  induction bs generalizing i n with
  | nil => simp [idxOf]
  | cons b bs ih =>
    cases n with
    | zero =>
      rw [List.take_zero, idxOf, List.filter_eq_nil_iff]
      intro j hj; simpa using (idxOf_bounds _ _ _ hj).1
    | succ n =>
      have h := ih (i + 1) n
      rw [Nat.add_right_comm, Nat.add_assoc] at h
      cases b <;> simp [idxOf, h]

end Lists

section Chunks
variable {σ ι : Type}

/-- `M` *refines* the per-instance process `step`: `query` reports the decisions of the simulated
steps and leaves the object as it was, `update` with those decisions commits the simulated state. -/
structure Refines (M : Mgr σ ι) (step : σ → ι → Bool × σ) : Prop where
  query_eq : ∀ s xs, M.query s xs = (idxOf (simLoop step s xs).1 0, s)
  update_eq : ∀ s xs, M.update s xs (idxOf (simLoop step s xs).1 0) = .ok (simLoop step s xs).2

/-- Runs are stated with `idxOf · off`, so that the shift of the indices is done here and nowhere else. -/
theorem runChunked_cons {M : Mgr σ ι} {s s1 s2 : σ} {c : List ι} {cs : List (List ι)} {ds ds2 : List Bool}
    {off : Nat} (hl : ds.length = c.length) (hq : M.query s c = (idxOf ds 0, s))
    (hu : M.update s c (idxOf ds 0) = .ok s1)
    (hrun : runChunked M s1 cs (off + c.length) = .ok (idxOf ds2 (off + c.length), s2)) :
    runChunked M s (c :: cs) off = .ok (idxOf (ds ++ ds2) off, s2) := by
  simp only [runChunked, hq, hu, hrun, idxOf_append, hl]
  rw [← idxOf_shift, Nat.zero_add]

theorem runChunked_eq {M : Mgr σ ι} {step : σ → ι → Bool × σ} (h : Refines M step)
    (chunks : List (List ι)) (s : σ) (off : Nat) :
    runChunked M s chunks off =
      .ok (idxOf (simLoop step s chunks.flatten).1 off, (simLoop step s chunks.flatten).2) := by
  induction chunks generalizing s off with
  | nil => rfl
  | cons c cs ih =>
    rw [List.flatten_cons, simLoop_append]
    exact runChunked_cons (simLoop_length _ _ _) (h.query_eq s c) (h.update_eq s c) (ih _ _)

/-- commit the decisions `bits` of the instances `xs` one by one -/
def commit (ustep : σ → ι → Bool → σ) : σ → List ι → List Bool → σ
  | s, x :: xs, q :: qs => commit ustep (ustep s x q) xs qs
  | s, _, _ => s

theorem commit_simLoop (step : σ → ι → Bool × σ) (ustep : σ → ι → Bool → σ)
    (h : ∀ s x, ustep s x (step s x).1 = (step s x).2) (xs : List ι) (s : σ) :
    commit ustep s xs (simLoop step s xs).1 = (simLoop step s xs).2 := by
  induction xs generalizing s with
  | nil => rfl
  | cons x xs ih => simp [simLoop, commit, h, ih]

def PureQ (M : Mgr σ ι) : Prop := ∀ s xs, (M.query s xs).2 = s

theorem Refines.pureQ {M : Mgr σ ι} {step : σ → ι → Bool × σ} (h : Refines M step) : PureQ M :=
  fun s xs => by rw [h.query_eq]

theorem Refines.query_wellformed {M : Mgr σ ι} {step : σ → ι → Bool × σ} (h : Refines M step) (s : σ) (xs : List ι) :
    (M.query s xs).1.Pairwise (· < ·) ∧ ∀ i ∈ (M.query s xs).1, i < xs.length := by
  rw [h.query_eq]
  exact wellformed_simLoop step xs s

theorem Refines.update_commits {M : Mgr σ ι} {step : σ → ι → Bool × σ} (h : Refines M step) (s : σ) (xs : List ι) :
    M.update (M.query s xs).2 xs (M.query s xs).1 = .ok (simLoop step s xs).2 := by
  rw [h.query_eq]; exact h.update_eq s xs

/-- Two chunkings of the same stream give the same granted labels (as positions in the stream) and the same
final state; neither run raises. -/
theorem Refines.chunk_invariance {M : Mgr σ ι} {step : σ → ι → Bool × σ} (h : Refines M step) (s : σ)
    (c1 c2 : List (List ι)) (hc : c1.flatten = c2.flatten) :
    runChunked M s c1 0 = runChunked M s c2 0 ∧ ∃ r, runChunked M s c1 0 = .ok r := by
  rw [runChunked_eq h, runChunked_eq h, hc]
  exact ⟨rfl, _, rfl⟩

end Chunks

section Acc
variable {A : Type} {next : A → Bool → A} {ok : A → Bool → Prop}

/-- The decisions `ds` are acceptable one after the other along the abstract states they generate from
`a`. For the window-based managers `a` is `u_t`, `next` the decay recursion and `ok` the budget guard;
for the managers with exact counters `a` is `(granted, seen)` and `ok` says that the bound survives. -/
def Acc (next : A → Bool → A) (ok : A → Bool → Prop) : A → List Bool → Prop
  | _, [] => True
  | a, d :: ds => ok a d ∧ Acc next ok (next a d) ds

theorem Acc.append (a : A) (xs ys : List Bool) :
    Acc next ok a (xs ++ ys) ↔ Acc next ok a xs ∧ Acc next ok (xs.foldl next a) ys := by
  induction xs generalizing a with
  | nil => simp [Acc]
  | cons x xs ih => simp [Acc, ih, and_assoc]

theorem Acc.take {a : A} {ds : List Bool} (h : Acc next ok a ds) (n : Nat) : Acc next ok a (ds.take n) :=
  ((Acc.append a (ds.take n) (ds.drop n)).mp (by rwa [List.take_append_drop])).1

theorem Acc.inv {Inv : A → Prop} (hstep : ∀ a d, ok a d → Inv a → Inv (next a d)) {a : A} {ds : List Bool}
    (h : Acc next ok a ds) (ha : Inv a) : Inv (ds.foldl next a) := by
  induction ds generalizing a with
  | nil => exact ha
  | cons d ds ih => exact ih h.2 (hstep a d h.1 ha)

variable {σ ι : Type}

theorem acc_simLoop {step : σ → ι → Bool × σ} {proj : σ → A}
    (hok : ∀ s x, ok (proj s) (step s x).1) (hnext : ∀ s x, proj (step s x).2 = next (proj s) (step s x).1)
    (xs : List ι) (s : σ) : Acc next ok (proj s) (simLoop step s xs).1 := by
  induction xs generalizing s with
  | nil => trivial
  | cons x xs ih => exact ⟨hok s x, hnext s x ▸ ih (step s x).2⟩

/-- What the budget bounds need of a manager: a protocol round from `s` reports decisions that the
abstract process accepts from `proj s`, leaves the object as it was, and `update` with these decisions
succeeds and commits `proj` along them. Weaker than `Refines`: the two managers that consume normal
draws satisfy it although their runs depend on the chunking. -/
structure Tracks (M : Mgr σ ι) (proj : σ → A) (next : A → Bool → A) (ok : A → Bool → Prop) : Prop where
  round : ∀ s xs, ∃ ds s', ds.length = xs.length ∧ M.query s xs = (idxOf ds 0, s) ∧
    M.update s xs (idxOf ds 0) = .ok s' ∧ Acc next ok (proj s) ds ∧ proj s' = ds.foldl next (proj s)

theorem tracks_of_refines {M : Mgr σ ι} {step : σ → ι → Bool × σ} {proj : σ → A} (hr : Refines M step)
    (hok : ∀ s x, ok (proj s) (step s x).1) (hnext : ∀ s x, proj (step s x).2 = next (proj s) (step s x).1) :
    Tracks M proj next ok where
  round s xs :=
    ⟨_, _, simLoop_length _ _ _, hr.query_eq s xs, hr.update_eq s xs, acc_simLoop hok hnext xs s,
      simLoop_proj hnext xs s⟩

theorem Tracks.chunked {M : Mgr σ ι} {proj : σ → A} (h : Tracks M proj next ok)
    (chunks : List (List ι)) (s : σ) (off : Nat) :
    ∃ ds s', runChunked M s chunks off = .ok (idxOf ds off, s') ∧
      ds.length = chunks.flatten.length ∧ Acc next ok (proj s) ds ∧ proj s' = ds.foldl next (proj s) := by
  induction chunks generalizing s off with
  | nil => exact ⟨[], s, rfl, rfl, trivial, rfl⟩
  | cons c cs ih =>
    obtain ⟨ds1, s1, hl1, hq, hu, ha1, hp1⟩ := h.round s c
    obtain ⟨ds2, s2, hrun, hl2, ha2, hp2⟩ := ih s1 (off + c.length)
    refine ⟨ds1 ++ ds2, s2, runChunked_cons hl1 hq hu hrun, by simp [hl1, hl2], ?_,
      by rw [hp2, hp1, List.foldl_append]⟩
    rw [Acc.append, ← hp1]; exact ⟨ha1, ha2⟩

theorem Tracks.prefixes {M : Mgr σ ι} {proj : σ → A} (h : Tracks M proj next ok) (chunks : List (List ι)) (s : σ) :
    ∃ r, runChunked M s chunks 0 = .ok r ∧ ∀ n, n ≤ chunks.flatten.length →
      ∃ ds : List Bool, ds.length = n ∧ (r.1.filter (fun j => decide (j < n))).length = countTrue ds ∧
        Acc next ok (proj s) ds := by
  obtain ⟨ds, s', hrun, hl, ha, -⟩ := h.chunked chunks s 0
  refine ⟨_, hrun, fun n hn => ⟨ds.take n, by rw [List.length_take, hl]; exact Nat.min_eq_left hn, ?_, ha.take n⟩⟩
  have := idxOf_filter_lt ds 0 n
  rw [Nat.zero_add] at this
  rw [this, idxOf_length]

end Acc

section Counters
variable {σ ι : Type}

/-- the exact counters `(granted, seen)` after one more decision -/
def cnext (a : Nat × Nat) (d : Bool) : Nat × Nat := (a.1 + (if d then 1 else 0), a.2 + 1)

theorem cnext_foldl (ds : List Bool) (a : Nat × Nat) :
    ds.foldl cnext a = (a.1 + countTrue ds, a.2 + ds.length) := by
  induction ds generalizing a with
  | nil => rfl
  | cons d ds ih =>
    rw [List.foldl_cons, ih, countTrue_cons, List.length_cons, cnext, Nat.add_assoc, Nat.add_assoc, Nat.add_comm 1]

theorem counts_simLoop {step : σ → ι → Bool × σ} {proj : σ → Nat × Nat}
    (hnext : ∀ s x, proj (step s x).2 = cnext (proj s) (step s x).1) (xs : List ι) (s : σ) :
    proj (simLoop step s xs).2 = ((proj s).1 + countTrue (simLoop step s xs).1, (proj s).2 + xs.length) := by
  rw [simLoop_proj hnext xs s, cnext_foldl, simLoop_length]

/-- the decision `d` keeps the bound `Bnd granted seen`: as `ok` of `Acc` this is the invariance step
itself, so `Acc.inv` needs nothing more (`counter_bound`) -/
abbrev keeps (Bnd : Nat → Nat → Prop) (a : Nat × Nat) (d : Bool) : Prop :=
  Bnd a.1 a.2 → Bnd (cnext a d).1 (cnext a d).2

theorem counter_bound {M : Mgr σ ι} {proj : σ → Nat × Nat} {Bnd : Nat → Nat → Prop}
    (h : Tracks M proj cnext (keeps Bnd)) (chunks : List (List ι)) (s : σ) (hB : Bnd (proj s).1 (proj s).2) :
    ∃ r, runChunked M s chunks 0 = .ok r ∧
      ∀ n, n ≤ chunks.flatten.length →
        Bnd ((proj s).1 + (r.1.filter (fun j => decide (j < n))).length) ((proj s).2 + n) := by
  obtain ⟨r, hrun, hp⟩ := h.prefixes chunks s
  refine ⟨r, hrun, fun n hn => ?_⟩
  obtain ⟨ds, rfl, hc, ha⟩ := hp n hn
  have := ha.inv (Inv := fun a : Nat × Nat => Bnd a.1 a.2) (fun _ _ h => h) hB
  rwa [cnext_foldl, ← hc] at this

/-- `counter_bound` from counters at zero -/
theorem counter_bound_fresh {M : Mgr σ ι} {proj : σ → Nat × Nat} {Bnd : Nat → Nat → Prop}
    (h : Tracks M proj cnext (keeps Bnd)) (chunks : List (List ι)) (s : σ) (hs : proj s = (0, 0)) (hB : Bnd 0 0) :
    ∃ r, runChunked M s chunks 0 = .ok r ∧
      ∀ n, n ≤ chunks.flatten.length → Bnd (r.1.filter (fun j => decide (j < n))).length n := by
  have := counter_bound h chunks s (hs ▸ hB)
  simpa only [hs, Nat.zero_add] using this

end Counters

end Ska.Budget
