import SkaModel.Core.Window

/-! The sliding window of `Core/Window.lean`: `lastN` (a `deque(maxlen)` seen from its newest end: what lies more
than `n` from the end is outside, `lastN_drop`), and the window call taken apart: what `validate` and `filterBatch`
guarantee, and `fit` as `partial_fit` on a new object (`call_fit`). -/

namespace Ska.Window

section LastN
variable {α : Type}

theorem lastN_nil (w : Option Nat) : lastN w ([] : List α) = [] := by
  cases w with
  | none => rfl
  | some n => exact List.drop_nil

theorem lastN_length (w : Option Nat) (l : List α) :
    (lastN w l).length = match w with | none => l.length | some n => min n l.length := by
  cases w with
  | none => rfl
  | some n => simp only [lastN, List.length_drop, Nat.sub_sub_eq_min, Nat.min_comm]

theorem lastN_length_le (w : Nat) (l : List α) : (lastN (some w) l).length ≤ w :=
  lastN_length (some w) l ▸ Nat.min_le_left _ _

/-- the window is a suffix of what was given -/
theorem lastN_suffix (w : Option Nat) (l : List α) : ∃ pre, l = pre ++ lastN w l := by
  cases w with
  | none => exact ⟨[], rfl⟩
  | some n => exact ⟨l.take (l.length - n), (List.take_append_drop _ _).symm⟩

/-- what lies more than `n` from the end is outside the window -/
theorem lastN_drop (n k : Nat) (l : List α) (h : k ≤ l.length - n) :
    lastN (some n) (l.drop k) = lastN (some n) l := by
  rw [lastN, lastN, List.drop_drop, List.length_drop, Nat.sub_right_comm, Nat.add_sub_of_le h]

/-- extending a bounded deque twice = extending it once with the concatenation -/
theorem lastN_lastN_append (w : Option Nat) (a b : List α) :
    lastN w (lastN w a ++ b) = lastN w (a ++ b) := by
  cases w with
  | none => rfl
  | some n =>
    have e : lastN (some n) a ++ b = (a ++ b).drop (a.length - n) :=
      (List.drop_append_of_le_length (Nat.sub_le _ _)).symm
    rw [e, lastN_drop n _ _ (by rw [List.length_append]; exact Nat.sub_le_sub_right (Nat.le_add_right _ _) n)]

end LastN

section Filter
variable {S W : Type}

theorem filter_zip_length (labeled : S → Bool) (xs : List S) (w : List W) (h : w.length = xs.length) :
    (((List.zip xs w).filter (fun t => labeled t.1)).map Prod.snd).length = (xs.filter labeled).length := by
  have e : xs.filter labeled = ((xs.zip w).filter (labeled ∘ Prod.fst)).map Prod.fst := by
    rw [← List.filter_map, List.map_fst_zip (Nat.le_of_eq h.symm)]
  rw [e, List.length_map, List.length_map]
  rfl

end Filter

section Call
variable {C S W : Type} (cfg : Cfg) (labeled : S → Bool) (fitFn : List S → Option (List W) → C)

theorem aligned_of_validate_none {cfg : Cfg} {xs : List S} {ws : Option (List W)} (hv : validate cfg xs ws = none) :
    ∀ w, ws = some w → w.length = xs.length := by
  rintro w rfl
  unfold validate at hv
  split at hv
  · cases hv
  · exact Decidable.by_contra fun hn => by simp only [if_neg hn] at hv; cases hv

theorem filterBatch_aligned {xs : List S} {ws : Option (List W)} (h : ∀ w, ws = some w → w.length = xs.length) :
    ∀ w, (filterBatch cfg labeled xs ws).2 = some w → w.length = (filterBatch cfg labeled xs ws).1.length := by
  unfold filterBatch
  split
  · intro w hw
    obtain ⟨w0, rfl, rfl⟩ := Option.map_eq_some_iff.mp hw
    exact filter_zip_length labeled xs w0 (h w0 rfl)
  · exact h

theorem call_fit (s : St C S W) {xs : List S} {ws : Option (List W)} (hv : validate cfg xs ws = none) :
    call cfg labeled fitFn true s xs ws = call cfg labeled fitFn false St.init xs ws := by
  simp only [call, hv, St.init, if_true, Bool.false_eq_true, if_false]

end Call

end Ska.Window
