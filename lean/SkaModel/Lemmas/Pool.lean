import SkaModel.Core.Pool
import SkaModel.Lemmas.Selection

/-! Lemmas for the pool skeleton and the sequential selection loops: what `scatter` does entry by entry, the
candidate mappings (`unlabeledIdx`, `uniqueSorted`), the one recursion scheme shared by the Boolean step deciders
(`validRowsB`, `maskOkB`, `zeroOkB`). -/

namespace Ska

section Scatter
variable {α : Type}

theorem scatter_length (n : Nat) (is : List Nat) (vs : List (Option α)) :
    (scatter n is vs).length = n := by
  fun_induction scatter n is vs with
  | case1 => exact List.length_replicate
  | case2 => exact List.length_replicate
  | case3 i is v vs ih => rw [List.length_set, ih]

theorem getElem?_scatter_of_not_mem (n : Nat) (is : List Nat) (vs : List (Option α)) (j : Nat)
    (hj : j < n) (hnm : j ∉ is) : (scatter n is vs)[j]? = some none := by
  fun_induction scatter n is vs with
  | case1 => rw [List.getElem?_replicate, if_pos hj]
  | case2 => rw [List.getElem?_replicate, if_pos hj]
  | case3 i is v vs ih =>
    rw [List.getElem?_set_ne fun (e : i = j) => hnm (e ▸ List.mem_cons_self)]
    exact ih fun h => hnm (List.mem_cons_of_mem _ h)

theorem getElem?_scatter_of_mem (n : Nat) (is : List Nat) (vs : List (Option α))
    (hlen : vs.length = is.length) (hnd : is.Nodup) (hr : ∀ i ∈ is, i < n)
    (k : Nat) (hk : k < is.length) :
    (scatter n is vs)[is[k]]? = vs[k]? := by
  fun_induction scatter n is vs generalizing k with
  | case1 => exact absurd hk (Nat.not_lt_zero k)
  | case2 => cases hlen
  | case3 i is v vs ih =>
    have hnd' := List.nodup_cons.mp hnd
    cases k with
    | zero =>
      exact List.getElem?_set_self ((scatter_length n is vs).symm ▸ hr i List.mem_cons_self)
    | succ k =>
      have hk' : k < is.length := Nat.lt_of_succ_lt_succ hk
      rw [List.getElem_cons_succ, List.getElem?_cons_succ,
        List.getElem?_set_ne fun (e : i = is[k]) => hnd'.1 (e ▸ List.getElem_mem hk')]
      exact ih (Nat.succ.inj hlen) hnd'.2 (fun x hx => hr x (List.mem_cons_of_mem _ hx)) k hk'

theorem getElem?_scatter_map (n : Nat) (mp : List Nat) (f : Nat → Option α) (hnd : mp.Nodup)
    (hr : ∀ i ∈ mp, i < n) (j : Nat) (hj : j ∈ mp) :
    (scatter n mp (mp.map f))[j]? = some (f j) := by
  obtain ⟨k, hk, rfl⟩ := List.getElem_of_mem hj
  rw [getElem?_scatter_of_mem n mp (mp.map f) (List.length_map f) hnd hr k hk, List.getElem?_map,
    List.getElem?_eq_getElem hk, Option.map_some]

theorem countSome_scatter (n : Nat) (is : List Nat) (vs : List (Option α))
    (hlen : vs.length = is.length) (hnd : is.Nodup) (hr : ∀ i ∈ is, i < n)
    (hall : ∀ x ∈ vs, ∃ v, x = some v) : countSome (scatter n is vs) = is.length := by
  fun_induction scatter n is vs with
  | case1 => rw [countSome, List.filter_replicate]; rfl
  | case2 => cases hlen
  | case3 i is v vs ih =>
    have hnd' := List.nodup_cons.mp hnd
    obtain ⟨w, rfl⟩ := hall v List.mem_cons_self
    -- slot `i` still holds NaN, so writing a number there adds one
    rw [countSome_set_some _ i w (getElem?_scatter_of_not_mem n is vs i (hr i List.mem_cons_self) hnd'.1),
      ih (Nat.succ.inj hlen) hnd'.2 (fun x hx => hr x (List.mem_cons_of_mem _ hx))
        (fun x hx => hall x (List.mem_cons_of_mem _ hx)), List.length_cons]

/-- With no NaN among the candidate utilities the scattered vector is NaN exactly off the mapping. -/
theorem getElem?_scatter_eq_some_none_iff (n : Nat) (is : List Nat) (vs : List (Option α))
    (hlen : vs.length = is.length) (hnd : is.Nodup) (hr : ∀ i ∈ is, i < n)
    (hall : ∀ x ∈ vs, ∃ v, x = some v) (j : Nat) (hj : j < n) :
    (scatter n is vs)[j]? = some none ↔ j ∉ is := by
  refine ⟨fun h hm => ?_, getElem?_scatter_of_not_mem n is vs j hj⟩
  obtain ⟨k, hk, rfl⟩ := List.getElem_of_mem hm
  rw [getElem?_scatter_of_mem n is vs hlen hnd hr k hk] at h
  obtain ⟨w, hw⟩ := hall _ (List.mem_of_getElem? h)
  cases hw

theorem some_mem_of_mem_scatter (n : Nat) (is : List Nat) (vs : List (Option α)) (v : α)
    (h : some v ∈ scatter n is vs) : some v ∈ vs := by
  fun_induction scatter n is vs with
  | case1 => cases List.eq_of_mem_replicate h
  | case2 => cases List.eq_of_mem_replicate h
  | case3 i is w vs ih =>
    rcases List.mem_or_eq_of_mem_set h with h | h
    · exact List.mem_cons_of_mem _ (ih h)
    · exact h ▸ List.mem_cons_self

theorem scatter_range (vs : List (Option α)) : scatter vs.length (List.range vs.length) vs = vs := by
  refine List.ext_getElem? fun k => ?_
  rcases Nat.lt_or_ge k vs.length with hk | hk
  · have := getElem?_scatter_of_mem vs.length (List.range vs.length) vs List.length_range.symm List.nodup_range
      (fun _ => List.mem_range.mp) k (List.length_range ▸ hk)
    rwa [List.getElem_range] at this
  · rw [List.getElem?_eq_none hk, List.getElem?_eq_none ((scatter_length ..).symm ▸ hk)]

end Scatter

section Candidates

theorem unlabeledFrom_eq_truePos (i : Nat) (y : List Bool) : unlabeledFrom i y = truePos i y := by
  induction y generalizing i with
  | nil => rfl
  | cons x xs ih => cases x <;> simp [unlabeledFrom, truePos_cons, ih]

theorem unlabeledFrom_pairwise (i : Nat) (y : List Bool) : (unlabeledFrom i y).Pairwise (· < ·) :=
  unlabeledFrom_eq_truePos i y ▸ truePos_pairwise i y

theorem unlabeledFrom_nodup (i : Nat) (y : List Bool) : (unlabeledFrom i y).Nodup :=
  (unlabeledFrom_pairwise i y).imp Nat.ne_of_lt

theorem unlabeledIdx_pairwise (y : List Bool) : (unlabeledIdx y).Pairwise (· < ·) := unlabeledFrom_pairwise 0 y

theorem unlabeledIdx_nodup (y : List Bool) : (unlabeledIdx y).Nodup := unlabeledFrom_nodup 0 y

theorem mem_unlabeledIdx (y : List Bool) (j : Nat) : j ∈ unlabeledIdx y ↔ y[j]? = some true := by
  rw [unlabeledIdx, unlabeledFrom_eq_truePos]
  exact mem_truePos_zero

theorem unlabeledIdx_length (y : List Bool) : (unlabeledIdx y).length = y.count true := by
  rw [unlabeledIdx, unlabeledFrom_eq_truePos]
  exact truePos_length 0 y

theorem uniqueSorted_cons (x : Nat) (xs : List Nat) : uniqueSorted (x :: xs) = insertUnique x (uniqueSorted xs) := rfl

theorem mem_insertUnique (x : Nat) (l : List Nat) (z : Nat) : z ∈ insertUnique x l ↔ z = x ∨ z ∈ l := by
  induction l with
  | nil => simp [insertUnique]
  | cons y ys ih =>
    rw [insertUnique]
    split
    · rw [List.mem_cons]
    · split
      · next h => rw [h, List.mem_cons, or_self_left]
      · rw [List.mem_cons, ih, List.mem_cons, or_left_comm]

/-- `np.unique` is the identity on a strictly increasing index list (such as the unlabeled indices). -/
theorem uniqueSorted_of_pairwise_lt (l : List Nat) (hs : l.Pairwise (· < ·)) : uniqueSorted l = l := by
  induction l with
  | nil => rfl
  | cons x xs ih =>
    obtain ⟨hx, hxs⟩ := List.pairwise_cons.mp hs
    rw [uniqueSorted_cons, ih hxs]
    cases xs with
    | nil => rfl
    | cons y ys => rw [insertUnique, if_pos (hx y List.mem_cons_self)]

end Candidates

section SkeletonA
variable {α : Type} [LT α] [DecidableLT α] [OfNat α 0] [Add α]
variable {β : Type} [LT β] [DecidableLT β] [OfNat β 0]

theorem poolQueryA_of_pos (isInf : α → Bool) (n : Nat) (mapping : Option (List Nat)) (uc : List (Option α))
    (b : Nat) (m : Method) (noises : List (List β)) (choice : List Nat) (hb : 1 ≤ b) :
    poolQueryA isInf n mapping uc b m noises choice =
      simpleBatch isInf (fullUtilities n mapping uc) (min b (nCandOf mapping uc)) m noises choice :=
  if_neg (Nat.not_lt.mpr hb)

end SkeletonA

section Steps

/-- Deciders that walk rows and picks together while accumulating the earlier picks
(`validRowsB`, `maskOkB`, `zeroOkB`) all check a per-step condition at `earlier ++ picks.take k`. -/
theorem stepsB_iff {ρ : Type} (F : List Nat → List ρ → List Nat → Bool) (ok : List Nat → ρ → Nat → Bool)
    (hnn : ∀ e, F e [] [] = true) (hnc : ∀ e p ps, F e [] (p :: ps) = false)
    (hcn : ∀ e r rs, F e (r :: rs) [] = false)
    (hcc : ∀ e r rs p ps, F e (r :: rs) (p :: ps) = (ok e r p && F (e ++ [p]) rs ps))
    (e : List Nat) (rs : List ρ) (ps : List Nat) :
    F e rs ps = true ↔ rs.length = ps.length ∧
      ∀ k, ∀ hp : k < ps.length, ∀ hr : k < rs.length, ok (e ++ ps.take k) rs[k] ps[k] = true := by
  induction rs generalizing e ps with
  | nil =>
    cases ps with
    | nil => exact iff_of_true (hnn e) ⟨rfl, fun k hp => absurd hp (Nat.not_lt_zero k)⟩
    | cons p ps => exact iff_of_false (hnc e p ps ▸ Bool.false_ne_true) fun h => nomatch h.1
  | cons r rs ih =>
    cases ps with
    | nil => exact iff_of_false (hcn e r rs ▸ Bool.false_ne_true) fun h => nomatch h.1
    | cons p ps =>
      rw [hcc, Bool.and_eq_true, ih]
      constructor
      · rintro ⟨h0, hl, h⟩
        refine ⟨congrArg (· + 1) hl, fun k hp hr => ?_⟩
        cases k with
        | zero => exact (List.append_nil e).symm ▸ h0
        | succ k =>
          have := h k (Nat.lt_of_succ_lt_succ hp) (Nat.lt_of_succ_lt_succ hr)
          rwa [← List.append_cons] at this
      · rintro ⟨hl, h⟩
        refine ⟨List.append_nil e ▸ h 0 (Nat.zero_lt_succ _) (Nat.zero_lt_succ _), Nat.succ.inj hl, fun k hp hr => ?_⟩
        rw [← List.append_cons]
        exact h (k+1) (Nat.succ_lt_succ hp) (Nat.succ_lt_succ hr)

end Steps

end Ska
