import SkaModel.Lemmas.Classifier
import SkaModel.Core.Fit

/-! `Core/Fit.lean` for C12: the two relations its statements are about (`Interleave`, `SameUpToUnlabeledWeights`), what
`filterLabeled` does on a cons (by the label of the row), on an append, on rows that are all unlabeled and on rows that
are all labeled, and `reveal` as `List.modify`, so that revealing at two different places commutes (`reveal_comm`). -/

namespace Ska.Fit

section Filter
variable {ξ ζ ω : Type}

/-- `d'` is obtained from `d` by inserting the rows of `u` at arbitrary positions, keeping the order
inside `d` and inside `u` (read right to left: by deleting them). -/
inductive Interleave : List (ξ × Option ζ × ω) → List (ξ × Option ζ × ω) → List (ξ × Option ζ × ω) → Prop
  | nil : Interleave [] [] []
  | left (r) {d u d'} : Interleave d u d' → Interleave (r :: d) u (r :: d')
  | right (r) {d u d'} : Interleave d u d' → Interleave d (r :: u) (r :: d')

/-- same features and labels row by row; weights may differ on unlabeled rows only. -/
def SameUpToUnlabeledWeights (d d' : List (ξ × Option ζ × ω)) : Prop :=
  List.Forall₂ (fun r r' => r.1 = r'.1 ∧ r.2.1 = r'.2.1 ∧ (r.2.1.isSome → r.2.2 = r'.2.2)) d d'

theorem filterLabeled_cons_of_none {r : ξ × Option ζ × ω} (h : r.2.1 = none) (d : List (ξ × Option ζ × ω)) :
    filterLabeled (r :: d) = filterLabeled d :=
  List.filterMap_cons_none (by rw [stripRow, h])

theorem filterLabeled_cons_of_some {r : ξ × Option ζ × ω} {y : ζ} (h : r.2.1 = some y) (d : List (ξ × Option ζ × ω)) :
    filterLabeled (r :: d) = (r.1, y, r.2.2) :: filterLabeled d :=
  List.filterMap_cons_some (by rw [stripRow, h])

theorem filterLabeled_append (a b : List (ξ × Option ζ × ω)) :
    filterLabeled (a ++ b) = filterLabeled a ++ filterLabeled b :=
  List.filterMap_append

theorem filterLabeled_all_unlabeled (u : List (ξ × Option ζ × ω)) (h : ∀ r ∈ u, r.2.1 = none) :
    filterLabeled u = [] :=
  List.filterMap_eq_nil_iff.mpr fun r hr => by rw [stripRow, h r hr]

theorem filterLabeled_map_some (l : List (ξ × ζ × ω)) :
    filterLabeled (l.map fun r => (r.1, some r.2.1, r.2.2)) = l :=
  (List.filterMap_map ..).trans List.filterMap_some

theorem reveal_eq_modify (d : List (ξ × Option ζ × ω)) (iy : Nat × ζ) :
    reveal d iy = d.modify iy.1 (fun r => (r.1, some iy.2, r.2.2)) := by
  rw [reveal, List.modify_eq_set_getElem?]
  cases d[iy.1]? <;> rfl

theorem reveal_length (d : List (ξ × Option ζ × ω)) (iy : Nat × ζ) : (reveal d iy).length = d.length := by
  rw [reveal_eq_modify, List.length_modify]

theorem reveal_comm (d : List (ξ × Option ζ × ω)) (a b : Nat × ζ) (h : a.1 ≠ b.1) :
    reveal (reveal d a) b = reveal (reveal d b) a := by
  simp only [reveal_eq_modify]
  exact List.modify_modify_ne _ _ d h

end Filter

end Ska.Fit
