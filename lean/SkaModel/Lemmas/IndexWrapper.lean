import SkaModel.Core.IndexWrapper
import SkaModel.Lemmas.Basic

/-! Lemmas about the `IndexClassifierWrapper` model (`SkaModel/Core/IndexWrapper.lean`): list selection, the
abstraction to training lists of `(index, label, weight)` triples, argument validation, and every operation
written as "what is trained on, or the exception" followed by one way of storing it (`commit`). -/

namespace Ska.IW

section Lists
variable {α β : Type}

theorem maskSel_nil_left (m : List Bool) : maskSel ([] : List α) m = [] := rfl

theorem maskSel_nil_right (l : List α) : maskSel l [] = [] := by
  cases l <;> rfl

theorem maskSel_cons_true (a : α) (as : List α) (bs : List Bool) :
    maskSel (a :: as) (true :: bs) = a :: maskSel as bs := rfl

theorem maskSel_cons_false (a : α) (as : List α) (bs : List Bool) :
    maskSel (a :: as) (false :: bs) = maskSel as bs := rfl

theorem maskSel_map (f : α → β) (l : List α) (m : List Bool) :
    maskSel (l.map f) m = (maskSel l m).map f := by
  induction l generalizing m with
  | nil => rfl
  | cons a as ih =>
    rcases m with _ | ⟨_ | _, bs⟩
    · rfl
    · exact ih bs
    · exact congrArg (f a :: ·) (ih bs)

theorem maskSel_zip (a : List α) (b : List β) (m : List Bool) :
    maskSel (a.zip b) m = (maskSel a m).zip (maskSel b m) := by
  induction a generalizing b m with
  | nil => rfl
  | cons x xs ih =>
    rcases b with _ | ⟨y, ys⟩
    · rw [List.zip_nil_right, maskSel_nil_left, maskSel_nil_left, List.zip_nil_right]
    · rcases m with _ | ⟨_ | _, cs⟩
      · rfl
      · exact ih ys cs
      · exact congrArg ((x, y) :: ·) (ih ys cs)

theorem maskSel_map_self (p : α → Bool) (l : List α) : maskSel l (l.map p) = l.filter p := by
  induction l with
  | nil => rfl
  | cons a as ih =>
    cases h : p a
    · rw [List.map_cons, h, maskSel_cons_false, ih, List.filter_cons_of_neg (by simp [h])]
    · rw [List.map_cons, h, maskSel_cons_true, ih, List.filter_cons_of_pos h]

theorem maskSel_replicate_true (l : List α) (k : Nat) : maskSel l (List.replicate k true) = l.take k := by
  induction l generalizing k with
  | nil => cases k <;> rfl
  | cons a as ih =>
    cases k with
    | zero => rfl
    | succ k => exact congrArg (a :: ·) (ih k)

theorem maskSel_sublist (l : List α) (m : List Bool) : (maskSel l m).Sublist l := by
  induction l generalizing m with
  | nil => exact .slnil
  | cons a as ih =>
    rcases m with _ | ⟨_ | _, bs⟩
    · exact List.nil_sublist _
    · exact (ih bs).cons a
    · exact (ih bs).cons_cons a

theorem maskSel_length_le (l : List α) (m : List Bool) : (maskSel l m).length ≤ l.length :=
  (maskSel_sublist l m).length_le

theorem maskSel_length_eq (a : List α) (b : List β) (m : List Bool) (h : a.length = b.length) :
    (maskSel a m).length = (maskSel b m).length := by
  induction a generalizing b m with
  | nil => cases b with
    | nil => rfl
    | cons _ _ => cases h
  | cons x xs ih =>
    rcases b with _ | ⟨y, ys⟩
    · cases h
    · rcases m with _ | ⟨_ | _, cs⟩
      · rfl
      · exact ih ys cs (Nat.succ.inj h)
      · exact congrArg Nat.succ (ih ys cs (Nat.succ.inj h))

theorem nodupI_iff (l : List Int) : nodupI l = true ↔ l.Nodup := by
  induction l with
  | nil => simp [nodupI]
  | cons x xs ih => simp [nodupI, ih]

end Lists

section MapOpt
variable {α β : Type}

theorem mapOpt_eq_map (f : α → Option β) (g : α → β) (l : List α) (h : ∀ a ∈ l, f a = some (g a)) :
    mapOpt f l = some (l.map g) := by
  induction l with
  | nil => rfl
  | cons a as ih =>
    simp only [mapOpt, h a (List.mem_cons_self ..), ih (fun b hb => h b (List.mem_cons_of_mem _ hb)), List.map_cons]

theorem mapOpt_eq_none_iff (f : α → Option β) (l : List α) : mapOpt f l = none ↔ ∃ a ∈ l, f a = none := by
  induction l with
  | nil => exact ⟨nofun, nofun⟩
  | cons a as ih =>
    simp only [List.mem_cons, exists_eq_or_imp, ← ih, mapOpt]
    cases f a <;> cases mapOpt f as <;> simp only [reduceCtorEq, or_self, or_false, or_true]

theorem mapOpt_some_all (f : α → Option β) (l : List α) (r : List β) (h : mapOpt f l = some r) :
    r.length = l.length ∧ ∀ k, ∀ hk : k < l.length, ∀ hk' : k < r.length, f l[k] = some r[k] := by
  fun_induction mapOpt f l generalizing r with
  | case1 => cases h; exact ⟨rfl, fun k hk => absurd hk (Nat.not_lt_zero k)⟩
  | case2 a as b bs hbs hb ih =>
    cases h
    obtain ⟨h1, h2⟩ := ih bs hbs
    refine ⟨congrArg Nat.succ h1, fun k hk hk' => ?_⟩
    cases k with
    | zero => exact hb
    | succ k => exact h2 k (Nat.lt_of_succ_lt_succ hk) (Nat.lt_of_succ_lt_succ hk')
  | case3 => cases h

theorem mapOpt_some_eq_map (f : α → Option β) (g : α → β) (l : List α) (r : List β)
    (h : mapOpt f l = some r) (hg : ∀ a b, f a = some b → b = g a) : r = l.map g := by
  fun_induction mapOpt f l generalizing r with
  | case1 => cases h; rfl
  | case2 a as b bs hbs hb ih => cases h; rw [List.map_cons, ← ih bs hbs, ← hg a b hb]
  | case3 => cases h

end MapOpt

section Abs
variable {C L W : Type}

/-- record invariant: the three arrays are in step -/
def Data.WF (d : Data L W) : Prop :=
  d.y.length = d.idx.length ∧ ∀ w, d.sw = some w → w.length = d.idx.length

/-- per-sample weights (`None` for every sample when `sample_weight_ is None`) -/
def Data.weights (d : Data L W) : List (Option W) :=
  match d.sw with
  | none => d.idx.map (fun _ => none)
  | some w => w.map some

/-- what the wrapped classifier is trained on, sample by sample -/
def Data.triples (d : Data L W) : List (Int × L × Option W) :=
  d.idx.zip (d.y.zip d.weights)

/-- specification of the emulated `partial_fit` on training lists: drop the re-added indices (unique
mode only), append the new triples -/
def specPartial (unique : Bool) (start add : List (Int × L × Option W)) : List (Int × L × Option W) :=
  start.filter (fun t => !(unique && (add.map Prod.fst).contains t.1)) ++ add

theorem Data.weights_length (d : Data L W) (h : d.WF) : d.weights.length = d.idx.length := by
  unfold Data.weights
  cases hs : d.sw with
  | none => exact List.length_map _
  | some w => exact (List.length_map _).trans (h.2 w hs)

theorem Data.triples_map_fst (d : Data L W) (h : d.WF) : d.triples.map Prod.fst = d.idx :=
  List.map_fst_zip (by rw [List.length_zip, h.1, Data.weights_length d h, Nat.min_self]; exact Nat.le_refl _)

theorem Data.triples_length (d : Data L W) (h : d.WF) : d.triples.length = d.idx.length :=
  (List.length_map Prod.fst).symm.trans (congrArg List.length (Data.triples_map_fst d h))

theorem selKeep_some {α : Type} (u : Bool) (keep : List Bool) (l : List α) (h : l.length = keep.length) :
    selKeep u keep l = some (maskSel l keep) := by
  unfold selKeep
  cases u <;> simp [h]

theorem keepMask_length (u : Bool) (cur add : List Int) : (keepMask u cur add).length = cur.length :=
  List.length_map _

theorem keepMask_false (cur add : List Int) : keepMask false cur add = List.replicate cur.length true :=
  List.map_const' (l := cur) (b := true)

theorem keepMask_true (cur add : List Int) : keepMask true cur add = cur.map (fun i => !(add.contains i)) := rfl

/-- On an in-step record the selections cannot fail: `merge` raises only for mixed weights. -/
theorem merge_of_wf (u : Bool) (d : Data L W) (idx : List Int) (ay : List L) (aw : Option (List W)) (hd : d.WF) :
    merge u d idx ay aw =
      let keep := keepMask u d.idx idx
      match d.sw, aw with
      | none, none => .ok ⟨maskSel d.idx keep ++ idx, maskSel d.y keep ++ ay, none⟩
      | some w, some a => .ok ⟨maskSel d.idx keep ++ idx, maskSel d.y keep ++ ay, some (maskSel w keep ++ a)⟩
      | _, _ => .error .mixed := by
  obtain ⟨i, y, sw⟩ := d
  simp only [merge]
  rw [selKeep_some u _ y (hd.1.trans (keepMask_length u i idx).symm)]
  cases sw with
  | none => cases aw <;> rfl
  | some w =>
    simp only
    rw [selKeep_some u _ w ((hd.2 w rfl).trans (keepMask_length u i idx).symm)]
    cases aw <;> rfl

/-- …and it succeeds exactly when the weights are both absent or both given. -/
theorem merge_of_wf_cases {u : Bool} {d : Data L W} {idx : List Int} {ay : List L} {aw : Option (List W)} (hd : d.WF) :
    if d.sw.isSome = aw.isSome then ∃ d', merge u d idx ay aw = .ok d' else merge u d idx ay aw = .error .mixed := by
  rw [merge_of_wf u d idx ay aw hd]
  obtain ⟨i, y, sw⟩ := d
  cases sw with
  | none =>
    cases aw with
    | none => exact ⟨_, rfl⟩
    | some a => exact rfl
  | some w =>
    cases aw with
    | none => exact rfl
    | some a => exact ⟨_, rfl⟩

/-- Selecting by a mask computed from the indices and appending, seen on the zipped training list. -/
theorem triples_sel_append (i i' : List Int) (y y' : List L) (w w' : List (Option W)) (p : Int → Bool)
    (hy : y.length = i.length) (hw : w.length = i.length) :
    (maskSel i (i.map p) ++ i').zip ((maskSel y (i.map p) ++ y').zip (maskSel w (i.map p) ++ w')) =
      (i.zip (y.zip w)).filter (fun t => p t.1) ++ i'.zip (y'.zip w') := by
  have hm : (i.zip (y.zip w)).map (fun t => p t.1) = i.map p := by
    have := congrArg (List.map p) (List.map_fst_zip (l₁ := i) (l₂ := y.zip w) (by simp [hy, hw]))
    rwa [List.map_map] at this
  rw [List.zip_append (maskSel_length_eq y w _ (hy.trans hw.symm)),
    List.zip_append (by rw [List.length_zip, maskSel_length_eq y i _ hy, maskSel_length_eq w i _ hw, Nat.min_self]),
    ← maskSel_zip, ← maskSel_zip, ← hm, maskSel_map_self]

theorem merge_idx {u : Bool} {d : Data L W} {idx : List Int} {ay : List L} {aw : Option (List W)} {d' : Data L W}
    (h : merge u d idx ay aw = .ok d') : d'.idx = d.idx.filter (fun i => !(u && idx.contains i)) ++ idx := by
  rw [← maskSel_map_self]
  unfold merge at h
  cases hy : selKeep u (keepMask u d.idx idx) d.y with
  | none => simp only [hy] at h; cases h
  | some ky =>
    simp only [hy] at h
    cases hs : d.sw with
    | none => simp only [hs] at h; cases aw <;> cases h <;> rfl
    | some w =>
      simp only [hs] at h
      cases hw : selKeep u (keepMask u d.idx idx) w with
      | none => simp only [hw] at h; cases h
      | some kw => simp only [hw] at h; cases aw <;> cases h <;> rfl

/-- **`merge` commutes with the abstraction**: the merged record is in step and its training list is
the specified one. -/
theorem merge_ok_spec {u : Bool} {d : Data L W} {idx : List Int} {ay : List L} {aw : Option (List W)}
    (hd : d.WF) (ha : (⟨idx, ay, aw⟩ : Data L W).WF) {d' : Data L W}
    (h : merge u d idx ay aw = .ok d') :
    d'.WF ∧ d'.triples = specPartial u d.triples (Data.triples ⟨idx, ay, aw⟩) ∧
      d'.idx = d.idx.filter (fun i => !(u && idx.contains i)) ++ idx ∧
      (d'.sw.isSome = d.sw.isSome) := by
  have hidx := merge_idx h
  have hylen := maskSel_length_eq d.y d.idx (keepMask u d.idx idx) hd.1
  have hfst := Data.triples_map_fst _ ha
  rw [merge_of_wf u d idx ay aw hd] at h
  obtain ⟨i, y, sw⟩ := d
  unfold specPartial
  rw [hfst]
  cases sw with
  | none =>
    cases aw with
    | some a => cases h
    | none =>
      cases h
      refine ⟨⟨by simp [hylen, ha.1], fun w hw => by cases hw⟩, ?_, hidx, rfl⟩
      simp only [Data.triples, Data.weights, keepMask, List.map_append, ← maskSel_map]
      exact triples_sel_append i idx y ay _ _ _ hd.1 (List.length_map _)
  | some w =>
    cases aw with
    | none => cases h
    | some a =>
      cases h
      have hwlen := maskSel_length_eq w i (keepMask u i idx) (hd.2 w rfl)
      refine ⟨⟨by simp [hylen, ha.1], fun w' hw' => by cases hw'; simp [hwlen, ha.2 a rfl]⟩, ?_,
        hidx, rfl⟩
      simp only [Data.triples, Data.weights, keepMask, List.map_append, ← maskSel_map]
      exact triples_sel_append i idx y ay _ _ _ hd.1 ((List.length_map _).trans (hd.2 w rfl))

theorem merge_nodup {d : Data L W} {idx : List Int} {ay : List L} {aw : Option (List W)} {d' : Data L W}
    (hd : d.idx.Nodup) (hi : idx.Nodup) (h : merge true d idx ay aw = .ok d') : d'.idx.Nodup := by
  rw [merge_idx h, List.nodup_append]
  refine ⟨hd.filter _, hi, fun a ha b hb hab => ?_⟩
  subst hab
  simp only [List.mem_filter, Bool.true_and, Bool.not_eq_true', List.contains_eq_mem, decide_eq_false_iff_not] at ha
  exact ha.2 hb

end Abs

section Valid
variable {C L W : Type}

theorem gather_length {α : Type} {l : List α} {idx : List Int} {r : List α} (h : gather l idx = some r) :
    r.length = idx.length := by
  fun_induction gather l idx generalizing r with
  | case1 => cases h; rfl
  | case2 => cases h
  | case3 i is k _ a as has _ ih => cases h; exact congrArg Nat.succ (ih has)
  | case4 => cases h

theorem checkIdx_none {cfg : Cfg L W} {idx : List Int} (h : checkIdx cfg idx = none) :
    idx ≠ [] ∧ (cfg.unique = true → idx.Nodup) ∧ ∀ i ∈ idx, i < (cfg.n : Int) := by
  obtain ⟨h1, h⟩ := ite_some_eq_none_iff.mp h
  obtain ⟨h2, h⟩ := ite_some_eq_none_iff.mp h
  obtain ⟨h3, -⟩ := ite_some_eq_none_iff.mp h
  refine ⟨fun e => h1 (e ▸ rfl), fun hu => (nodupI_iff idx).mp ?_, fun i hi => Int.not_le.mp ?_⟩
  · simpa [hu] using h2
  · simpa using List.any_eq_false.mp (Bool.eq_false_iff.mpr h3) i hi

theorem xIndexOk_iff (cfg : Cfg L W) (idx : List Int) :
    xIndexOk cfg idx = true ↔ ∀ i ∈ idx, -(cfg.n : Int) ≤ i := by
  simp [xIndexOk]

theorem resolveY_ok {cfg : Cfg L W} {idx : List Int} {y : Option (List L)} {yy : List L}
    (h : resolveY cfg idx y = .ok yy) : yy.length = idx.length := by
  cases y with
  | none =>
    unfold resolveY at h
    cases hg : gather cfg.y0 idx with
    | none => rw [hg] at h; cases h
    | some g => rw [hg] at h; cases h; exact gather_length hg
  | some y' => obtain ⟨hl, rfl⟩ := ite_ok_eq_ok_iff.mp h; exact hl

theorem resolveSW_ok {cfg : Cfg L W} {idx : List Int} {sw : Option (List W)} {ww : Option (List W)}
    (h : resolveSW cfg idx sw = .ok ww) :
    (∀ w, ww = some w → w.length = idx.length) ∧ (cfg.sw0.isSome = true → ww.isSome = true) := by
  unfold resolveSW at h
  cases sw with
  | some w' =>
    obtain ⟨hl, rfl⟩ := ite_ok_eq_ok_iff.mp h
    exact ⟨fun w hw => Option.some.inj hw ▸ hl, fun _ => rfl⟩
  | none =>
    cases h0 : cfg.sw0 with
    | none => simp only [h0] at h; cases h; exact ⟨fun _ hw => (by cases hw), fun hh => (by cases hh)⟩
    | some w0 =>
      cases hg : gather w0 idx with
      | none => simp only [h0, hg] at h; cases h
      | some g =>
        simp only [h0, hg] at h
        cases h
        exact ⟨fun w hw => Option.some.inj hw ▸ gather_length hg, fun _ => rfl⟩

theorem resolved_wf {cfg : Cfg L W} {idx : List Int} {y : Option (List L)} {sw : Option (List W)}
    {yy : List L} {ww : Option (List W)}
    (hy : resolveY cfg idx y = .ok yy) (hw : resolveSW cfg idx sw = .ok ww) :
    (⟨idx, yy, ww⟩ : Data L W).WF :=
  ⟨resolveY_ok hy, (resolveSW_ok hw).1⟩

/-- a stored training record as every successful call leaves it -/
def Data.Good (cfg : Cfg L W) (d : Data L W) : Prop :=
  d.WF ∧ (cfg.unique = true → d.idx.Nodup) ∧ (∀ i ∈ d.idx, -(cfg.n : Int) ≤ i ∧ i < (cfg.n : Int)) ∧
  (cfg.sw0.isSome = true → d.sw.isSome = true) ∧ d.idx ≠ []

theorem validatePartial_ok {cfg : Cfg L W} {s : St C L W} {idx : List Int} {y : Option (List L)}
    {sw : Option (List W)} {ub : Bool} {ay : List L} {aw : Option (List W)}
    (h : validatePartial cfg s idx y sw ub = .ok (ay, aw)) :
    checkIdx cfg idx = none ∧ (if ub then s.bclf.isNone else s.clf.isNone) = false ∧
      resolveY cfg idx y = .ok ay ∧ resolveSW cfg idx sw = .ok aw := by
  unfold validatePartial at h
  cases hc : checkIdx cfg idx with
  | some e => simp only [hc] at h; cases h
  | none =>
    simp only [hc] at h
    have hf := ite_error_not h
    replace h := ite_error_ok h
    cases hy : resolveY cfg idx y with
    | error e => simp only [hy] at h; cases h
    | ok ay' =>
      cases hw : resolveSW cfg idx sw with
      | error e => simp only [hy, hw] at h; cases h
      | ok aw' =>
        simp only [hy, hw] at h
        cases h
        exact ⟨rfl, Bool.eq_false_iff.mpr hf, rfl, rfl⟩

/-- The validation looks at the object only to see whether the classifier to update is there. -/
theorem validatePartial_congr {C' : Type} (cfg : Cfg L W) (s : St C L W) (t : St C' L W) (idx : List Int)
    (y : Option (List L)) (sw : Option (List W)) (ub : Bool)
    (h : (if ub then s.bclf.isNone else s.clf.isNone) = (if ub then t.bclf.isNone else t.clf.isNone)) :
    validatePartial cfg s idx y sw ub = validatePartial cfg t idx y sw ub := by
  unfold validatePartial
  rw [h]

end Valid

section Calls
variable {C L W : Type} {cfg : Cfg L W} {fitFn : Data L W → C} {pfitFn : C → Data L W → C} {s s' : St C L W}
  {idx : List Int} {y : Option (List L)} {sw : Option (List W)} {ay : List L} {aw : Option (List W)} {ub sb : Bool}

/-- What every call that returns leaves behind: `c`, trained on the record `d`, is the classifier; the
record is kept unless the classifier keeps its own history (`native`); `sb` copies both to the base. -/
def St.store (native : Bool) (s : St C L W) (c : C) (d : Data L W) (sb : Bool) : St C L W :=
  ⟨some c, if native then s.cur else some d, if sb then some c else s.bclf, if sb && !native then some d else s.base⟩

/-- A call raises and leaves the object alone, or stores a classifier with its record. -/
def commit (native : Bool) (s : St C L W) (sb : Bool) : Except Err (C × Data L W) → St C L W × Option Err
  | .error e => (s, some e)
  | .ok (c, d) => (s.store native c d sb, none)

theorem commit_ok {native : Bool} {r : Except Err (C × Data L W)}
    (h : commit native s sb r = (s', none)) : ∃ c d, r = .ok (c, d) ∧ s' = s.store native c d sb := by
  rcases r with e | ⟨c, d⟩
  · cases h
  · cases h; exact ⟨c, d, rfl, rfl⟩

theorem commit_error {native : Bool} {r : Except Err (C × Data L W)}
    (h : (commit native s sb r).2 ≠ none) : (commit native s sb r).1 = s := by
  rcases r with e | ⟨c, d⟩
  · rfl
  · exact absurd rfl h

/-- The record `fit` trains on, or the exception its argument checks raise; the object is not consulted. -/
def fitArgs (cfg : Cfg L W) (idx : List Int) (y : Option (List L)) (sw : Option (List W)) : Except Err (Data L W) :=
  match checkIdx cfg idx with
  | some e => .error e
  | none =>
    match resolveY cfg idx y with
    | .error e => .error e
    | .ok yy =>
      match resolveSW cfg idx sw with
      | .error e => .error e
      | .ok ww => if xIndexOk cfg idx then .ok ⟨idx, yy, ww⟩ else .error .index

/-- a fresh copy of the wrapped classifier is trained on the record -/
def refit (fitFn : Data L W → C) : Except Err (Data L W) → Except Err (C × Data L W)
  | .error e => .error e
  | .ok d => .ok (fitFn d, d)

theorem refit_ok {r : Except Err (Data L W)} {c : C} {d : Data L W}
    (h : refit fitFn r = .ok (c, d)) : r = .ok d ∧ c = fitFn d := by
  cases r with
  | error e => cases h
  | ok d' => cases h; exact ⟨rfl, rfl⟩

theorem fit_eq (cfg : Cfg L W) (fitFn : Data L W → C) (s : St C L W) (idx : List Int) (y : Option (List L))
    (sw : Option (List W)) (sb : Bool) :
    fit cfg fitFn s idx y sw sb = commit cfg.native s sb (refit fitFn (fitArgs cfg idx y sw)) := by
  unfold fit fitArgs
  cases checkIdx cfg idx with
  | some e => rfl
  | none =>
    cases resolveY cfg idx y with
    | error e => rfl
    | ok yy =>
      cases resolveSW cfg idx sw with
      | error e => rfl
      | ok ww => cases xIndexOk cfg idx <;> cases sb <;> cases cfg.native <;> rfl

theorem fit_ok (h : fit cfg fitFn s idx y sw sb = (s', none)) :
    ∃ d, fitArgs cfg idx y sw = .ok d ∧ s' = s.store cfg.native (fitFn d) d sb := by
  rw [fit_eq] at h
  obtain ⟨c, d, hr, rfl⟩ := commit_ok h
  obtain ⟨hd, rfl⟩ := refit_ok hr
  exact ⟨d, hd, rfl⟩

theorem fitArgs_ok {d : Data L W} (h : fitArgs cfg idx y sw = .ok d) :
    d.Good cfg ∧ d.idx = idx ∧ resolveY cfg idx y = .ok d.y ∧ resolveSW cfg idx sw = .ok d.sw := by
  unfold fitArgs at h
  cases hc : checkIdx cfg idx with
  | some e => simp only [hc] at h; cases h
  | none =>
    cases hy : resolveY cfg idx y with
    | error e => simp only [hc, hy] at h; cases h
    | ok yy =>
      cases hw : resolveSW cfg idx sw with
      | error e => simp only [hc, hy, hw] at h; cases h
      | ok ww =>
        simp only [hc, hy, hw] at h
        obtain ⟨hx, rfl⟩ := ite_ok_eq_ok_iff.mp h
        obtain ⟨h1, h2, h3⟩ := checkIdx_none hc
        exact ⟨⟨resolved_wf hy hw, h2, fun i hi => ⟨(xIndexOk_iff cfg idx).mp hx i hi, h3 i hi⟩,
          (resolveSW_ok hw).2, h1⟩, rfl, rfl, rfl⟩

theorem fitArgs_eq_ok {yy : List L} {ww : Option (List W)} (hc : checkIdx cfg idx = none) (hy : resolveY cfg idx y = .ok yy)
    (hw : resolveSW cfg idx sw = .ok ww) (hx : xIndexOk cfg idx = true) : fitArgs cfg idx y sw = .ok ⟨idx, yy, ww⟩ := by
  rw [fitArgs, hc, hy, hw]
  exact if_pos hx

/-- `partial_fit`'s closing `fit` trains on the very record it is given, provided the record has weights
whenever the constructor had (otherwise `sample_weight=None` would fetch the constructor's) -/
theorem fitArgs_self (cfg : Cfg L W) (d d' : Data L W) (hs : cfg.sw0.isSome = true → d.sw.isSome = true)
    (h : fitArgs cfg d.idx (some d.y) d.sw = .ok d') : d' = d := by
  obtain ⟨-, hi, hy, hw⟩ := fitArgs_ok h
  obtain ⟨i, y, sw⟩ := d
  obtain ⟨i', y', sw'⟩ := d'
  cases hi
  cases (ite_ok_eq_ok_iff.mp hy).2
  cases sw with
  | none =>
    cases h0 : cfg.sw0 with
    | none => unfold resolveSW at hw; rw [h0] at hw; cases hw; rfl
    | some w0 => cases hs (by rw [h0]; rfl)
  | some w => cases (ite_ok_eq_ok_iff.mp hw).2; rfl

/-- the native `partial_fit` on validated arguments: the chosen classifier is updated with the new batch -/
def nativeOutcome (cfg : Cfg L W) (pfitFn : C → Data L W → C) (s : St C L W)
    (idx : List Int) (ay : List L) (aw : Option (List W)) (ub : Bool) : Except Err (C × Data L W) :=
  if xIndexOk cfg idx then
    match (if ub then s.bclf else s.clf) with
    | none => .error .notFitted
    | some c => .ok (pfitFn c ⟨idx, ay, aw⟩, ⟨idx, ay, aw⟩)
  else .error .index

theorem partialNative_eq (cfg : Cfg L W) (pfitFn : C → Data L W → C) (s : St C L W)
    (idx : List Int) (ay : List L) (aw : Option (List W)) (ub sb : Bool) :
    partialNative cfg pfitFn s idx ay aw ub sb = commit true s sb (nativeOutcome cfg pfitFn s idx ay aw ub) := by
  unfold partialNative nativeOutcome
  cases xIndexOk cfg idx
  · rfl
  · cases (if ub then s.bclf else s.clf) with
    | none => rfl
    | some c => cases sb <;> rfl

theorem nativeOutcome_ok {c' : C} {d : Data L W}
    (h : nativeOutcome cfg pfitFn s idx ay aw ub = .ok (c', d)) :
    ∃ c, (if ub then s.bclf else s.clf) = some c ∧ c' = pfitFn c ⟨idx, ay, aw⟩ ∧ d = ⟨idx, ay, aw⟩ := by
  unfold nativeOutcome at h
  cases hx : xIndexOk cfg idx with
  | false => rw [hx] at h; cases h
  | true =>
    rw [hx] at h
    cases hc : (if ub then s.bclf else s.clf) with
    | none => rw [hc] at h; cases h
    | some c => rw [hc] at h; cases h; exact ⟨c, rfl, rfl, rfl⟩

/-- The record the emulated `partial_fit` refits on: the current or the base record merged with the new
batch, as far as it gets through the checks of the closing `fit`. Of the object only the stored records
are consulted. -/
def emuRecord (cfg : Cfg L W) (s : St C L W) (idx : List Int) (ay : List L) (aw : Option (List W)) (ub : Bool) :
    Except Err (Data L W) :=
  match s.cur with
  | none => .error .notFitted
  | some cur0 =>
    match (if ub then s.base else some cur0) with
    | none => .error .notFitted
    | some d =>
      match merge cfg.unique d idx ay aw with
      | .error e => .error e
      | .ok d' => fitArgs cfg d'.idx (some d'.y) d'.sw

theorem partialEmu_eq (cfg : Cfg L W) (fitFn : Data L W → C) (s : St C L W)
    (idx : List Int) (ay : List L) (aw : Option (List W)) (ub sb : Bool) :
    partialEmu cfg fitFn s idx ay aw ub sb = commit cfg.native s sb (refit fitFn (emuRecord cfg s idx ay aw ub)) := by
  obtain ⟨clf, cur, bclf, base⟩ := s
  unfold partialEmu emuRecord
  cases cur with
  | none => rfl
  | some cur0 =>
    simp only
    cases (if ub = true then base else some cur0) with
    | none => rfl
    | some d =>
      simp only
      cases merge cfg.unique d idx ay aw with
      | error e => rfl
      | ok d' =>
        simp only [fit_eq]
        -- `store` never reads `clf_`, so the swapped-in clone of the base classifier leaves no trace
        cases fitArgs cfg d'.idx (some d'.y) d'.sw <;> rfl

theorem emuRecord_ok {r : Data L W} (h : emuRecord cfg s idx ay aw ub = .ok r) :
    ∃ d d', (if ub then s.base else s.cur) = some d ∧ merge cfg.unique d idx ay aw = .ok d' ∧
      fitArgs cfg d'.idx (some d'.y) d'.sw = .ok r := by
  unfold emuRecord at h
  cases hcur : s.cur with
  | none => simp only [hcur] at h; cases h
  | some cur0 =>
    simp only [hcur] at h
    cases hstart : (if ub then s.base else some cur0) with
    | none => simp only [hstart] at h; cases h
    | some d =>
      cases hm : merge cfg.unique d idx ay aw with
      | error e => simp only [hstart, hm] at h; cases h
      | ok d' => simp only [hstart, hm] at h; exact ⟨d, d', rfl, hm, h⟩

theorem emuRecord_good {r : Data L W} (h : emuRecord cfg s idx ay aw ub = .ok r) : r.Good cfg := by
  obtain ⟨_, _, _, _, hf⟩ := emuRecord_ok h
  exact (fitArgs_ok hf).1

/-- what a `partial_fit` that got through the validation trains, on either path -/
def partialOutcome (cfg : Cfg L W) (fitFn : Data L W → C) (pfitFn : C → Data L W → C) (s : St C L W)
    (idx : List Int) (y : Option (List L)) (sw : Option (List W)) (ub : Bool) : Except Err (C × Data L W) :=
  match validatePartial cfg s idx y sw ub with
  | .error e => .error e
  | .ok p =>
    if cfg.native then nativeOutcome cfg pfitFn s idx p.1 p.2 ub else refit fitFn (emuRecord cfg s idx p.1 p.2 ub)

theorem partialFit_eq (cfg : Cfg L W) (fitFn : Data L W → C) (pfitFn : C → Data L W → C) (s : St C L W)
    (idx : List Int) (y : Option (List L)) (sw : Option (List W)) (ub sb : Bool) :
    partialFit cfg fitFn pfitFn s idx y sw ub sb =
      commit cfg.native s sb (partialOutcome cfg fitFn pfitFn s idx y sw ub) := by
  unfold partialFit partialOutcome
  cases validatePartial cfg s idx y sw ub with
  | error e => rfl
  | ok p =>
    simp only [partialNative_eq, partialEmu_eq]
    cases cfg.native <;> rfl

theorem partialOutcome_ok {r : C × Data L W}
    (h : partialOutcome cfg fitFn pfitFn s idx y sw ub = .ok r) :
    ∃ ay aw, validatePartial cfg s idx y sw ub = .ok (ay, aw) ∧
      (if cfg.native then nativeOutcome cfg pfitFn s idx ay aw ub else refit fitFn (emuRecord cfg s idx ay aw ub)) = .ok r := by
  unfold partialOutcome at h
  cases hv : validatePartial cfg s idx y sw ub with
  | error e => rw [hv] at h; cases h
  | ok p => rw [hv] at h; exact ⟨p.1, p.2, rfl, h⟩

theorem partialFit_ok
    (h : partialFit cfg fitFn pfitFn s idx y sw ub sb = (s', none)) :
    ∃ ay aw c d, validatePartial cfg s idx y sw ub = .ok (ay, aw) ∧
      (if cfg.native then nativeOutcome cfg pfitFn s idx ay aw ub else refit fitFn (emuRecord cfg s idx ay aw ub)) = .ok (c, d) ∧
      s' = s.store cfg.native c d sb := by
  rw [partialFit_eq] at h
  obtain ⟨c, d, hr, rfl⟩ := commit_ok h
  obtain ⟨ay, aw, hv, hr⟩ := partialOutcome_ok hr
  exact ⟨ay, aw, c, d, hv, hr, rfl⟩

theorem partialOutcome_cur_none (cfg : Cfg L W) (fitFn : Data L W → C) (pfitFn : C → Data L W → C) (s : St C L W)
    (idx : List Int) (y : Option (List L)) (sw : Option (List W)) (ub : Bool) (hn : cfg.native = false)
    (hc : s.cur = none) : ∃ e, partialOutcome cfg fitFn pfitFn s idx y sw ub = .error e := by
  unfold partialOutcome
  cases validatePartial cfg s idx y sw ub with
  | error e => exact ⟨e, rfl⟩
  | ok p => exact ⟨.notFitted, by simp only [hn, emuRecord, hc]; rfl⟩

/-- With `use_base_clf` what is trained depends on the base classifier, the base record, and whether a current record exists. -/
theorem partialOutcome_useBase_congr (cfg : Cfg L W) (fitFn : Data L W → C) (pfitFn : C → Data L W → C) (s t : St C L W)
    (idx : List Int) (y : Option (List L)) (sw : Option (List W)) (hb : s.base = t.base) (hc : s.bclf = t.bclf)
    (hcur : cfg.native = false → (s.cur = none ↔ t.cur = none)) :
    partialOutcome cfg fitFn pfitFn s idx y sw true = partialOutcome cfg fitFn pfitFn t idx y sw true := by
  unfold partialOutcome
  rw [validatePartial_congr cfg s t idx y sw true (congrArg Option.isNone hc)]
  cases validatePartial cfg t idx y sw true with
  | error e => rfl
  | ok p =>
    cases hn : cfg.native
    · simp only [emuRecord, hb, Bool.false_eq_true, if_false, if_true]
      cases hs : s.cur with
      | none => rw [(hcur hn).mp hs]
      | some cs =>
        cases ht : t.cur with
        | none => rw [(hcur hn).mpr ht] at hs; cases hs
        | some ct => rfl
    · simp only [nativeOutcome, hc, if_true]

theorem init_ok {pre : Option C} (h : init cfg pre sb = .ok s) :
    s = ⟨if cfg.speed then none else pre, none, if sb then pre else none, none⟩ := by
  cases pre with
  | some c => cases h; rfl
  | none => cases sb <;> cases h; cases cfg.speed <;> rfl

/-- All a call can do to the object: nothing, or store a classifier with a record; on the emulated path the record has
passed `fit`'s checks and the classifier is a fresh fit on it. Invariants need only be shown for `St.store`. -/
theorem step_cases (cfg : Cfg L W) (fitFn : Data L W → C) (pfitFn : C → Data L W → C) (s : St C L W) (op : Op L W) :
    (step cfg fitFn pfitFn s op).1 = s ∨
    ∃ c d sb, (step cfg fitFn pfitFn s op).1 = s.store cfg.native c d sb ∧
      (cfg.native = false → d.Good cfg ∧ c = fitFn d) := by
  cases op with
  | fit idx y sw sb =>
    rw [step, fit_eq]
    cases h : fitArgs cfg idx y sw with
    | error e => exact .inl rfl
    | ok d => exact .inr ⟨_, d, sb, rfl, fun _ => ⟨(fitArgs_ok h).1, rfl⟩⟩
  | pfit idx y sw ub sb =>
    rw [step, partialFit_eq]
    cases h : partialOutcome cfg fitFn pfitFn s idx y sw ub with
    | error e => exact .inl rfl
    | ok p =>
      refine .inr ⟨p.1, p.2, sb, rfl, fun hn => ?_⟩
      obtain ⟨ay, aw, -, hr⟩ := partialOutcome_ok h
      rw [hn] at hr
      obtain ⟨hd, hc⟩ := refit_ok hr
      exact ⟨emuRecord_good hd, hc⟩

end Calls
end Ska.IW
