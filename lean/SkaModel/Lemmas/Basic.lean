/-! Facts about `Except`, `List` and `Nat` that several parts of the development use: guard chains, `getD`, writing
slots of a buffer, freshness ⇒ `Nodup`, the row-major layout of flat matrices, positions of `true` in a mask.
Nothing here mentions the model, and nothing is tagged `simp`: importing this module changes no proof that
does not cite it. -/

namespace Ska

section Guards
variable {ε γ : Type} {c : Prop} [Decidable c]

/-- One step of a validation chain `if bad then raise e else rest` that returned normally: the test
failed and `rest` returned. Rewriting with it walks down a chain of guards without `split`, which
re-elaborates the whole remaining chain at every step. -/
theorem ite_error_eq_ok_iff {e : ε} {x : Except ε γ} {r : γ} :
    (if c then .error e else x) = .ok r ↔ ¬ c ∧ x = .ok r := by
  by_cases h : c <;> simp [h]

/-- Peeling one guard off a chain that returned normally; `repeat replace h := ite_error_ok h` passes all guards
however many there are. -/
theorem ite_error_ok {e : ε} {x : Except ε γ} {r : γ} (h : (if c then .error e else x) = .ok r) : x = .ok r :=
  (ite_error_eq_ok_iff.mp h).2

theorem ite_error_not {e : ε} {x : Except ε γ} {r : γ} (h : (if c then .error e else x) = .ok r) : ¬ c :=
  (ite_error_eq_ok_iff.mp h).1

theorem ite_ok_eq_ok_iff {e : ε} {a r : γ} :
    (if c then .ok a else (.error e : Except ε γ)) = .ok r ↔ c ∧ a = r := by
  by_cases h : c <;> simp [h]

/-- The same for the validators that return the error as an `Option`. -/
theorem ite_some_eq_none_iff {e : ε} {x : Option ε} :
    (if c then some e else x) = none ↔ ¬ c ∧ x = none := by
  by_cases h : c <;> simp [h]

end Guards

section Lists
variable {γ δ υ : Type}

theorem getD_eq_getElem (l : List γ) (d : γ) {i : Nat} (h : i < l.length) : l.getD i d = l[i] := by
  rw [List.getD_eq_getElem?_getD, List.getElem?_eq_getElem h, Option.getD_some]

theorem getD_of_getElem? {l : List γ} {i : Nat} {x : γ} (d : γ) (h : l[i]? = some x) : l.getD i d = x := by
  rw [List.getD_eq_getElem?_getD, h, Option.getD_some]

theorem getD_none_eq_some {l : List (Option γ)} {i : Nat} {v : γ} :
    l.getD i none = some v ↔ l[i]? = some (some v) := by
  rw [List.getD_eq_getElem?_getD, Option.getD_eq_iff]
  exact or_iff_left fun h => nomatch h.2

theorem exists_getElem? {l : List γ} {i : Nat} (h : i < l.length) : ∃ x, l[i]? = some x :=
  ⟨l[i], List.getElem?_eq_getElem h⟩

theorem forall_getD {P : γ → Prop} {l : List γ} (h : ∀ x ∈ l, P x) {d : γ} (hd : P d) (i : Nat) :
    P (l.getD i d) := by
  rw [List.getD_eq_getElem?_getD]
  cases hi : l[i]? with
  | none => exact hd
  | some v => exact h v (List.mem_of_getElem? hi)

theorem forall_mem_zipWith {f : γ → δ → υ} {P : γ → Prop} {Q : δ → Prop} {R : υ → Prop}
    (h : ∀ a b, P a → Q b → R (f a b)) {l₁ : List γ} {l₂ : List δ} (h₁ : ∀ a ∈ l₁, P a) (h₂ : ∀ b ∈ l₂, Q b) :
    ∀ z ∈ List.zipWith f l₁ l₂, R z := by
  intro z hz
  obtain ⟨i, hi, rfl⟩ := List.getElem_of_mem hz
  rw [List.getElem_zipWith]
  exact h _ _ (h₁ _ (List.getElem_mem _)) (h₂ _ (List.getElem_mem _))

/-- Writing slot `pre.length` of a buffer: the shape in which the translated loops (`out[k] = v`) meet `List.set`. -/
theorem set_append_length (pre : List γ) (x : γ) (xs : List γ) (v : γ) :
    (pre ++ x :: xs).set pre.length v = pre ++ v :: xs := by
  simp

theorem getD_append_length (pre : List γ) (x : γ) (xs : List γ) (d : γ) :
    (pre ++ x :: xs).getD pre.length d = x := by
  simp [List.getD]

theorem getElem?_map_range (f : Nat → γ) (N i : Nat) :
    ((List.range N).map f)[i]? = if i < N then some (f i) else none := by
  split
  · next h => rw [List.getElem?_map, List.getElem?_range h]; rfl
  · next h => exact List.getElem?_eq_none (by simpa using h)

theorem map_getD_range (l : List γ) (d : γ) : (List.range l.length).map (fun i => l.getD i d) = l := by
  apply List.ext_getElem?
  intro i
  rw [getElem?_map_range]
  split
  · next h => rw [getD_eq_getElem l d h, List.getElem?_eq_getElem h]
  · next h => exact (List.getElem?_eq_none (by simpa using h)).symm

theorem pairwise_snd_zipIdx (l : List γ) (k : Nat) : (l.zipIdx k).Pairwise (fun a b => a.2 < b.2) := by
  rw [← List.pairwise_map (f := Prod.snd) (R := (· < ·)), List.zipIdx_map_snd]
  exact List.pairwise_lt_range'

theorem foldl_set_length (f : Nat → γ) (L : List Nat) (r : List γ) :
    (L.foldl (fun r i => r.set i (f i)) r).length = r.length := by
  induction L generalizing r with
  | nil => rfl
  | cons x xs ih => rw [List.foldl_cons, ih, List.length_set]

/-- Writing `f i` at every `i ∈ L` (in any order, repetitions allowed) leaves `f j` at the written positions. -/
theorem getElem?_foldl_set (f : Nat → γ) (L : List Nat) (r : List γ) (j : Nat) :
    (L.foldl (fun r i => r.set i (f i)) r)[j]? = if j ∈ L ∧ j < r.length then some (f j) else r[j]? := by
  induction L generalizing r with
  | nil => simp
  | cons x xs ih =>
    rw [List.foldl_cons, ih, List.length_set, List.getElem?_set]
    by_cases hx : j ∈ xs ∧ j < r.length
    · simp [hx]
    · by_cases hjx : x = j
      · subst hjx; by_cases hl : x < r.length <;> simp [hl]
      · simp [hx, hjx, Ne.symm hjx]

theorem getElem?_set_none_eq_some {u : List (Option γ)} {i j : Nat} {v : γ}
    (h : (u.set i none)[j]? = some (some v)) : u[j]? = some (some v) ∧ j ≠ i := by
  rw [List.getElem?_set] at h
  split at h
  · split at h <;> cases h
  · next hij => exact ⟨h, fun e => hij e.symm⟩

/-- Overwriting a counted entry by an uncounted one lowers the count by one. -/
theorem countP_set_add_one (p : γ → Bool) (l : List γ) (i : Nat) (x : γ) (hi : i < l.length)
    (h : p l[i] = true) (hx : p x = false) : (l.set i x).countP p + 1 = l.countP p := by
  rw [List.countP_set hi, h, hx]
  exact Nat.sub_add_cancel (List.countP_pos_iff.mpr ⟨l[i], List.getElem_mem hi, h⟩)

theorem nodup_map_of_inj_on (f : γ → δ) (l : List γ)
    (hinj : ∀ x ∈ l, ∀ y ∈ l, f x = f y → x = y) (hnd : l.Nodup) : (l.map f).Nodup :=
  List.pairwise_map.mpr (hnd.imp_of_mem fun ha hb hne e => hne (hinj _ ha _ hb e))

/-- No pick occurs among the earlier ones ⇒ pairwise distinct: how the selection loops establish `Nodup`. -/
theorem nodup_of_fresh (q : List Nat) (h : ∀ k, ∀ hk : k < q.length, q[k] ∉ q.take k) : q.Nodup := by
  rw [List.Nodup, List.pairwise_iff_getElem]
  intro i j hi hj hij heq
  exact h j hj (heq ▸ List.mem_take_iff_getElem.mpr ⟨i, Nat.lt_min.mpr ⟨hij, hi⟩, rfl⟩)

theorem nodup_append_of_fresh (e q : List Nat) (he : e.Nodup)
    (h : ∀ k, ∀ hk : k < q.length, q[k] ∉ e ++ q.take k) : (e ++ q).Nodup := by
  refine List.nodup_append.mpr ⟨he, nodup_of_fresh q fun k hk hin => h k hk (List.mem_append_right _ hin), ?_⟩
  intro a ha b hb hab
  obtain ⟨k, hk, rfl⟩ := List.getElem_of_mem hb
  exact h k hk (List.mem_append_left _ (hab ▸ ha))

theorem mapM_map_pure {m : Type → Type} [Monad m] [LawfulMonad m] {σ τ υ : Type} (f : τ → m υ) (h : σ → τ)
    (g : σ → υ) (l : List σ) (H : ∀ x ∈ l, f (h x) = pure (g x)) : (l.map h).mapM f = pure (l.map g) := by
  induction l with
  | nil => rfl
  | cons x xs ih =>
    rw [List.forall_mem_cons] at H
    rw [List.map_cons, List.mapM_cons, H.1, ih H.2, pure_bind, pure_bind, List.map_cons]

end Lists

section Flat
variable {γ : Type}
/-! Row-major layout: entry `(s, k)` of `n` rows of length `m` sits at position `s * m + k` of the flat list. -/

theorem div_block {m s k : Nat} (hk : k < m) : (s * m + k) / m = s := by
  rw [Nat.mul_comm, Nat.mul_add_div (Nat.zero_lt_of_lt hk), Nat.div_eq_of_lt hk, Nat.add_zero]

theorem flat_lt {m n i k : Nat} (hi : i < n) (hk : k < m) : i * m + k < n * m :=
  Nat.lt_of_lt_of_le (Nat.add_lt_add_left hk _) (Nat.succ_mul i m ▸ Nat.mul_le_mul_right m hi)

theorem flatten_length (A : List (List γ)) (m : Nat) (hrect : ∀ r ∈ A, r.length = m) :
    A.flatten.length = A.length * m := by
  rw [List.length_flatten, List.map_congr_left hrect, List.map_const', List.sum_replicate_nat]

theorem getElem?_flatten_mul_add (rows : List (List γ)) (c : Nat) (h : ∀ r ∈ rows, r.length = c)
    (s k : Nat) (hk : k < c) : rows.flatten[s * c + k]? = (rows[s]?).bind (fun r => r[k]?) := by
  induction rows generalizing s with
  | nil => rfl
  | cons r rs ih =>
    obtain ⟨hr, hrs⟩ := List.forall_mem_cons.1 h
    cases s with
    | zero => rw [List.flatten_cons, Nat.zero_mul, Nat.zero_add, List.getElem?_append_left (hr ▸ hk)]; rfl
    | succ s =>
      rw [List.flatten_cons, Nat.succ_mul, Nat.add_right_comm,
        List.getElem?_append_right (hr ▸ Nat.le_add_left _ _), hr, Nat.add_sub_cancel, ih hrs s]
      rfl

theorem getElem?_flatten (rows : List (List γ)) (c : Nat) (hc : 0 < c)
    (h : ∀ r ∈ rows, r.length = c) (i : Nat) :
    rows.flatten[i]? = (rows[i / c]?).bind (fun r => r[i % c]?) := by
  rw [← getElem?_flatten_mul_add rows c h (i / c) (i % c) (Nat.mod_lt i hc), Nat.div_add_mod']

theorem getElem?_block (M : List γ) (m s k : Nat) :
    ((M.drop (s * m)).take m)[k]? = if k < m then M[s * m + k]? else none := by
  rw [List.getElem?_take]
  split
  · rw [List.getElem?_drop]
  · rfl

end Flat

section Masks

/-- The positions of `true` in a mask, counted from `k` (`np.where(mask)[0] + k`). The model enumerates masks by three
recursive definitions of this shape (`Budget.idxOf`, `Label.whereFrom`, `unlabeledFrom`); each is shown equal to
`truePos` once, and membership, order and length come from here. -/
def truePos (k : Nat) (m : List Bool) : List Nat := ((m.zipIdx k).filter (·.1)).map (·.2)

theorem truePos_cons (k : Nat) (b : Bool) (m : List Bool) :
    truePos k (b :: m) = if b then k :: truePos (k + 1) m else truePos (k + 1) m := by
  cases b <;> rfl

theorem mem_truePos {k : Nat} {m : List Bool} {j : Nat} : j ∈ truePos k m ↔ k ≤ j ∧ m[j - k]? = some true := by
  simp only [truePos, List.mem_map, List.mem_filter, Prod.exists, exists_eq_right,
    List.mk_mem_zipIdx_iff_le_and_getElem?_sub]

theorem mem_truePos_zero {m : List Bool} {j : Nat} : j ∈ truePos 0 m ↔ m[j]? = some true := by
  rw [mem_truePos, Nat.sub_zero, and_iff_right (Nat.zero_le j)]

theorem truePos_pairwise (k : Nat) (m : List Bool) : (truePos k m).Pairwise (· < ·) :=
  List.pairwise_map.mpr ((pairwise_snd_zipIdx m k).filter _)

theorem truePos_length (k : Nat) (m : List Bool) : (truePos k m).length = m.count true := by
  induction m generalizing k with
  | nil => rfl
  | cons b m ih => cases b <;> simp [truePos_cons, ih]

end Masks

end Ska
