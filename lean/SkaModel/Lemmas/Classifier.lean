import Mathlib.Algebra.Order.Field.Basic
import Mathlib.Algebra.BigOperators.Group.List.Basic
import Mathlib.Algebra.Field.Rat
import Mathlib.Data.List.Nodup
import SkaModel.Core.Classifier
import SkaModel.Lemmas.Selection
import SkaModel.Lemmas.Basic

/-! The classifier model (`Core/Classifier.lean`). `sumL` is `List.sum` (`sumL_eq_sum`), so sum facts come from the
library; pointwise facts go through `forall_mem_zipWith` / `forall_getD` (`Lemmas/Basic.lean`); the fixed definitions
get equations used by `rw` (`rowMul_getD`, `predictIdx_eq`, `costAt_eq`, `normalizeRow_of_sum_pos`, …); the fitted branch of
`SklearnClassifier.predict_proba` is one row function `remapCols` written into `k` zero columns. -/

namespace Ska.Classifier

section Sum
variable {α : Type} [AddMonoid α]

theorem sumFrom_eq (acc : α) (l : List α) : sumFrom acc l = acc + l.sum := by
  induction l generalizing acc with
  | nil => exact (add_zero acc).symm
  | cons x xs ih => rw [sumFrom, ih, List.sum_cons, add_assoc]

/-- numpy's left-to-right loop is the library sum, so every fact about `List.sum` is one about `sumL`. -/
theorem sumL_eq_sum (l : List α) : sumL l = l.sum := by
  rw [sumL, sumFrom_eq, zero_add]

theorem sumL_cons (x : α) (xs : List α) : sumL (x :: xs) = x + sumL xs := by
  rw [sumL_eq_sum, sumL_eq_sum, List.sum_cons]

end Sum

section SumOrd
set_option linter.unusedSectionVars false
variable {α : Type} [Field α] [LinearOrder α] [IsStrictOrderedRing α]

theorem sumL_nil : sumL ([] : List α) = 0 := rfl

theorem natTo_eq (n : Nat) : (natTo n : α) = (n : α) := by
  induction n with
  | zero => simp [natTo]
  | succ n ih => simp [natTo, ih]

theorem sumL_nonneg (l : List α) (h : ∀ x ∈ l, 0 ≤ x) : 0 ≤ sumL l :=
  sumL_eq_sum l ▸ List.sum_induction (0 ≤ ·) (fun _ _ => add_nonneg) le_rfl h

theorem sumL_map_divBy (l : List α) (s : α) : sumL (l.map (divBy s)) = sumL l / s := by
  induction l with
  | nil => exact (zero_div s).symm
  | cons x xs ih => simp only [List.map_cons, sumL_cons, ih, divBy, add_div]

theorem sumL_replicate (n : Nat) (c : α) : sumL (List.replicate n c) = (n : α) * c := by
  rw [sumL_eq_sum, List.sum_replicate, nsmul_eq_mul]

theorem sumL_eq_zero_of_all_zero (l : List α) (h : ∀ x ∈ l, x = 0) : sumL l = 0 :=
  sumL_eq_sum l ▸ List.sum_eq_zero h

theorem all_zero_of_sumL_eq_zero (l : List α) (h : ∀ x ∈ l, 0 ≤ x) (hs : sumL l = 0) : ∀ x ∈ l, x = 0 := by
  induction l with
  | nil => exact fun _ hx => nomatch hx
  | cons x xs ih =>
    rw [List.forall_mem_cons] at h ⊢
    rw [sumL_cons, add_eq_zero_iff_of_nonneg h.1 (sumL_nonneg xs h.2)] at hs
    exact ⟨hs.1, ih h.2 hs.2⟩

theorem sumL_set (l : List α) (i : Nat) (v : α) (hi : i < l.length) :
    sumL (l.set i v) = sumL l - l.getD i 0 + v := by
  rw [sumL_eq_sum, sumL_eq_sum, List.sum_set', dif_pos hi, getD_eq_getElem l 0 hi, sub_eq_add_neg, add_assoc]

end SumOrd

section AddRow
set_option linter.unusedSectionVars false
variable {α : Type} [Field α] [LinearOrder α] [IsStrictOrderedRing α]

theorem addRow_length (r p : List α) : (addRow r p).length = min r.length p.length :=
  List.length_zipWith

theorem addRow_nonneg (r p : List α) (hr : ∀ x ∈ r, 0 ≤ x) (hp : ∀ x ∈ p, 0 ≤ x) :
    ∀ x ∈ addRow r p, 0 ≤ x :=
  forall_mem_zipWith (fun _ _ => add_nonneg) hr hp

theorem addRow_eq_zero (r p : List α) (hr : ∀ x ∈ r, x = 0) (hp : ∀ x ∈ p, x = 0) : ∀ x ∈ addRow r p, x = 0 :=
  forall_mem_zipWith (fun a b ha hb => by rw [ha, hb, add_zero]) hr hp

theorem sumL_addRow (a b : List α) (h : a.length = b.length) : sumL (addRow a b) = sumL a + sumL b := by
  rw [sumL_eq_sum, sumL_eq_sum, sumL_eq_sum]
  exact (List.sum_add_sum_eq_sum_zipWith_of_length_eq a b h).symm

end AddRow

section Simplex
set_option linter.unusedSectionVars false
variable {α : Type} [Field α] [LinearOrder α] [IsStrictOrderedRing α]

/-- a probability row over `k` classes. -/
def IsSimplex (k : Nat) (row : List α) : Prop := row.length = k ∧ (∀ x ∈ row, 0 ≤ x) ∧ sumL row = 1

theorem uniformRow_spec (k : Nat) :
    (uniformRow (α := α) k).length = k ∧ ∀ x ∈ uniformRow (α := α) k, x = 1 / (k : α) :=
  ⟨List.length_replicate, fun _ hx => natTo_eq (α := α) k ▸ List.eq_of_mem_replicate hx⟩

theorem uniformRow_simplex (k : Nat) (hk : 0 < k) : IsSimplex k (uniformRow (α := α) k) := by
  refine ⟨(uniformRow_spec k).1, fun x hx => ?_, ?_⟩
  · rw [(uniformRow_spec k).2 x hx]; exact one_div_nonneg.mpr (Nat.cast_nonneg k)
  · rw [uniformRow, sumL_replicate, natTo_eq, mul_one_div_cancel (Nat.cast_ne_zero.mpr hk.ne')]

/-- `softmax` rows (given their positive exponentials) and the soft-voting normalisation are
probability rows. -/
theorem divRow_simplex (row : List α) (h : ∀ x ∈ row, 0 ≤ x) (hs : 0 < sumL row) :
    IsSimplex row.length (divRow row) := by
  refine ⟨List.length_map _, fun x hx => ?_, by rw [divRow, sumL_map_divBy, div_self hs.ne']⟩
  obtain ⟨y, hy, rfl⟩ := List.mem_map.mp hx
  exact div_nonneg (h y hy) hs.le

theorem divRow_replicate (k : Nat) (c : α) (hc : c ≠ 0) : divRow (List.replicate k c) = uniformRow k := by
  rw [divRow, uniformRow, List.map_replicate, sumL_replicate, natTo_eq, divBy, div_mul_cancel_right₀ hc, one_div]

theorem normalizeRow_of_sum_pos (k : Nat) (row : List α) (hs : 0 < sumL row) : normalizeRow k row = divRow row := by
  simp only [normalizeRow, divRow, hs, lt_asymm hs, if_true, if_false]

theorem normalizeRow_of_sum_eq_zero (k : Nat) (row : List α) (hs : sumL row = 0) :
    normalizeRow k row = uniformRow k := by
  simp only [normalizeRow, hs, lt_irrefl, if_false]

theorem normalizeRow_simplex (k : Nat) (hk : 0 < k) (row : List α) (hl : row.length = k)
    (h : ∀ x ∈ row, 0 ≤ x) : IsSimplex k (normalizeRow k row) := by
  rcases (sumL_nonneg row h).lt_or_eq with hs | hs
  · rw [normalizeRow_of_sum_pos k row hs]; exact hl ▸ divRow_simplex row h hs
  · rw [normalizeRow_of_sum_eq_zero k row hs.symm]; exact uniformRow_simplex k hk

end Simplex

section Mat
set_option linter.unusedSectionVars false
variable {α : Type} [Field α] [LinearOrder α] [IsStrictOrderedRing α]

theorem rowMul_length (k : Nat) (a : List α) (B : List (List α)) : (rowMul k a B).length = k := by
  rw [rowMul, List.length_map, List.length_range]

theorem rowMul_getD (k : Nat) (a : List α) (B : List (List α)) (c : Nat) (hc : c < k) :
    (rowMul k a B).getD c 0 = sumL (List.zipWith (fun x row => x * row.getD c 0) a B) :=
  getD_of_getElem? 0 ((getElem?_map_range _ k c).trans (if_pos hc))

theorem rowMul_nonneg (k : Nat) (a : List α) (B : List (List α)) (ha : ∀ x ∈ a, 0 ≤ x)
    (hB : ∀ row ∈ B, ∀ x ∈ row, 0 ≤ x) : ∀ z ∈ rowMul k a B, 0 ≤ z := by
  intro z hz
  obtain ⟨c, -, rfl⟩ := List.mem_map.mp hz
  exact sumL_nonneg _ (forall_mem_zipWith (fun x row hx hrow => mul_nonneg hx (forall_getD hrow le_rfl c)) ha hB)

theorem rowMul_eq_zero (k : Nat) (a : List α) (B : List (List α))
    (hB : ∀ row ∈ B, ∀ x ∈ row, x = 0) : ∀ z ∈ rowMul k a B, z = 0 := by
  intro z hz
  obtain ⟨c, -, rfl⟩ := List.mem_map.mp hz
  exact sumL_eq_zero_of_all_zero _ (forall_mem_zipWith (P := fun _ => True)
    (fun x row _ hrow => by rw [forall_getD hrow rfl c, mul_zero]) (fun _ _ => trivial) hB)

theorem matMul_nonneg (k : Nat) (A B : List (List α)) (hA : ∀ r ∈ A, ∀ x ∈ r, 0 ≤ x)
    (hB : ∀ r ∈ B, ∀ x ∈ r, 0 ≤ x) : ∀ r ∈ matMul k A B, r.length = k ∧ ∀ x ∈ r, 0 ≤ x := by
  intro r hr
  obtain ⟨a, ha, rfl⟩ := List.mem_map.mp hr
  exact ⟨rowMul_length k a B, rowMul_nonneg k a B (hA a ha) hB⟩

theorem zeroOne_getD (k i c : Nat) (hi : i < k) (hc : c < k) :
    ((zeroOne (α := α) k).getD i []).getD c 0 = if i = c then 0 else 1 := by
  simp [zeroOne, hi, hc]

/-- entry `c` of `a @ (1 - eye(k))`: `Σ_i a_i·[i ≠ c] = Σ a − a_c`. -/
theorem rowMul_zeroOne (k : Nat) (a : List α) (ha : a.length = k) (c : Nat) (hc : c < k) :
    (rowMul k a (zeroOne k)).getD c 0 = sumL a - a.getD c 0 := by
  -- the products with column `c` of `1 - eye(k)` are `a` with entry `c` zeroed
  have hl : (zeroOne (α := α) k).length = k := by rw [zeroOne, List.length_map, List.length_range]
  have hz : List.zipWith (fun x row => x * row.getD c 0) a (zeroOne k) = a.set c 0 := by
    apply List.ext_getElem (by rw [List.length_zipWith, List.length_set, hl, ha, Nat.min_self])
    intro i h1 h2
    have hi : i < k := ha ▸ List.length_set ▸ h2
    rw [List.getElem_zipWith, List.getElem_set, ← getD_eq_getElem (zeroOne k) [] (hl.symm ▸ hi),
      zeroOne_getD k i c hi hc, mul_ite, mul_zero, mul_one]
    simp only [eq_comm]
  rw [rowMul_getD k a _ c hc, hz, sumL_set a c 0 (ha ▸ hc), add_zero]

end Mat

section Scatter
variable {δ ε : Type}

theorem scatterCols_length (row : List δ) (ci : List Nat) (vals : List δ) :
    (scatterCols row ci vals).length = row.length := by
  fun_induction scatterCols row ci vals with
  | case1 row i is v vs ih => rw [ih, List.length_set]
  | case2 => rfl

theorem scatterCols_map (f : δ → ε) (row : List δ) (ci : List Nat) (vals : List δ) :
    scatterCols (row.map f) ci (vals.map f) = (scatterCols row ci vals).map f := by
  fun_induction scatterCols row ci vals with
  | case1 row i is v vs ih => rw [← ih, List.map_set, List.map_cons, scatterCols]
  | case2 vals row ci h =>
    refine scatterCols.eq_2 _ _ _ fun i is v vs h1 h2 => ?_
    obtain ⟨a, l, rfl, -, -⟩ := List.map_eq_cons_iff.mp h2
    exact h _ _ _ _ h1 rfl

theorem getElem?_scatterCols_of_not_mem (row : List δ) (ci : List Nat) (vals : List δ) (c : Nat) (hc : c ∉ ci) :
    (scatterCols row ci vals)[c]? = row[c]? := by
  fun_induction scatterCols row ci vals with
  | case1 row i is v vs ih =>
    rw [List.mem_cons, not_or] at hc
    rw [ih hc.2, List.getElem?_set_ne (Ne.symm hc.1)]
  | case2 => rfl

theorem getElem?_scatterCols_of_mem (row : List δ) (ci : List Nat) (vals : List δ) (hnd : ci.Nodup)
    (hlen : vals.length = ci.length) (hlt : ∀ i ∈ ci, i < row.length) (j : Nat) (hj : j < ci.length) :
    (scatterCols row ci vals)[ci[j]]? = vals[j]? := by
  induction ci generalizing row vals j with
  | nil => exact absurd hj (Nat.not_lt_zero _)
  | cons i is ih =>
    obtain _ | ⟨v, vs⟩ := vals
    · cases hlen
    rw [List.nodup_cons] at hnd
    rw [List.forall_mem_cons] at hlt
    rw [scatterCols]
    cases j with
    | zero =>
      rw [List.getElem_cons_zero, List.getElem?_cons_zero, getElem?_scatterCols_of_not_mem _ _ _ _ hnd.1,
        List.getElem?_set_self hlt.1]
    | succ j =>
      rw [List.getElem_cons_succ, List.getElem?_cons_succ]
      exact ih _ vs hnd.2 (Nat.succ.inj hlen) (by rw [List.length_set]; exact hlt.2) j (Nat.lt_of_succ_lt_succ hj)

theorem mem_scatterCols (row : List δ) (ci : List Nat) (vals : List δ) :
    ∀ x ∈ scatterCols row ci vals, x ∈ row ∨ x ∈ vals := by
  fun_induction scatterCols row ci vals with
  | case1 row i is v vs ih =>
    intro x hx
    rcases ih x hx with h | h
    · exact (List.mem_or_eq_of_mem_set h).imp_right fun (e : x = v) => e ▸ List.mem_cons_self
    · exact .inr (List.mem_cons_of_mem _ h)
  | case2 => exact fun x hx => .inl hx

variable {α : Type} [Field α] [LinearOrder α] [IsStrictOrderedRing α]

theorem sumL_scatterCols (row : List α) (ci : List Nat) (vals : List α) (hnd : ci.Nodup)
    (hlen : vals.length = ci.length) (hlt : ∀ i ∈ ci, i < row.length)
    (hz : ∀ i ∈ ci, row.getD i 0 = 0) :
    sumL (scatterCols row ci vals) = sumL row + sumL vals := by
  induction ci generalizing row vals with
  | nil =>
    obtain rfl := List.length_eq_zero_iff.mp hlen
    exact (add_zero _).symm
  | cons i is ih =>
    obtain _ | ⟨v, vs⟩ := vals
    · cases hlen
    rw [List.nodup_cons] at hnd
    rw [List.forall_mem_cons] at hlt hz
    rw [scatterCols, ih _ vs hnd.2 (Nat.succ.inj hlen) (by rw [List.length_set]; exact hlt.2) fun x hx => ?_]
    · rw [sumL_set row i v hlt.1, hz.1, sub_zero, sumL_cons, add_assoc]
    · rw [List.getD_eq_getElem?_getD, List.getElem?_set_ne (fun e : i = x => hnd.1 (e ▸ hx)),
        ← List.getD_eq_getElem?_getD]
      exact hz.2 x hx

end Scatter

section Search
variable {γ : Type} [LinearOrder γ]

theorem searchsorted_lt_length (cls : List γ) (x : γ) (hx : x ∈ cls) : searchsorted cls x < cls.length :=
  List.length_filter_lt_length_iff_exists.mpr ⟨x, hx, fun h => lt_irrefl x (of_decide_eq_true h)⟩

/-- `searchsorted` is strictly monotone on the members of `cls` (sorted or not): `x` itself is counted for `y`
but not for `x`. -/
theorem searchsorted_lt_of_lt (cls : List γ) (x y : γ) (hx : x ∈ cls) (hxy : x < y) :
    searchsorted cls x < searchsorted cls y := by
  have hsub : (cls.filter (isLtB x)).Sublist (cls.filter (isLtB y)) :=
    List.monotone_filter_right cls fun c hc => decide_eq_true (lt_trans (of_decide_eq_true hc) hxy)
  refine lt_of_le_of_ne hsub.length_le fun h => ?_
  have hmem : x ∈ cls.filter (isLtB x) := hsub.eq_of_length h ▸ List.mem_filter.mpr ⟨hx, decide_eq_true hxy⟩
  exact lt_irrefl x (of_decide_eq_true (List.mem_filter.mp hmem).2)

theorem searchsorted_inj (cls : List γ) (x y : γ) (hx : x ∈ cls) (hy : y ∈ cls)
    (h : searchsorted cls x = searchsorted cls y) : x = y := by
  rcases lt_trichotomy x y with h1 | h1 | h1
  · exact absurd h (ne_of_lt (searchsorted_lt_of_lt cls x y hx h1))
  · exact h1
  · exact absurd h.symm (ne_of_lt (searchsorted_lt_of_lt cls y x hy h1))

/-- in a strictly increasing list the entries `< x` are exactly those in front of `x`, so their number is the
position of `x`. -/
theorem getElem?_searchsorted (cls : List γ) (hs : cls.Pairwise (· < ·)) (x : γ) (hx : x ∈ cls) :
    cls[searchsorted cls x]? = some x := by
  induction cls with
  | nil => exact nomatch hx
  | cons c cs ih =>
    rw [List.pairwise_cons] at hs
    rcases List.mem_cons.mp hx with rfl | hx'
    · have : searchsorted (x :: cs) x = 0 :=
        List.length_eq_zero_iff.mpr (List.filter_eq_nil_iff.mpr fun c hc => by
          rcases List.mem_cons.mp hc with rfl | h
          · simp [isLtB]
          · simp [isLtB, (hs.1 c h).le])
      rw [this]; rfl
    · have : searchsorted (c :: cs) x = searchsorted cs x + 1 := by
        simp [searchsorted, isLtB, hs.1 x hx']
      rw [this, List.getElem?_cons_succ]
      exact ih hs.2 hx'

theorem argsortL_rank (cls : List γ) (hnd : cls.Nodup) (i : Nat) (hi : i < cls.length) :
    (argsortL cls).getD (searchsorted cls cls[i]) 0 = i := by
  rw [argsortL, List.getD_eq_getElem?_getD, List.getElem?_map,
    List.getElem?_range (searchsorted_lt_length cls cls[i] (List.getElem_mem hi)), Option.map_some, Option.getD_some,
    List.findIdx_eq hi]
  refine ⟨beq_self_eq_true _, fun j hji => Bool.eq_false_iff.mpr fun h => ?_⟩
  have e := searchsorted_inj cls _ _ (List.getElem_mem (hji.trans hi)) (List.getElem_mem hi) (beq_iff_eq.mp h)
  exact hji.ne ((List.Nodup.getElem_inj_iff hnd).mp e)

theorem permuteCost_getD {α : Type} [OfNat α 0] (cls : List γ) (C : List (List α)) (a b : Nat)
    (ha : a < cls.length) (hb : b < cls.length) :
    ((permuteCost cls C).getD a []).getD b 0 =
      (C.getD ((argsortL cls).getD a 0) []).getD ((argsortL cls).getD b 0) 0 := by
  have hl : (argsortL cls).length = cls.length := by rw [argsortL, List.length_map, List.length_range]
  obtain ⟨x, hx⟩ := exists_getElem? (hl.symm ▸ ha)
  obtain ⟨y, hy⟩ := exists_getElem? (hl.symm ▸ hb)
  simp only [permuteCost, List.getD_eq_getElem?_getD, List.getElem?_map, hx, hy, Option.map_some, Option.getD_some]

theorem classIndices_eq_map (cls est : List γ) (hsub : ∀ c ∈ est, c ∈ cls) :
    classIndices cls est = est.map (searchsorted cls) := by
  rw [classIndices, List.filter_eq_self.mpr fun c hc => List.contains_iff_mem.mpr (hsub c hc)]

theorem classIndices_nodup (cls est : List γ) (hsub : ∀ c ∈ est, c ∈ cls) (hnd : est.Nodup) :
    (classIndices cls est).Nodup :=
  classIndices_eq_map cls est hsub ▸ hnd.map_on fun x hx y hy => searchsorted_inj cls x y (hsub x hx) (hsub y hy)

theorem classIndices_lt (cls est : List γ) (hsub : ∀ c ∈ est, c ∈ cls) : ∀ i ∈ classIndices cls est, i < cls.length := by
  intro i hi
  obtain ⟨c, hc, rfl⟩ := List.mem_map.mp (classIndices_eq_map cls est hsub ▸ hi)
  exact searchsorted_lt_length cls c (hsub c hc)

end Search

section Sklearn
set_option linter.unusedSectionVars false
variable {α : Type} [Field α] [LinearOrder α] [IsStrictOrderedRing α]

theorem allNumbers_map_some (Q : List (List α)) : allNumbers (Q.map (fun r => r.map some)) = some Q := by
  have hrow (q : List α) : (q.map some).mapM id = some q := by
    rw [mapM_map_pure id some id q fun _ _ => rfl, List.map_id]; rfl
  rw [allNumbers, mapM_map_pure _ _ id Q fun q _ => hrow q, List.map_id]; rfl

theorem labelCountProba_eq_replicate (k n : Nat) (counts : List α) (h : 0 ≤ sumL counts) :
    labelCountProba k n counts = List.replicate n (normalizeRow k counts) := by
  rcases h.lt_or_eq with hs | hs
  · rw [normalizeRow_of_sum_pos k counts hs]
    simp only [labelCountProba, divRow, hs, decide_true, Bool.true_or, if_true]
  · rw [normalizeRow_of_sum_eq_zero k counts hs.symm]
    simp only [labelCountProba, ← hs, lt_irrefl, decide_false, Bool.or_false, Bool.false_eq_true, if_false]

/-- the estimator's row `p` as `P_ext[:, class_indices] = 1 if len(class_indices) == 1 else P` writes it into
the `k` zero columns. -/
def remapCols (k : Nat) (ci : List Nat) (p : List α) : List α :=
  scatterCols (List.replicate k (0 : α)) ci (if ci.length = 1 then [1] else p)

theorem remapRow_map_some (k : Nat) (ci : List Nat) (p : List α) (hp : p.length = ci.length) :
    remapRow k ci (p.map some) = .ok ((remapCols k ci p).map some) := by
  rw [remapRow, remapCols, ← scatterCols_map, List.map_replicate, List.length_map, if_pos hp]
  split <;> rfl

theorem remapCols_simplex (k : Nat) (ci : List Nat) (p : List α) (hnd : ci.Nodup) (hlt : ∀ i ∈ ci, i < k)
    (hp : IsSimplex ci.length p) : IsSimplex k (remapCols k ci p) := by
  obtain ⟨hlen, hnn, hsum⟩ : IsSimplex ci.length (if ci.length = 1 then [1] else p) := by
    by_cases h1 : ci.length = 1
    · rw [if_pos h1, h1]
      exact ⟨rfl, fun x hx => List.eq_of_mem_singleton hx ▸ zero_le_one, by rw [sumL_cons, sumL_nil, add_zero]⟩
    · rw [if_neg h1]; exact hp
  refine ⟨by rw [remapCols, scatterCols_length, List.length_replicate], fun x hx => ?_, ?_⟩
  · rcases mem_scatterCols _ _ _ x hx with h | h
    · exact (List.eq_of_mem_replicate h).ge
    · exact hnn x h
  · rw [remapCols, sumL_scatterCols _ ci _ hnd hlen (by rwa [List.length_replicate]) fun i hi => ?_, hsum,
      sumL_replicate, mul_zero, zero_add]
    rw [getD_eq_getElem _ _ (by rw [List.length_replicate]; exact hlt i hi), List.getElem_replicate]

theorem sklearnPredictProba_fitted (k n : Nat) (Pe : List (List α)) (ci : List Nat) (counts : List α)
    (hP : ∀ p ∈ Pe, p.length = ci.length) :
    sklearnPredictProba k n true (Pe.map (fun r => r.map some)) ci counts =
      .ok (if ci.length = k then Pe else Pe.map (remapCols k ci)) := by
  -- `width` is read off the first row; the empty matrix has width `k` and both branches return `[]`
  cases Pe with
  | nil => simp [sklearnPredictProba, allNumbers]
  | cons p0 ps =>
    simp only [sklearnPredictProba, if_true, List.map_cons, List.length_map, hP p0 List.mem_cons_self]
    rw [← List.map_cons, ← List.map_cons (f := remapCols k ci)]
    by_cases hk : ci.length = k
    · simp only [hk, ne_eq, not_true_eq_false, if_false, if_true, allNumbers_map_some]
    · have hmap : ((p0 :: ps).map fun r => r.map some).mapM (remapRow k ci) =
          .ok (((p0 :: ps).map (remapCols k ci)).map fun r => r.map some) := by
        rw [List.map_map]
        exact mapM_map_pure _ _ _ _ fun p hp => remapRow_map_some k ci p (hP p hp)
      simp only [hk, ne_eq, not_false_eq_true, if_true, if_false, hmap, allNumbers_map_some]

end Sklearn

section Ensemble
set_option linter.unusedSectionVars false
variable {α : Type} [Field α] [LinearOrder α] [IsStrictOrderedRing α]

theorem addRowsFrom_spec (k : Nat) (acc : List α) (rows : List (List α)) (h : ∀ r ∈ rows, IsSimplex k r)
    (hl : acc.length = k) (hnn : ∀ x ∈ acc, 0 ≤ x) :
    (addRowsFrom acc rows).length = k ∧ (∀ x ∈ addRowsFrom acc rows, 0 ≤ x) ∧
      sumL (addRowsFrom acc rows) = sumL acc + (rows.length : α) := by
  induction rows generalizing acc with
  | nil => exact ⟨hl, hnn, by rw [addRowsFrom, List.length_nil, Nat.cast_zero, add_zero]⟩
  | cons r rs ih =>
    rw [List.forall_mem_cons] at h
    obtain ⟨rl, rnn, rs1⟩ := h.1
    obtain ⟨i1, i2, i3⟩ := ih (addRow acc r) h.2 (by rw [addRow_length, hl, rl, Nat.min_self])
      (addRow_nonneg _ _ hnn rnn)
    refine ⟨i1, i2, ?_⟩
    rw [addRowsFrom, i3, sumL_addRow acc r (hl.trans rl.symm), rs1, List.length_cons, Nat.cast_succ, add_assoc,
      add_comm 1]

theorem addRows_spec (k : Nat) (rows : List (List α)) (h : ∀ r ∈ rows, IsSimplex k r) :
    (addRows k rows).length = k ∧ (∀ x ∈ addRows k rows, 0 ≤ x) ∧ sumL (addRows k rows) = (rows.length : α) := by
  have := addRowsFrom_spec k (List.replicate k (0 : α)) rows h List.length_replicate
    fun x hx => (List.eq_of_mem_replicate hx).ge
  rwa [sumL_replicate, mul_zero, zero_add] at this

theorem voteCounts_length (k : Nat) (p : List Nat) : (voteCounts (α := α) k p).length = k := by
  rw [voteCounts, List.length_map, List.length_range]

theorem voteCounts_nonneg (k : Nat) (p : List Nat) : ∀ x ∈ voteCounts (α := α) k p, 0 ≤ x := fun x hx => by
  obtain ⟨c, -, rfl⟩ := List.mem_map.mp hx
  exact natTo_eq (α := α) _ ▸ Nat.cast_nonneg _

theorem sumL_voteCounts (k : Nat) (p : List Nat) (hlt : ∀ c ∈ p, c < k) :
    sumL (voteCounts (α := α) k p) = (p.length : α) := by
  simp only [voteCounts, natTo_eq, ← List.count_eq_length_filter, sumL_eq_sum]
  induction p with
  | nil => simp
  | cons a as ih =>
    rw [List.forall_mem_cons] at hlt
    -- each vote is counted in exactly one of the `k` columns
    have h1 : ((List.range k).map fun c => if a = c then (1 : α) else 0).sum = 1 := by
      rw [List.sum_map_eq_nsmul_single a _ fun c hc _ => if_neg (Ne.symm hc),
        List.count_eq_one_of_mem List.nodup_range (List.mem_range.mpr hlt.1), if_pos rfl, one_nsmul]
    simp only [List.count_cons, beq_iff_eq, Nat.cast_add, Nat.cast_ite, Nat.cast_one, Nat.cast_zero, List.sum_map_add,
      ih hlt.2, h1, List.length_cons]

end Ensemble

section Decision
set_option linter.unusedSectionVars false
variable {α : Type} [Field α] [LinearOrder α] [IsStrictOrderedRing α] {β : Type} [LinearOrder β] [Zero β]

/-- expected cost of predicting class index `j` for query row `i`: `(P @ cost_matrix_)[i, j]`. -/
def costAt (k : Nat) (P C : List (List α)) (i j : Nat) : α := ((expectedCosts k P C).getD i []).getD j 0

theorem costAt_eq (k : Nat) (P C : List (List α)) (i j : Nat) (hi : i < P.length) :
    costAt k P C i j = (rowMul k P[i] C).getD j 0 := by
  simp only [costAt, expectedCosts, matMul, List.getD_eq_getElem?_getD, List.getElem?_map, List.getElem?_eq_getElem hi,
    Option.map_some, Option.getD_some]

theorem predictIdx_eq (k : Nat) (P C : List (List α)) (noise : List (List β)) :
    predictIdx k P C noise = List.zipWith (fun p nz => randArgmin ((rowMul k p C).map some) nz) P noise := by
  simp only [predictIdx, randArgminRows, expectedCosts, matMul, List.map_map, List.zipWith_map_left, Function.comp_def]

end Decision

end Ska.Classifier
