import SkaModel.Core.MultiAnnot
import SkaModel.Lemmas.Basic
import SkaModel.Lemmas.Selection
import Mathlib.Algebra.Order.Field.Basic

/-! Lemmas about the multi-annotator model (`Core/MultiAnnot.lean`), in this order: lists and the flat layout (the pair
`(s, k)` at `s * m + k`); `_n_to_assign_annotators`; `_transform_cand_annot` and `n_candidate_pairs`; ranks and the utility
matrix of one chosen sample (`GoodM`); the batch loop of `_query_annotators` (`Sched` for the sample pointer, `LoopInv` for the
state); the translation through `mapping`; IntervalEstimationThreshold.  The definitions that the statements of
`Props/C07.lean` are written in (`LeL`, `rowSample`, `Available`, `candCount`, `expand`, `selPos`, `nmaxAt`, `outAvail`, `outPos`)
stand with their subject. -/

namespace Ska.MultiAnnot
open Ska Ska.C18

section List
variable {γ : Type}

theorem count_true_map (f : γ → Bool) (l : List γ) : (l.map f).count true = (l.filter f).length := by
  rw [List.count, List.countP_map, List.countP_eq_length_filter]
  exact congrArg (fun p => (l.filter p).length) (funext fun x => beq_true (f x))

theorem sum_zipWith_le (f : Nat → Nat → Nat) (hf : ∀ n c, f n c ≤ n) (nmax cur : List Nat) :
    (List.zipWith f nmax cur).sum ≤ nmax.sum := by
  induction nmax generalizing cur with
  | nil => exact Nat.le_refl _
  | cons n ns ih =>
    cases cur with
    | nil => exact Nat.zero_le _
    | cons c cs =>
      rw [List.zipWith_cons_cons, List.sum_cons, List.sum_cons]
      exact Nat.add_le_add (hf n c) (ih cs)

theorem sum_drop (l : List Nat) (i : Nat) (h : i < l.length) :
    (l.drop i).sum = l.getD i 0 + (l.drop (i + 1)).sum := by
  rw [List.drop_eq_getElem_cons h, List.sum_cons, getD_eq_getElem l 0 h]

theorem take_succ_drop {l : List γ} {i : Nat} {x : γ} (h : l[i]? = some x) (b : Nat) :
    (l.drop i).take (b + 1) = x :: (l.drop (i + 1)).take b := by
  obtain ⟨hi, rfl⟩ := List.getElem?_eq_some_iff.mp h
  rw [List.drop_eq_getElem_cons hi, List.take_succ_cons]

theorem getD_map_zipWith {δ ε ζ : Type} (f : γ → δ → ε) (g : ε → ζ) {l₁ : List γ} {l₂ : List δ} {t : Nat}
    {a : γ} {b : δ} (h1 : l₁[t]? = some a) (h2 : l₂[t]? = some b) (d : ζ) :
    ((List.zipWith f l₁ l₂).map g).getD t d = g (f a b) := by
  rw [List.getD_eq_getElem?_getD, List.getElem?_map, List.getElem?_zipWith, h1, h2]; rfl

theorem indexed_of_forall₂ {δ : Type} {P : γ → δ → Prop} {l₁ : List γ} {l₂ : List δ}
    (h : List.Forall₂ P l₁ l₂) : ∀ (t : Nat) (a : γ) (b : δ), l₁[t]? = some a → l₂[t]? = some b → P a b := by
  induction h with
  | nil => intro t a b h1; cases h1
  | cons hab _ ih =>
    intro t a b h1 h2
    cases t with
    | zero => cases h1; cases h2; exact hab
    | succ t => exact ih t a b h1 h2

theorem exists_of_indexed {δ : Type} {P : γ → δ → Prop} {l₁ : List γ} {l₂ : List δ} (hl : l₁.length = l₂.length)
    (h : ∀ (t : Nat) (a : γ) (b : δ), l₁[t]? = some a → l₂[t]? = some b → P a b) {b : δ} (hb : b ∈ l₂) :
    ∃ a, P a b := by
  obtain ⟨t, ht⟩ := List.mem_iff_getElem?.mp hb
  obtain ⟨a, ha⟩ := exists_getElem? (l := l₁) (hl ▸ (List.getElem?_eq_some_iff.mp ht).1)
  exact ⟨a, h t a b ha ht⟩

theorem getD_inj_of_nodup {c : List Nat} (hc : c.Nodup) {t u : Nat} (ht : t < c.length) (hu : u < c.length)
    (e : c.getD t 0 = c.getD u 0) : t = u := by
  rw [getD_eq_getElem c 0 ht, getD_eq_getElem c 0 hu] at e
  rw [← hc.idxOf_getElem t ht, ← hc.idxOf_getElem u hu, e]

theorem pairwise_idxOf_le {c : List Nat} (hc : c.Nodup) : c.Pairwise (fun x y => c.idxOf x ≤ c.idxOf y) := by
  rw [List.pairwise_iff_getElem]
  intro i j hi hj hij
  rw [hc.idxOf_getElem i hi, hc.idxOf_getElem j hj]
  exact Nat.le_of_lt hij

theorem countP_succ_le {p q : γ → Bool} {l : List γ} (hpq : ∀ a ∈ l, p a = true → q a = true) {a : γ}
    (ha : a ∈ l) (hq : q a = true) (hp : p a = false) : l.countP p + 1 ≤ l.countP q := by
  obtain ⟨s, t, rfl⟩ := List.append_of_mem ha
  have hs := List.countP_mono_left (l := s) fun b hb => hpq b (List.mem_append_left _ hb)
  have ht := List.countP_mono_left (l := t) fun b hb =>
    hpq b (List.mem_append_right _ (List.mem_cons_of_mem _ hb))
  rw [List.countP_append, List.countP_append, List.countP_cons, List.countP_cons, if_pos hq,
    if_neg (Bool.eq_false_iff.mp hp)]
  omega

theorem filter_contains_length (n : Nat) (mp : List Nat) (hnd : mp.Nodup) (hlt : ∀ s ∈ mp, s < n) :
    ((List.range n).filter (fun s => mp.contains s)).length = mp.length := by
  apply List.Perm.length_eq
  rw [List.perm_ext_iff_of_nodup (List.Pairwise.sublist List.filter_sublist List.nodup_range) hnd]
  intro x
  simp only [List.mem_filter, List.mem_range, List.contains_iff_mem]
  exact ⟨fun h => h.2, fun h => ⟨hlt x h, h⟩⟩

theorem getD_replicate (n : Nat) (x d : γ) (i : Nat) :
    (List.replicate n x).getD i d = if i < n then x else d := by
  rw [List.getD_eq_getElem?_getD, List.getElem?_replicate]; split <;> rfl

theorem getD_replicate_getD (n : Nat) (r : List Bool) (i j : Nat) :
    ((List.replicate n r).getD i []).getD j false = true ↔ i < n ∧ r.getD j false = true := by
  rw [getD_replicate]
  by_cases hi : i < n
  · rw [if_pos hi, and_iff_right hi]
  · rw [if_neg hi, List.getD_nil]; exact iff_of_false Bool.false_ne_true fun h => hi h.1

theorem getElem?_range_eq_some (n i s : Nat) : (List.range n)[i]? = some s ↔ i < n ∧ i = s := by
  rw [List.getElem?_eq_some_iff]; simp

theorem one_le_getD {l : List Nat} (pos : ∀ x ∈ l, 1 ≤ x) {i : Nat} (h : i < l.length) : 1 ≤ l.getD i 0 := by
  rw [getD_eq_getElem l 0 h]; exact pos _ (List.getElem_mem h)

theorem getD_true_lt {l : List Bool} {p : Nat} (h : l.getD p false = true) : p < l.length := by
  by_contra h'
  rw [List.getD_eq_getElem?_getD, List.getElem?_eq_none (Nat.le_of_not_lt h')] at h
  cases h

theorem getD_getD_true_lt (A : List (List Bool)) {i j : Nat} (h : (A.getD i []).getD j false = true) :
    i < A.length := by
  by_contra h'
  rw [List.getD_eq_getElem?_getD (l := A), List.getElem?_eq_none (Nat.le_of_not_lt h')] at h
  cases h

variable {α : Type}

theorem getD_none_of_not_some (M : List (Option α)) (q : Nat)
    (h : ∀ v, M[q]? ≠ some (some v)) : M.getD q none = none :=
  Option.eq_none_iff_forall_ne_some.mpr fun v hv => h v (getD_none_eq_some.mp hv)

theorem block_filter_length (m : Nat) (P : Nat → Bool) (n : Nat) :
    ((List.range (n * m)).filter (fun q => P (q / m))).length = m * ((List.range n).filter P).length := by
  induction n with
  | zero => rw [Nat.zero_mul]; rfl
  | succ n ih =>
    -- peel the last block `n * m + k`, `k < m`: there `q / m = n`, so it contributes `m` or `0`
    have hblock : (List.range m).filter ((fun q => P (q / m)) ∘ (n * m + ·)) =
        (List.range m).filter fun _ => P n :=
      List.filter_congr fun k hk => by rw [Function.comp, div_block (List.mem_range.mp hk)]
    rw [Nat.succ_mul, List.range_add, List.filter_append, List.length_append, ih, List.filter_map,
      List.length_map, hblock, List.range_succ, List.filter_append, List.length_append, Nat.mul_add]
    cases hP : P n
    · rw [List.filter_eq_nil_iff.mpr fun _ _ => Bool.false_ne_true, List.filter_cons_of_neg (by rw [hP]; exact Bool.false_ne_true)]
      rfl
    · rw [List.filter_eq_self.mpr fun _ _ => rfl, List.filter_cons_of_pos hP, List.length_range]
      exact congrArg _ (Nat.mul_one m).symm

theorem getD_flatten (A : List (List γ)) (m : Nat) (hm : 0 < m) (hrect : ∀ r ∈ A, r.length = m)
    (p : Nat) (d : γ) : A.flatten.getD p d = (A.getD (p / m) []).getD (p % m) d := by
  rw [List.getD_eq_getElem?_getD, getElem?_flatten A m hm hrect p, List.getD_eq_getElem?_getD,
    List.getD_eq_getElem?_getD]
  cases A[p / m]? <;> rfl

theorem flatten_getD_true_lt {A : List (List Bool)} {m : Nat} (hrect : ∀ r ∈ A, r.length = m) {p : Nat}
    (h : A.flatten.getD p false = true) : p < A.length * m :=
  flatten_length A m hrect ▸ getD_true_lt h

end List

section Assign

theorem assignInit_sum_le (nmax pref : List Nat) : (assignInit nmax pref).sum ≤ nmax.sum :=
  sum_zipWith_le min (fun n c => Nat.min_le_left n c) nmax pref

theorem assignStep_sum_le (nmax cur : List Nat) : (assignStep nmax cur).sum ≤ nmax.sum :=
  sum_zipWith_le minSucc (fun n c => Nat.min_le_left n (c + 1)) nmax cur

/-- pointwise `≤` of two lists of equal length -/
def LeL : List Nat → List Nat → Prop
  | [], [] => True
  | a :: as, b :: bs => a ≤ b ∧ LeL as bs
  | _, _ => False

theorem LeL.forall₂ : ∀ {a b : List Nat}, LeL a b → List.Forall₂ (· ≤ ·) a b
  | [], [], _ => .nil
  | _ :: _, _ :: _, h => .cons h.1 h.2.forall₂
  | [], _ :: _, h => h.elim
  | _ :: _, [], h => h.elim

theorem LeL.refl : ∀ l : List Nat, LeL l l
  | [] => trivial
  | a :: as => ⟨Nat.le_refl a, LeL.refl as⟩

theorem LeL.trans {a b c : List Nat} (h1 : LeL a b) (h2 : LeL b c) : LeL a c := by
  induction h1.forall₂ generalizing c with
  | nil => exact h2
  | cons hab _ ih =>
    cases c with
    | nil => exact h2
    | cons z zs => exact ⟨Nat.le_trans hab h2.1, ih h1.2 h2.2⟩

theorem LeL.length {a b : List Nat} (h : LeL a b) : a.length = b.length := by
  induction h.forall₂ with
  | nil => rfl
  | cons _ _ ih => rw [List.length_cons, List.length_cons, ih h.2]

theorem LeL.getD {a b : List Nat} (h : LeL a b) (i : Nat) : a.getD i 0 ≤ b.getD i 0 := by
  induction h.forall₂ generalizing i with
  | nil => exact Nat.le_refl _
  | cons hab _ ih =>
    cases i with
    | zero => exact hab
    | succ i => exact ih h.2 i

theorem LeL.sum_le {a b : List Nat} (h : LeL a b) : a.sum ≤ b.sum := by
  induction h.forall₂ with
  | nil => exact Nat.le_refl _
  | cons hab _ ih => rw [List.sum_cons, List.sum_cons]; exact Nat.add_le_add hab (ih h.2)

theorem LeL.forall_le {a b : List Nat} (h : LeL a b) (k : Nat) (ha : ∀ x ∈ a, k ≤ x) : ∀ y ∈ b, k ≤ y := by
  induction h.forall₂ with
  | nil => exact fun _ hy => nomatch hy
  | cons hab _ ih =>
    intro y hy
    rcases List.mem_cons.mp hy with rfl | hy
    · exact (ha _ (List.mem_cons_self ..)).trans hab
    · exact ih h.2 (fun x hx => ha x (List.mem_cons_of_mem _ hx)) y hy

theorem assignStep_spec (nmax cur : List Nat) (h : LeL cur nmax) :
    LeL (assignStep nmax cur) nmax ∧ LeL cur (assignStep nmax cur) ∧
    (cur.sum < nmax.sum → cur.sum + 1 ≤ (assignStep nmax cur).sum) := by
  induction h.forall₂ with
  | nil => exact ⟨trivial, trivial, fun h => absurd h (Nat.lt_irrefl _)⟩
  | @cons c n cs ns hcn _ ih =>
    obtain ⟨i1, i2, i3⟩ := ih h.2
    have hs := h.2.sum_le
    have hs2 := i2.sum_le
    simp only [assignStep, List.zipWith_cons_cons, minSucc, List.sum_cons] at i1 i2 i3 hs2 ⊢
    refine ⟨⟨Nat.min_le_left .., i1⟩, ⟨Nat.le_min.mpr ⟨hcn, Nat.le_succ c⟩, i2⟩, fun hlt => ?_⟩
    by_cases hc : c < n
    · rw [Nat.min_eq_right hc]; omega
    · have := i3 (by omega); omega

theorem assignInit_le (nmax pref : List Nat) (h : nmax.length = pref.length) :
    LeL (assignInit nmax pref) nmax := by
  induction nmax generalizing pref with
  | nil => cases pref with
    | nil => trivial
    | cons _ _ => cases h
  | cons n ns ih =>
    cases pref with
    | nil => cases h
    | cons p ps => exact ⟨Nat.min_le_left .., ih ps (Nat.succ.inj h)⟩

theorem assignInit_forall_le (nmax pref : List Nat) (k : Nat) (h1 : ∀ x ∈ nmax, k ≤ x)
    (h2 : ∀ x ∈ pref, k ≤ x) : ∀ x ∈ assignInit nmax pref, k ≤ x :=
  forall_mem_zipWith (P := (k ≤ ·)) (Q := (k ≤ ·)) (fun _ _ ha hb => Nat.le_min.mpr ⟨ha, hb⟩) h1 h2

theorem assignInit_eq_of_le (nmax pref : List Nat) (h : LeL pref nmax) : assignInit nmax pref = pref := by
  induction h.forall₂ with
  | nil => rfl
  | cons hpn _ ih =>
    simp only [assignInit, List.zipWith_cons_cons] at ih ⊢
    rw [ih h.2, Nat.min_eq_right hpn]

theorem assignInit_getD (nmax pref : List Nat) (t : Nat) (h1 : t < nmax.length) (h2 : t < pref.length) :
    (assignInit nmax pref).getD t 0 = min (nmax.getD t 0) (pref.getD t 0) := by
  rw [assignInit, List.getD_eq_getElem?_getD, List.getElem?_zipWith, getD_eq_getElem _ _ h1,
    getD_eq_getElem _ _ h2, List.getElem?_eq_getElem h1, List.getElem?_eq_getElem h2]
  rfl

theorem canGrow_cons (n c : Nat) (ns cs : List Nat) :
    canGrow (n :: ns) (c :: cs) = (decide (c < n) || canGrow ns cs) := by
  simp [canGrow, ltB]

theorem canGrow_false (nmax cur : List Nat) (hle : LeL cur nmax) (h : canGrow nmax cur = false) :
    cur = nmax := by
  induction hle.forall₂ with
  | nil => rfl
  | cons hcn _ ih =>
    rw [canGrow_cons, Bool.or_eq_false_iff, decide_eq_false_iff_not] at h
    rw [ih hle.2 h.2, Nat.le_antisymm hcn (Nat.le_of_not_lt h.1)]

theorem canGrow_true_lt (nmax cur : List Nat) (hle : LeL cur nmax) (h : canGrow nmax cur = true) :
    cur.sum < nmax.sum := by
  induction hle.forall₂ with
  | nil => cases h
  | cons hcn _ ih =>
    have h2 := hle.2.sum_le
    rw [canGrow_cons, Bool.or_eq_true_iff, decide_eq_true_iff] at h
    rw [List.sum_cons, List.sum_cons]
    rcases h with h | h
    · exact Nat.add_lt_add_of_lt_of_le h h2
    · exact Nat.add_lt_add_of_le_of_lt hcn (ih hle.2 h)

theorem assignIter_stop (fuel b : Nat) (nmax cur : List Nat)
    (h : b ≤ cur.sum ∨ canGrow nmax cur = false) : assignIter fuel b nmax cur = some cur := by
  unfold assignIter
  rw [if_pos]
  simpa using h

theorem assignIter_step (fuel b : Nat) (nmax cur : List Nat) (hb : cur.sum < b)
    (hg : canGrow nmax cur = true) :
    assignIter (fuel + 1) b nmax cur = assignIter fuel b nmax (assignStep nmax cur) := by
  rw [assignIter, if_neg]
  simp [hg, hb]

/-- the repaired loop always exits, within `Σ nmax − Σ cur` passes and with a result that does not
depend on the fuel: the batch is filled, or the result is saturated at `nmax` -/
theorem assignIter_some (b : Nat) (nmax cur : List Nat) (hle : LeL cur nmax) :
    ∃ r, (∀ fuel, nmax.sum ≤ cur.sum + fuel → assignIter fuel b nmax cur = some r) ∧
      (b ≤ r.sum ∨ r = nmax) ∧ LeL r nmax ∧ LeL cur r ∧ (b ≤ cur.sum → r = cur) := by
  by_cases hstop : b ≤ cur.sum ∨ canGrow nmax cur = false
  · exact ⟨cur, fun fuel _ => assignIter_stop fuel b nmax cur hstop,
      hstop.imp_right (canGrow_false nmax cur hle), hle, LeL.refl _, fun _ => rfl⟩
  · have hg : canGrow nmax cur = true := by simpa using fun h => hstop (.inr h)
    have hb : cur.sum < b := Nat.lt_of_not_le fun h => hstop (.inl h)
    have hlt := canGrow_true_lt nmax cur hle hg
    obtain ⟨s1, s2, s3⟩ := assignStep_spec nmax cur hle
    have hs := s3 hlt  -- for the two `omega` below
    obtain ⟨r, hr, r1, r2, r3, -⟩ := assignIter_some b nmax (assignStep nmax cur) s1
    refine ⟨r, fun fuel hf => ?_, r1, r2, s2.trans r3, fun h => absurd h (Nat.not_le_of_lt hb)⟩
    cases fuel with
    | zero => exact absurd hf (Nat.not_le_of_lt hlt)
    | succ f => rw [assignIter_step f b nmax cur hb hg]; exact hr f (by omega)
termination_by nmax.sum - cur.sum
decreasing_by omega

theorem prefVector_arr_lt {l : List Nat} {sq : Nat} (h : sq < l.length) :
    prefVector (.arr l) sq = l.take sq := by
  rw [prefVector, if_pos h]

theorem prefVector_arr_ge {l : List Nat} {sq : Nat} (h : l.length ≤ sq) :
    prefVector (.arr l) sq = l ++ List.replicate (sq - l.length) (l.getLastD 0) := by
  rw [prefVector, if_neg (Nat.not_lt.mpr h)]

theorem prefVector_length (pref : Pref) (sq : Nat) : (prefVector pref sq).length = sq := by
  cases pref with
  | int n => exact List.length_replicate ..
  | arr l =>
    by_cases h : sq < l.length
    · rw [prefVector_arr_lt h, List.length_take, Nat.min_eq_left (Nat.le_of_lt h)]
    · rw [prefVector_arr_ge (Nat.le_of_not_lt h), List.length_append, List.length_replicate,
        Nat.add_sub_cancel' (Nat.le_of_not_lt h)]

/-- `n_annotators_per_sample ≥ 1` (an int is validated by the code; an array must be non-empty) carries
over to `pref_n_annotators` -/
theorem prefVector_ge_one (pref : Pref) (sq : Nat)
    (h : match pref with
      | .int n => 1 ≤ n
      | .arr l => l ≠ [] ∧ ∀ x ∈ l, 1 ≤ x) :
    ∀ x ∈ prefVector pref sq, 1 ≤ x := by
  cases pref with
  | int n =>
    intro x hx
    rw [(List.mem_replicate.mp hx).2]; exact h
  | arr l =>
    obtain ⟨hne, hl⟩ := h
    intro x hx
    by_cases hsq : sq < l.length
    · rw [prefVector_arr_lt hsq] at hx
      exact hl x (List.mem_of_mem_take hx)
    · rw [prefVector_arr_ge (Nat.le_of_not_lt hsq)] at hx
      rcases List.mem_append.mp hx with hx | hx
      · exact hl x hx
      · rw [(List.mem_replicate.mp hx).2]
        apply hl
        cases l with
        | nil => exact absurd rfl hne
        | cons a as => rw [List.getLastD_cons]; exact List.getLastD_mem_cons ..

end Assign

section Transform

theorem colMask_getD (m : Nat) (a : List Nat) (j : Nat) :
    (colMask m a).getD j false = true ↔ j < m ∧ j ∈ a := by
  rw [List.getD_eq_getElem?_getD, colMask, getElem?_map_range]
  by_cases h : j < m
  · rw [if_pos h]; simp [h]
  · rw [if_neg h]; simp [h]

theorem annotRows_length (n m : Nat) (annot : Annot) (hM : ∀ M, annot = .mat M → M.length = n) :
    (annotRows n m annot).length = n := by
  cases annot with
  | all | idx a => exact List.length_replicate ..
  | mat M => exact hM M rfl

theorem annotRows_rect (n m : Nat) (annot : Annot) (hM : ∀ M, annot = .mat M → ∀ r ∈ M, r.length = m) :
    ∀ r ∈ annotRows n m annot, r.length = m := by
  intro r hr
  cases annot with
  | all => rw [(List.mem_replicate.mp hr).2, List.length_replicate]
  | idx a => rw [(List.mem_replicate.mp hr).2, colMask, List.length_map, List.length_range]
  | mat M => exact hM M rfl r hr

theorem annotRows_getD_getD (n m : Nat) (annot : Annot) (hM : ∀ M, annot = .mat M → M.length = n)
    (i j : Nat) :
    ((annotRows n m annot).getD i []).getD j false = true ↔ i < n ∧
      match annot with
      | .all => j < m
      | .idx a => j < m ∧ j ∈ a
      | .mat M => (M.getD i []).getD j false = true := by
  cases annot with
  | all => rw [annotRows, getD_replicate_getD, getD_replicate]; simp
  | idx a => rw [annotRows, getD_replicate_getD, colMask_getD]
  | mat M =>
    simp only [annotRows, ← hM M rfl, iff_and_self]
    exact getD_getD_true_lt M

/-- the sample (index into `X`, or into the feature-row candidates) that row `i` of `A_cand` is about -/
def rowSample (mp : Option (List Nat)) (n i : Nat) : Option Nat :=
  match mp with
  | none => if i < n then some i else none
  | some l => l[i]?

/-- "available pair as defined by the arguments": `s` the sample, `i` its position among the
candidates, `j` the annotator. -/
def Available (nS m : Nat) (unl : List (List Bool)) : Cand → Annot → Nat → Nat → Nat → Prop
  | .all, .all, s, _, j => (unl.getD s []).getD j false = true
  | .all, .idx a, s, _, j => s < nS ∧ j < m ∧ j ∈ a
  | .all, .mat M, s, _, j => s < nS ∧ (M.getD s []).getD j false = true
  | .idx c, .all, s, i, j => c[i]? = some s ∧ j < m
  | .idx c, .idx a, s, i, j => c[i]? = some s ∧ j < m ∧ j ∈ a
  | .idx c, .mat M, s, i, j => c[i]? = some s ∧ (M.getD i []).getD j false = true
  | .feat n, .all, s, i, j => s = i ∧ i < n ∧ j < m
  | .feat n, .idx a, s, i, j => s = i ∧ i < n ∧ j < m ∧ j ∈ a
  | .feat n, .mat M, s, i, j => s = i ∧ i < n ∧ (M.getD i []).getD j false = true

def candCount (nS : Nat) : Cand → Nat
  | .all => nS
  | .idx c => c.length
  | .feat n => n

theorem unlabeledSamples_nodup (unl : List (List Bool)) : (unlabeledSamples unl).Nodup := by
  unfold unlabeledSamples
  exact List.Pairwise.sublist List.filter_sublist List.nodup_range

theorem mem_unlabeledSamples (unl : List (List Bool)) (s j : Nat)
    (h : (unl.getD s []).getD j false = true) : s ∈ unlabeledSamples unl := by
  have hj := getD_true_lt h
  rw [unlabeledSamples, List.mem_filter, List.mem_range, hasUnl, anyTrue, List.any_eq_true]
  refine ⟨getD_getD_true_lt unl h, (unl.getD s [])[j]'hj, List.getElem_mem hj, ?_⟩
  rwa [getD_eq_getElem _ _ hj] at h

/-- the mapping produced by `_transform_cand_annot` has no repetitions (index arrays are made unique
by `check_indices`) -/
theorem transformCandAnnot_mapping_nodup (nS m : Nat) (unl : List (List Bool)) (cand : Cand) (annot : Annot)
    (hc : ∀ c, cand = .idx c → c.Nodup) (mp : List Nat)
    (h : (transformCandAnnot nS m unl cand annot).1 = some mp) : mp.Nodup := by
  cases cand with
  | all =>
    cases annot with
    | all => cases h; exact unlabeledSamples_nodup unl
    | idx a | mat M => cases h; exact List.nodup_range
  | idx c => cases h; exact hc _ rfl
  | feat n => cases h

/-- rows of `A_cand` and entries of `mapping` correspond one to one -/
theorem transformCandAnnot_lengths (nS m : Nat) (unl : List (List Bool)) (cand : Cand) (annot : Annot)
    (hM : ∀ M, annot = .mat M → M.length = candCount nS cand) (mp : List Nat)
    (h : (transformCandAnnot nS m unl cand annot).1 = some mp) :
    (transformCandAnnot nS m unl cand annot).2.length = mp.length := by
  cases cand with
  | all =>
    cases annot with
    | all => cases h; exact List.length_map ..
    | idx a | mat M => cases h; exact (annotRows_length nS m _ hM).trans List.length_range.symm
  | idx c => cases h; cases annot <;> exact annotRows_length _ m _ hM
  | feat n => cases h

/-- `A_cand` is rectangular with `n_annotators` columns -/
theorem transformCandAnnot_rect (nS m : Nat) (unl : List (List Bool)) (cand : Cand) (annot : Annot)
    (hunl : ∀ r ∈ unl, r.length = m) (hM : ∀ M, annot = .mat M → ∀ r ∈ M, r.length = m) :
    ∀ r ∈ (transformCandAnnot nS m unl cand annot).2, r.length = m := by
  cases cand with
  | all =>
    cases annot with
    | all =>
      intro r hr
      obtain ⟨i, hi, rfl⟩ := List.mem_map.mp hr
      have : i < unl.length := List.mem_range.mp (List.mem_filter.mp hi).1
      rw [getD_eq_getElem unl [] this]
      exact hunl _ (List.getElem_mem this)
    | idx a | mat M => exact annotRows_rect nS m _ hM
  | idx c => cases annot <;> exact annotRows_rect c.length m _ hM
  | feat n => cases annot <;> exact annotRows_rect n m _ hM

end Transform

section Count

theorem clipBatch_eq_min (b pairs : Nat) : clipBatch b pairs = min b pairs := by
  rw [clipBatch]
  split
  · next h => exact (Nat.min_eq_right (Nat.le_of_lt h)).symm
  · next h => exact (Nat.min_eq_left (Nat.le_of_not_lt h)).symm

theorem countTrue_replicate (n : Nat) (r : List Bool) : countTrue (List.replicate n r) = n * countRow r := by
  rw [countTrue, List.map_replicate, List.sum_replicate_nat]

theorem countRow_replicate_true (m : Nat) : countRow (List.replicate m true) = m := by
  simp [countRow]

theorem countRow_colMask (m : Nat) (a : List Nat) (hnd : a.Nodup) (hlt : ∀ x ∈ a, x < m) :
    countRow (colMask m a) = a.length := by
  rw [countRow, colMask, count_true_map]
  exact filter_contains_length m a hnd hlt

theorem countRow_zero_of_not_any (r : List Bool) (h : anyTrue r = false) : countRow r = 0 := by
  unfold countRow anyTrue at *
  rw [List.count_eq_zero]
  intro hin
  rw [List.any_eq_false] at h
  exact absurd rfl (h true hin)

theorem countTrue_filter_any (L : List (List Bool)) : countTrue (L.filter anyTrue) = countTrue L := by
  unfold countTrue
  induction L with
  | nil => simp
  | cons r rs ih =>
    simp only [List.filter_cons]
    cases h : anyTrue r with
    | true => simp [ih]
    | false => simp [ih, countRow_zero_of_not_any r h]

theorem map_getD_unlabeledSamples (unl : List (List Bool)) :
    (unlabeledSamples unl).map (fun i => unl.getD i []) = unl.filter anyTrue := by
  conv => rhs; rw [← map_getD_range unl [], List.filter_map]
  rfl  -- `hasUnl unl` unfolds to `anyTrue ∘ (unl.getD · [])`

theorem countTrue_annotRows_all (n m : Nat) : countTrue (annotRows n m .all) = n * m := by
  rw [annotRows, countTrue_replicate, countRow_replicate_true]

theorem countTrue_annotRows_idx (n m : Nat) (a : List Nat) (hnd : a.Nodup) (hlt : ∀ x ∈ a, x < m) :
    countTrue (annotRows n m (.idx a)) = n * a.length := by
  rw [annotRows, countTrue_replicate, countRow_colMask m a hnd hlt]

/-- `ha`: annotator index arrays are unique and in range after `check_indices` -/
theorem nCandidatePairs_eq_countTrue (nS m : Nat) (unl : List (List Bool)) (cand : Cand) (annot : Annot)
    (ha : ∀ a, annot = .idx a → a.Nodup ∧ ∀ x ∈ a, x < m) :
    nCandidatePairs nS m unl cand annot = countTrue (transformCandAnnot nS m unl cand annot).2 := by
  cases annot with
  | all =>
    cases cand with
    | all => exact ((congrArg countTrue (map_getD_unlabeledSamples unl)).trans (countTrue_filter_any unl)).symm
    | idx c | feat n => exact (countTrue_annotRows_all ..).symm
  | idx a =>
    obtain ⟨h1, h2⟩ := ha a rfl
    cases cand <;> exact (countTrue_annotRows_idx _ m a h1 h2).symm
  | mat M => cases cand <;> rfl

end Count

section Rank
variable {α : Type} [LinearOrder α]

theorem below_mono (i k : Nat) (vi vk : α) (h : vi < vk) (l : Nat) (vl : α)
    (hb : below i vi l vl = true) : below k vk l vl = true := by
  unfold below at *
  simp only [Bool.or_eq_true, Bool.and_eq_true, decide_eq_true_eq] at *
  rcases hb with hb | ⟨-, hb⟩
  · exact Or.inl (lt_trans hb h)
  · rw [eqv_iff] at hb; subst hb; exact Or.inl h

theorem countBelow_eq_countP (i : Nat) (vi : α) (l0 : Nat) (row : List α) :
    countBelow i vi l0 row = (row.zipIdx l0).countP fun p => below i vi p.2 p.1 := by
  induction row generalizing l0 with
  | nil => rfl
  | cons x xs ih => rw [countBelow, List.zipIdx_cons, List.countP_cons, ih, Nat.add_comm]

/-- ordinal ranks are strictly monotone in the values -/
theorem ordRank_lt (row : List α) (i k : Nat) (vi vk : α) (hi : row[i]? = some vi)
    (hk : row[k]? = some vk) (h : vi < vk) : ordRank row i < ordRank row k := by
  -- whatever is sorted before `(i, vi)` is sorted before `(k, vk)`, and so is `(i, vi)` itself
  have := countP_succ_le (l := row.zipIdx) (fun p _ => below_mono i k vi vk h p.2 p.1)
    (List.mk_mem_zipIdx_iff_getElem?.mpr hi) (by simp [below, h]) (by simp [below, eqv])
  simp only [ordRank, hi, hk, countBelow_eq_countP]
  omega

/-- an ordinal rank never exceeds the number of entries: the forced rank `n + 1` is above all of them -/
theorem ordRank_le_length (row : List α) (i : Nat) : ordRank row i ≤ row.length := by
  rw [ordRank]
  cases hi : row[i]? with
  | none => exact Nat.zero_le _
  | some vi =>
    -- `(i, vi)` is not sorted before itself
    have := countP_succ_le (l := row.zipIdx) (p := fun p => below i vi p.2 p.1) (q := fun _ => true)
      (fun _ _ _ => rfl) (List.mk_mem_zipIdx_iff_getElem?.mpr hi) rfl (by simp [below, eqv])
    rw [List.countP_true, List.length_zipIdx] at this
    simp only [countBelow_eq_countP]
    omega

theorem chosenRank_lt (l : List α) (n chosen i r : Nat) (hl : l.length ≤ n) (hne : i ≠ chosen) :
    chosenRank n chosen (ordRank l i) i < chosenRank n chosen r chosen := by
  rw [chosenRank, chosenRank, if_neg hne, if_pos rfl]
  exact Nat.lt_succ_of_le ((ordRank_le_length l i).trans hl)

end Rank

section RankRow
variable {α : Type} [LinearOrder α]

theorem rankRow_getD (ninf : α) (cast : Nat → α) (row : List (Option α)) (chosen i : Nat) :
    (rankRow ninf cast row chosen).getD i none =
      if i < row.length then
        maskRank cast (chosenRank row.length chosen (ordRank (row.map (fillNaN ninf)) i) i) (row.getD i none)
      else none := by
  rw [List.getD_eq_getElem?_getD, rankRow, getElem?_map_range]
  split <;> rfl

theorem rankRow_getD_eq_some {ninf : α} {cast : Nat → α} {row : List (Option α)} {chosen i : Nat} {r : α}
    (h : (rankRow ninf cast row chosen).getD i none = some r) :
    r = cast (chosenRank row.length chosen (ordRank (row.map (fillNaN ninf)) i) i) := by
  rw [rankRow_getD, Option.ite_none_right_eq_some] at h
  cases hx : row.getD i none with
  | none => rw [hx] at h; cases h.2
  | some x => rw [hx] at h; exact (Option.some.inj h.2).symm

theorem isSome_rankRow (ninf : α) (cast : Nat → α) (row : List (Option α)) (chosen i : Nat) :
    ((rankRow ninf cast row chosen).getD i none).isSome = (row.getD i none).isSome := by
  rw [rankRow_getD]
  by_cases hi : i < row.length
  · rw [if_pos hi]; cases row.getD i none <;> rfl
  · rw [if_neg hi, List.getD_eq_getElem?_getD, List.getElem?_eq_none (Nat.le_of_not_lt hi)]; rfl

end RankRow

section Block
variable {α : Type}

/-- number of non-NaN entries among the `m` pairs of sample `s` -/
def blockCount (M : List (Option α)) (m s : Nat) : Nat := countSome ((M.drop (s * m)).take m)

theorem countSome_eq_countRow (X : List (Option α)) :
    countSome X = countRow (X.map Option.isSome) :=
  (count_true_map _ X).symm

theorem blockCount_pos {M : List (Option α)} {m s : Nat} (h : 0 < blockCount M m s) :
    ∃ q v, q / m = s ∧ M[q]? = some (some v) := by
  obtain ⟨v, hv⟩ := (countSome_pos_iff _).mp h
  obtain ⟨k, hk⟩ := List.mem_iff_getElem?.mp hv
  rw [getElem?_block, Option.ite_none_right_eq_some] at hk
  exact ⟨s * m + k, v, div_block hk.1, hk.2⟩

theorem blockCount_set_in (M : List (Option α)) (m s k : Nat) (v : α) (hk : k < m)
    (h : M[s * m + k]? = some (some v)) :
    blockCount (M.set (s * m + k) none) m s + 1 = blockCount M m s := by
  rw [blockCount, List.drop_set, if_neg (Nat.not_lt.mpr (Nat.le_add_right ..)), Nat.add_sub_cancel_left,
    List.take_set]
  exact countSome_set_none _ _ v (by rw [getElem?_block, if_pos hk]; exact h)

theorem blockCount_set_out {M : List (Option α)} {m s q : Nat} (hq : q / m ≠ s) :
    blockCount (M.set q none) m s = blockCount M m s := by
  rw [blockCount, blockCount]
  congr 1
  apply List.ext_getElem?
  intro k
  rw [getElem?_block, getElem?_block]
  by_cases hk : k < m
  · rw [if_pos hk, if_pos hk, List.getElem?_set_ne fun e : q = s * m + k => hq (e ▸ div_block hk)]
  · rw [if_neg hk, if_neg hk]

end Block

section SMatrix
variable {α : Type} [Add α]

theorem getElem?_sMatrix (m : Nat) (avail : List Bool) (au : List α) (rk : List (Option α)) (p : Nat) :
    (sMatrix m avail au rk)[p]? =
      if p < avail.length then some (combineAt m avail au rk p) else none :=
  getElem?_map_range ..

theorem sMatrix_length (m : Nat) (avail : List Bool) (au : List α) (rk : List (Option α)) :
    (sMatrix m avail au rk).length = avail.length := by
  simp [sMatrix]

theorem combineAt_eq_some {m : Nat} {avail : List Bool} {au : List α} {rk : List (Option α)} {p : Nat} {v : α} :
    combineAt m avail au rk p = some v ↔
      avail.getD p false = true ∧ ∃ r a, rk.getD (p / m) none = some r ∧ au[p]? = some a ∧ v = r + a := by
  rw [combineAt, Option.ite_none_right_eq_some]
  refine and_congr_right fun _ => ⟨fun h => ?_, fun ⟨r, a, hr, ha, e⟩ => by rw [hr, ha, e]⟩
  split at h
  · next r a hr ha => exact ⟨r, a, hr, ha, (Option.some.inj h).symm⟩
  · cases h

theorem getElem?_sMatrix_eq_some {m : Nat} {avail : List Bool} {au : List α} {rk : List (Option α)} {p : Nat}
    {v : α} (h : (sMatrix m avail au rk)[p]? = some (some v)) :
    avail.getD p false = true ∧ ∃ r a, rk.getD (p / m) none = some r ∧ au[p]? = some a ∧ v = r + a := by
  rw [getElem?_sMatrix, Option.ite_none_right_eq_some] at h
  exact combineAt_eq_some.mp (Option.some.inj h.2)

theorem isSome_combineAt (m : Nat) (avail : List Bool) (au : List α) (rk : List (Option α)) (p : Nat)
    (hr : (rk.getD (p / m) none).isSome = true) (hp : p < au.length) :
    (combineAt m avail au rk p).isSome = avail.getD p false := by
  rw [combineAt, List.getElem?_eq_getElem hp]
  cases avail.getD p false with
  | false => rfl
  | true => cases h : rk.getD (p / m) none with
    | none => rw [h] at hr; cases hr
    | some r => rfl

/-- number of available annotators of the selectable candidate `s` -/
def nmaxAt (A : List (List Bool)) (s : Nat) : Nat := countRow (A.getD s [])

theorem blockCount_init (m : Nat) (A : List (List Bool)) (hrect : ∀ r ∈ A, r.length = m)
    (au : List α) (hau : au.length = A.length * m) (rk : List (Option α)) (s : Nat) (hs : s < A.length)
    (hr : (rk.getD s none).isSome = true) :
    blockCount (sMatrix m A.flatten au rk) m s = nmaxAt A s := by
  have hrow : (A.getD s []).length = m := by
    rw [getD_eq_getElem A [] hs]; exact hrect _ (List.getElem_mem hs)
  rw [blockCount, countSome_eq_countRow, nmaxAt]
  congr 1
  apply List.ext_getElem?
  intro k
  rw [List.getElem?_map, getElem?_block]
  by_cases hk : k < m
  · have hp : s * m + k < A.length * m := flat_lt hs hk
    rw [if_pos hk, getElem?_sMatrix, if_pos (by rwa [flatten_length A m hrect]), Option.map_some,
      isSome_combineAt m _ au rk _ (by rwa [div_block hk]) (hau ▸ hp),
      getD_flatten A m (Nat.zero_lt_of_lt hk) hrect, div_block hk, Nat.mul_add_mod_of_lt hk, List.getD_eq_getElem?_getD,
      List.getElem?_eq_getElem (hrow ▸ hk)]
    rfl
  · rw [if_neg hk, List.getElem?_eq_none (hrow ▸ Nat.le_of_not_lt hk)]; rfl

end SMatrix

section Good
variable {α : Type} [LinearOrder α]

/-- what the batch loop needs of the matrix that belongs to the chosen sample `s`: numbers only at
available pairs, and every number in the block of `s` above every number outside it -/
structure GoodM (m : Nat) (avail : List Bool) (s : Nat) (M : List (Option α)) : Prop where
  shape : M.length = avail.length
  availOnly : ∀ q v, M[q]? = some (some v) → avail.getD q false = true
  dom : ∀ q q' v v', M[q]? = some (some v) → M[q']? = some (some v') → q / m = s → q' / m ≠ s → v' < v

theorem GoodM.set_none {m : Nat} {avail : List Bool} {s : Nat} {M : List (Option α)}
    (g : GoodM m avail s M) (p : Nat) : GoodM m avail s (M.set p none) :=
  ⟨by rw [List.length_set, g.shape], fun q v h => g.availOnly q v (getElem?_set_none_eq_some h).1,
    fun q q' v v' h h' => g.dom q q' v v' (getElem?_set_none_eq_some h).1 (getElem?_set_none_eq_some h').1⟩

theorem GoodM.argmax_block {β : Type} [LinearOrder β] [Zero β] {m : Nat} {avail : List Bool} {s : Nat}
    {M : List (Option α)} (g : GoodM m avail s M) (hcnt : 0 < blockCount M m s) (nz : List β)
    (hnl : nz.length = avail.length) (hnp : ∀ x ∈ nz, 0 < x) :
    ∃ mx, M[randArgmax M nz]? = some (some mx) ∧ randArgmax M nz / m = s := by
  obtain ⟨q0, v0, hq0, hv0⟩ := blockCount_pos hcnt
  have hmem := List.mem_of_getElem? hv0
  obtain ⟨mx, -, hpick, hmax⟩ := randArgmax_is_max_of_pos M nz (by rw [hnl, g.shape]) hnp
    ((countSome_pos_iff _).mpr ⟨v0, hmem⟩)
  refine ⟨mx, hpick, ?_⟩
  by_contra h
  exact absurd (lt_of_lt_of_le (g.dom q0 _ v0 mx hv0 hpick hq0 h) (hmax v0 hmem)) (lt_irrefl _)

end Good

section RankRowF
variable {α : Type} [Field α] [LinearOrder α] [IsStrictOrderedRing α]

theorem rank_add_lt {r r' a a' : α} (h : r' + 1 ≤ r) (ha : 0 ≤ a) (ha' : a' < 1) : r' + a' < r + a :=
  calc r' + a' < r' + 1 := add_lt_add_right ha' _
    _ ≤ r := h
    _ ≤ r + a := le_add_of_nonneg_right ha

/-- the matrix built for the chosen sample `s` is good: the forced rank `n + 1` beats an ordinal rank
`≤ n` by at least 1, and annotator utilities lie in `[0, 1)` -/
theorem GoodM.init (ninf : α) (cast : Nat → α) (hcast : ∀ a b : Nat, a < b → cast a + 1 ≤ cast b)
    (m : Nat) (avail : List Bool) (au : List α) (hau01 : ∀ a ∈ au, 0 ≤ a ∧ a < 1)
    (row : List (Option α)) (s : Nat) :
    GoodM m avail s (sMatrix m avail au (rankRow ninf cast row s)) := by
  refine ⟨sMatrix_length .., fun q v hv => (getElem?_sMatrix_eq_some hv).1, fun q q' v v' h h' hq hq' => ?_⟩
  obtain ⟨-, r, a, hr, ha, rfl⟩ := getElem?_sMatrix_eq_some h
  obtain ⟨-, r', a', hr', ha', rfl⟩ := getElem?_sMatrix_eq_some h'
  rw [rankRow_getD_eq_some hr, rankRow_getD_eq_some hr', hq]
  exact rank_add_lt
    (hcast _ _ (chosenRank_lt _ _ s _ _ (List.length_map ..).le hq'))
    (hau01 a (List.mem_of_getElem? ha)).1 (hau01 a' (List.mem_of_getElem? ha')).2

end RankRowF

section Sched

/-- `np.repeat`-style schedule: sample `c_t` repeated `nAs_t` times, in order -/
def expand (nAs c : List Nat) : List Nat := (List.zipWith (fun n s => List.replicate n s) nAs c).flatten

theorem expand_cons (n : Nat) (ns : List Nat) (x : Nat) (xs : List Nat) :
    expand (n :: ns) (x :: xs) = List.replicate n x ++ expand ns xs := rfl

theorem expand_drop (nAs c : List Nat) (si : Nat) (h1 : si < nAs.length) (h2 : si < c.length) :
    expand (nAs.drop si) (c.drop si) =
      List.replicate (nAs.getD si 0) (c.getD si 0) ++ expand (nAs.drop (si + 1)) (c.drop (si + 1)) := by
  rw [List.drop_eq_getElem_cons h1, List.drop_eq_getElem_cons h2, expand_cons, getD_eq_getElem _ _ h1,
    getD_eq_getElem _ _ h2]

theorem expand_map (f : Nat → Nat) (nAs c : List Nat) : (expand nAs c).map f = expand nAs (c.map f) := by
  induction nAs generalizing c with
  | nil => rfl
  | cons n ns ih =>
    cases c with
    | nil => rfl
    | cons x xs => rw [List.map_cons, expand_cons, expand_cons, List.map_append, List.map_replicate, ih]

theorem mem_expand (nAs c : List Nat) (y : Nat) (h : y ∈ expand nAs c) : y ∈ c := by
  induction nAs generalizing c with
  | nil => cases h
  | cons n ns ih =>
    cases c with
    | nil => cases h
    | cons x xs =>
      rw [expand_cons, List.mem_append] at h
      rcases h with h | h
      · exact (List.mem_replicate.mp h).2 ▸ List.mem_cons_self ..
      · exact List.mem_cons_of_mem _ (ih xs h)

theorem expand_pairwise {R : Nat → Nat → Prop} (nAs : List Nat) {c : List Nat} (hc : c.Pairwise R)
    (hR : ∀ x, R x x) : (expand nAs c).Pairwise R := by
  induction nAs generalizing c with
  | nil => exact List.Pairwise.nil
  | cons n ns ih =>
    cases hc with
    | nil => exact List.Pairwise.nil
    | @cons x xs hx hxs =>
      rw [expand_cons, List.pairwise_append]
      refine ⟨List.pairwise_replicate.mpr (.inr (hR x)), ih hxs, fun a ha b hb => ?_⟩
      rw [(List.mem_replicate.mp ha).2]
      exact hx b (mem_expand ns xs b hb)

/-- which chosen sample each batch step works on, as the loop computes it -/
def phaseSeq : Nat → List Nat → List Nat → Nat → Nat → List Nat
  | 0, _, _, _, _ => []
  | b + 1, nAs, c, si, ps =>
    c.getD si 0 ::
      (if nAs.getD si 0 ≤ ps + 1 then phaseSeq b nAs c (si + 1) 0 else phaseSeq b nAs c si (ps + 1))

/-- with `b` steps to go the sample pointer `si` has served `ps` of the `nAs[si]` pairs of its sample, the
samples from `si` on still hold `b` pairs, and every sample is due at least one -/
structure Sched (nAs : List Nat) (b si ps : Nat) : Prop where
  pos : ∀ x ∈ nAs, 1 ≤ x
  ps_lt : si < nAs.length → ps < nAs.getD si 0
  cap : b + ps ≤ (nAs.drop si).sum

namespace Sched
variable {nAs : List Nat} {b si ps : Nat}

theorem si_lt (h : Sched nAs (b + 1) si ps) : si < nAs.length := by
  by_contra hge
  have := h.cap
  rw [List.drop_eq_nil_of_le (Nat.le_of_not_lt hge), List.sum_nil, Nat.add_right_comm] at this
  cases this

theorem init (pos : ∀ x ∈ nAs, 1 ≤ x) (cap : b ≤ nAs.sum) : Sched nAs b 0 0 :=
  ⟨pos, one_le_getD pos, cap⟩

theorem advance (h : Sched nAs (b + 1) si ps) (hend : nAs.getD si 0 ≤ ps + 1) : Sched nAs b (si + 1) 0 :=
  ⟨h.pos, one_le_getD h.pos, by have := h.cap; have := sum_drop nAs si h.si_lt; omega⟩

theorem stay (h : Sched nAs (b + 1) si ps) (hend : ¬ nAs.getD si 0 ≤ ps + 1) : Sched nAs b si (ps + 1) :=
  ⟨h.pos, fun _ => by omega, by have := h.cap; omega⟩

end Sched

theorem phaseSeq_expand (nAs c : List Nat) (hlen : nAs.length = c.length) (b si ps : Nat)
    (h : Sched nAs b si ps) :
    phaseSeq b nAs c si ps = ((expand (nAs.drop si) (c.drop si)).drop ps).take b := by
  induction b generalizing si ps with
  | zero => rfl
  | succ b ih =>
    have hsi := h.si_lt
    have hps := h.ps_lt hsi
    rw [expand_drop nAs c si hsi (hlen ▸ hsi), phaseSeq,
      take_succ_drop (x := c.getD si 0) (by
        rw [List.getElem?_append_left (by rwa [List.length_replicate]), List.getElem?_replicate, if_pos hps])]
    congr 1
    by_cases hend : nAs.getD si 0 ≤ ps + 1
    · rw [if_pos hend, ih _ _ (h.advance hend), List.drop_zero,
        List.drop_left' (List.length_replicate.trans (Nat.le_antisymm hend hps))]
    · rw [if_neg hend, ih _ _ (h.stay hend), expand_drop nAs c si hsi (hlen ▸ hsi)]

end Sched

section Loop
variable {α : Type}

/-- what C07 demands of the record `(p, row)` of one step, `prev` being the picks of the earlier steps -/
def StepOK (avail : List Bool) (prev : List Nat) (p : Nat) (row : List (Option α)) : Prop :=
  avail.getD p false = true ∧ p ∉ prev ∧ (∃ v, row[p]? = some (some v)) ∧
  row.length = avail.length ∧
  ∀ q, (avail.getD q false = false ∨ q ∈ prev) → row.getD q none = none

/-- `StepOK` for every record, the earlier picks joining `prev` -/
def StepsOK (avail : List Bool) : List Nat → List (Nat × List (Option α)) → Prop
  | _, [] => True
  | prev, (p, row) :: rest => StepOK avail prev p row ∧ StepsOK avail (p :: prev) rest

/-- `StepsOK` unfolded into the clauses of C07 about the batch as a whole -/
theorem stepsOK_spec {avail : List Bool} {prev : List Nat} {out : List (Nat × List (Option α))}
    (h : StepsOK avail prev out) :
    (out.map Prod.fst).Nodup ∧ (∀ p ∈ out.map Prod.fst, p ∉ prev) ∧
    (∀ r ∈ out, avail.getD r.1 false = true ∧ ∃ v, r.2[r.1]? = some (some v)) ∧
    (∀ r ∈ out, r.2.length = avail.length) ∧
    (∀ k, ∀ hk : k < out.length, ∀ q,
      (avail.getD q false = false ∨ q ∈ prev ∨ q ∈ (out.map Prod.fst).take k) →
        out[k].2.getD q none = none) := by
  induction out generalizing prev with
  | nil =>
    exact ⟨List.nodup_nil, (fun _ h => nomatch h), (fun _ h => nomatch h), (fun _ h => nomatch h),
      fun k hk => absurd hk (Nat.not_lt_zero k)⟩
  | cons r rest ih =>
    obtain ⟨p, row⟩ := r
    obtain ⟨⟨h1, h2, h3, h4, h5⟩, h6⟩ := h
    obtain ⟨i1, i2, i3, i4, i5⟩ := ih h6
    refine ⟨List.nodup_cons.mpr ⟨fun hin => i2 p hin (List.mem_cons_self ..), i1⟩, fun x hx => ?_,
      List.forall_mem_cons.mpr ⟨⟨h1, h3⟩, i3⟩, List.forall_mem_cons.mpr ⟨h4, i4⟩, fun k hk q hq => ?_⟩
    · rcases List.mem_cons.mp hx with rfl | hx
      · exact h2
      · exact fun hin => i2 x hx (List.mem_cons_of_mem _ hin)
    · cases k with
      | zero => exact h5 q (hq.imp_right fun h => h.resolve_right fun h => nomatch h)
      | succ k =>
        refine i5 k (Nat.lt_of_succ_lt_succ hk) q (hq.imp_right fun h => ?_)
        rcases h with h | h
        · exact .inl (List.mem_cons_of_mem _ h)
        · rcases List.mem_cons.mp h with rfl | h
          · exact .inl (List.mem_cons_self ..)
          · exact .inr h

theorem getD_setAll (S : List (List (Option α))) (p t : Nat) :
    (setAll S p).getD t [] = (S.getD t []).set p none := by
  unfold setAll
  simp only [List.getD_eq_getElem?_getD, List.getElem?_map]
  cases S[t]? <;> simp [setPair]

variable [LinearOrder α] {β : Type} [LinearOrder β] [Zero β]
variable {m : Nat} {avail : List Bool} {c nAs prev : List Nat} {S : List (List (Option α))} {si ps : Nat}

/-- the state of the batch loop: matrix `t` belongs to the chosen sample `c[t]`, holds no number at an
earlier pick, and from the sample pointer on the block of `c[t]` still holds the pairs due to it -/
structure LoopInv (m : Nat) (avail : List Bool) (c nAs prev : List Nat) (S : List (List (Option α)))
    (si ps : Nat) : Prop where
  len : S.length = c.length
  good : ∀ t, t < c.length → GoodM m avail (c.getD t 0) (S.getD t [])
  picked_nan : ∀ t, ∀ q ∈ prev, ∀ v, (S.getD t [])[q]? ≠ some (some v)
  cur : si < c.length → nAs.getD si 0 ≤ blockCount (S.getD si []) m (c.getD si 0) + ps
  later : ∀ t, si < t → t < c.length → nAs.getD t 0 ≤ blockCount (S.getD t []) m (c.getD t 0)

/-- a pick in the block of the current sample keeps the invariant, whichever way the pointer moves -/
theorem LoopInv.step (hm : 0 < m) (hc : c.Nodup) (h : LoopInv m avail c nAs prev S si ps)
    (hsi : si < c.length) {p : Nat} {mx : α} (hpick : (S.getD si [])[p]? = some (some mx))
    (hblock : p / m = c.getD si 0) :
    LoopInv m avail c nAs (p :: prev) (setAll S p) (si + 1) 0 ∧
    LoopInv m avail c nAs (p :: prev) (setAll S p) si (ps + 1) := by
  have hlen : (setAll S p).length = c.length := by rw [setAll, List.length_map, h.len]
  have hgood : ∀ t, t < c.length → GoodM m avail (c.getD t 0) ((setAll S p).getD t []) := fun t ht => by
    rw [getD_setAll]; exact (h.good t ht).set_none p
  have hprev : ∀ t, ∀ q ∈ p :: prev, ∀ v, ((setAll S p).getD t [])[q]? ≠ some (some v) := fun t q hq v hv => by
    rw [getD_setAll] at hv
    obtain ⟨h1, h2⟩ := getElem?_set_none_eq_some hv
    rcases List.mem_cons.mp hq with rfl | hq
    · exact h2 rfl
    · exact h.picked_nan t q hq v h1
  -- the other chosen samples are distinct from `c[si]`, so their blocks are untouched
  have hother : ∀ t, t ≠ si → t < c.length →
      blockCount ((setAll S p).getD t []) m (c.getD t 0) = blockCount (S.getD t []) m (c.getD t 0) :=
    fun t hts ht => by
      rw [getD_setAll]
      exact blockCount_set_out fun e => hts (getD_inj_of_nodup hc ht hsi (e.symm.trans hblock))
  refine ⟨⟨hlen, hgood, hprev, fun h2 => ?_, fun t h1 h2 => ?_⟩, ⟨hlen, hgood, hprev, fun _ => ?_, fun t h1 h2 => ?_⟩⟩
  · rw [hother _ (Nat.succ_ne_self si) h2]
    exact h.later _ (Nat.lt_succ_self si) h2
  · rw [hother t (Nat.ne_of_gt (Nat.lt_of_succ_lt h1)) h2]
    exact h.later t (Nat.lt_of_succ_lt h1) h2
  · have := blockCount_set_in (S.getD si []) m (p / m) (p % m) mx (Nat.mod_lt _ hm)
      (by rwa [Nat.div_add_mod'])
    rw [Nat.div_add_mod', hblock] at this
    rw [getD_setAll, ← Nat.add_assoc, Nat.add_right_comm, this]
    exact h.cur hsi
  · rw [hother t (Nat.ne_of_gt h1) h2]
    exact h.later t h1 h2

theorem LoopInv.record (h : LoopInv m avail c nAs prev S si ps) (hsi : si < c.length) {p : Nat} {mx : α}
    (hpick : (S.getD si [])[p]? = some (some mx)) : StepOK avail prev p (S.getD si []) := by
  have g := h.good si hsi
  refine ⟨g.availOnly p mx hpick, fun hin => h.picked_nan si p hin mx hpick, ⟨mx, hpick⟩, g.shape, fun q hq => ?_⟩
  refine getD_none_of_not_some _ q fun v hv => ?_
  rcases hq with hq | hq
  · exact absurd (g.availOnly q v hv) (by rw [hq]; exact Bool.false_ne_true)
  · exact h.picked_nan si q hq v hv

/-- from a state with `LoopInv` and `Sched`, `b` more steps succeed, each record is `StepOK`, and the samples served
are `phaseSeq` -/
theorem qaLoop_valid (hm : 0 < m) (hlen : nAs.length = c.length) (hc : c.Nodup) (b : Nat)
    (noises : List (List β)) (inv : LoopInv m avail c nAs prev S si ps) (sch : Sched nAs b si ps)
    (hnoise : b ≤ noises.length) (hpos : PosNoise avail.length noises) :
    (qaLoop b S nAs si ps noises).length = b ∧
    StepsOK avail prev (qaLoop b S nAs si ps noises) ∧
    (qaLoop b S nAs si ps noises).map (fun r => r.1 / m) = phaseSeq b nAs c si ps := by
  induction b generalizing S si ps noises prev with
  | zero => exact ⟨rfl, trivial, rfl⟩
  | succ b ih =>
    cases noises with
    | nil => cases hnoise
    | cons nz ns =>
      have hsi : si < c.length := hlen ▸ sch.si_lt
      have hcur : S[si]? = some (S.getD si []) := by
        rw [getD_eq_getElem S [] (inv.len ▸ hsi)]; exact List.getElem?_eq_getElem _
      -- the current sample still has a free available pair, so the pick belongs to it
      have hc0 := inv.cur hsi
      obtain ⟨⟨hnl, hnp⟩, hpos'⟩ := C18.posNoise_cons.mp hpos
      obtain ⟨mx, hpick, hblock⟩ := (inv.good si hsi).argmax_block
        (by have := sch.ps_lt (hlen ▸ hsi); omega) nz hnl hnp
      obtain ⟨inv1, inv2⟩ := inv.step hm hc hsi hpick hblock
      have hrec := inv.record hsi hpick
      simp only [qaLoop, hcur, phaseSeq]
      by_cases hend : nAs.getD si 0 ≤ ps + 1
      · obtain ⟨i1, i2, i3⟩ := ih ns inv1 (sch.advance hend) (Nat.le_of_succ_le_succ hnoise) hpos'
        simp only [if_pos hend]
        exact ⟨congrArg (· + 1) i1, ⟨hrec, i2⟩, congrArg₂ List.cons hblock i3⟩
      · obtain ⟨i1, i2, i3⟩ := ih ns inv2 (sch.stay hend) (Nat.le_of_succ_le_succ hnoise) hpos'
        simp only [if_neg hend]
        exact ⟨congrArg (· + 1) i1, ⟨hrec, i2⟩, congrArg₂ List.cons hblock i3⟩

end Loop

section LoopInit
variable {α : Type} [Field α] [LinearOrder α] [IsStrictOrderedRing α]

/-- the matrices built by `_get_order_preserving_s_query` start the batch loop: matrix `t` is good for `sIdx[t]` and its
block holds all available pairs of it (`hle`: no more are due) -/
theorem LoopInv.init (ninf : α) (cast : Nat → α) (hcast : ∀ a b : Nat, a < b → cast a + 1 ≤ cast b) {m : Nat}
    {A : List (List Bool)} (hrect : ∀ r ∈ A, r.length = m) {candRows : List (List (Option α))} {sIdx nAs : List Nat}
    {au : List α} (hT : candRows.length = sIdx.length)
    (hinner : ∀ (t : Nat) (row : List (Option α)) (s : Nat), candRows[t]? = some row → sIdx[t]? = some s →
      s < A.length ∧ ∃ v, row[s]? = some (some v))
    (hau : au.length = A.length * m) (hau01 : ∀ a ∈ au, 0 ≤ a ∧ a < 1)
    (hle : ∀ t s, sIdx[t]? = some s → nAs.getD t 0 ≤ nmaxAt A s) :
    LoopInv m A.flatten sIdx nAs [] ((List.zipWith (rankRow ninf cast) candRows sIdx).map (sMatrix m A.flatten au)) 0 0 := by
  generalize hS : (List.zipWith (rankRow ninf cast) candRows sIdx).map (sMatrix m A.flatten au) = S
  have hmat : ∀ t, t < sIdx.length → GoodM m A.flatten (sIdx.getD t 0) (S.getD t []) ∧
      nAs.getD t 0 ≤ blockCount (S.getD t []) m (sIdx.getD t 0) := by
    intro t ht
    obtain ⟨row, h1⟩ := exists_getElem? (l := candRows) (hT ▸ ht)
    obtain ⟨s, h2⟩ := exists_getElem? ht
    obtain ⟨hs, w, hw⟩ := hinner t row s h1 h2
    rw [← hS, getD_map_zipWith _ _ h1 h2, getD_of_getElem? 0 h2,
      blockCount_init m A hrect au hau _ s hs (by rw [isSome_rankRow, getD_of_getElem? none hw]; rfl)]
    exact ⟨GoodM.init ninf cast hcast m _ au hau01 row s, hle t s h2⟩
  exact ⟨by rw [← hS, List.length_map, List.length_zipWith, hT, Nat.min_self], fun t ht => (hmat t ht).1,
    (fun _ _ h => nomatch h), fun h => (hmat 0 h).2, fun t _ ht => (hmat t ht).2⟩

end LoopInit

section Translate
variable {α : Type}

theorem posIn_lt_of_mem {mp : List Nat} {s : Nat} (h : s ∈ mp) : posIn mp s < mp.length :=
  List.idxOf_lt_length_of_mem h

theorem posIn_getD {mp : List Nat} {s : Nat} (h : s ∈ mp) : mp.getD (posIn mp s) 0 = s := by
  rw [getD_eq_getElem mp 0 (posIn_lt_of_mem h)]
  exact List.getElem_idxOf _

theorem posIn_getElem (mp : List Nat) (hnd : mp.Nodup) (i : Nat) (hi : i < mp.length) :
    posIn mp mp[i] = i := hnd.idxOf_getElem i hi

/-- position of an inner pick among the selectable candidates -/
def selPos (mapping : Option (List Nat)) (s : Nat) : Nat :=
  match mapping with
  | none => s
  | some mp => posIn mp s

theorem gatherRow_get (mp : List Nat) (row : List (Option α)) (s : Nat) (h : s ∈ mp) :
    (gatherRow mp row)[posIn mp s]? = some (row.getD s none) := by
  rw [gatherRow, List.getElem?_map, List.getElem?_eq_getElem (posIn_lt_of_mem h), Option.map_some]
  exact congrArg (fun x => some (row.getD x none)) (List.getElem_idxOf _)

/-- `rowSample` with default 0: what `translatePick` computes -/
def rowSampleD (mapping : Option (List Nat)) (i : Nat) : Nat :=
  match mapping with
  | none => i
  | some mp => mp.getD i 0

theorem translatePick_fst (m : Nat) (mapping : Option (List Nat)) (p : Nat) :
    (translatePick m mapping p).1 = rowSampleD mapping (p / m) := by
  cases mapping <;> rfl

/-- with a mapping, the inner strategy's picks and utility rows, translated to positions in `mapping`
(`sample_indices`, `w_utilities[:, mapping]`), keep the inner strategy's contract -/
theorem inner_through_mapping (mp : List Nat) (n : Nat)
    (hml : mp.length = n) (innerPicks : List Nat) (innerU : List (List (Option α)))
    (hU : innerU.length = innerPicks.length) (hnd : innerPicks.Nodup)
    (hin : ∀ (t : Nat) (row : List (Option α)) (s : Nat), innerU[t]? = some row → innerPicks[t]? = some s →
      (∃ v, row.getD s none = some v) ∧ s ∈ mp) :
    (∀ (t : Nat) (row : List (Option α)) (s : Nat), (innerU.map (gatherRow mp))[t]? = some row →
      (innerPicks.map (posIn mp))[t]? = some s → row.length = n ∧ s < n ∧ ∃ v, row[s]? = some (some v)) ∧
    (innerPicks.map (posIn mp)).Nodup ∧
    (innerPicks.map (posIn mp)).map (rowSampleD (some mp)) = innerPicks := by
  have hmem : ∀ s ∈ innerPicks, s ∈ mp := fun s hs => (exists_of_indexed hU hin hs).elim fun _ h => h.2
  refine ⟨fun t row' s' h1 h2 => ?_, ?_, ?_⟩
  · rw [List.getElem?_map, Option.map_eq_some_iff] at h1 h2
    obtain ⟨row, hr, rfl⟩ := h1
    obtain ⟨s, hs, rfl⟩ := h2
    obtain ⟨⟨v, hv⟩, h3⟩ := hin t row s hr hs
    refine ⟨by rw [gatherRow, List.length_map, hml], hml ▸ posIn_lt_of_mem h3, v, ?_⟩
    rw [gatherRow_get mp row s h3, hv]
  · refine nodup_map_of_inj_on _ _ (fun x hx y hy e => ?_) hnd
    rw [← posIn_getD (hmem x hx), ← posIn_getD (hmem y hy), e]
  · rw [List.map_map]
    exact (List.map_congr_left fun s hs => posIn_getD (hmem s hs)).trans (List.map_id _)

/-- availability of the flat output position `q` (the pair `(q / m, q % m)` in the index space of the
result) in terms of `(mapping, A_cand)` -/
def outAvail (m : Nat) (mapping : Option (List Nat)) (A : List (List Bool)) (q : Nat) : Bool :=
  match mapping with
  | none => (A.getD (q / m) []).getD (q % m) false
  | some mp => mp.contains (q / m) && (A.getD (posIn mp (q / m)) []).getD (q % m) false

/-- flat position, in the index space of the result, of a translated pair -/
def outPos (m : Nat) (pr : Nat × Nat) : Nat := pr.1 * m + pr.2

theorem getElem?_scatterRows (nS m : Nat) (mp : List Nat) (row : List (Option α)) (q : Nat) :
    (scatterRows nS m mp row)[q]? = if q < nS * m then some (scatterAt m mp row q) else none :=
  getElem?_map_range ..

theorem scatterRows_getD (nS m : Nat) (mp : List Nat) (row : List (Option α)) (q : Nat) :
    (scatterRows nS m mp row).getD q none = if q < nS * m then scatterAt m mp row q else none := by
  rw [List.getD_eq_getElem?_getD, getElem?_scatterRows]
  split <;> rfl

/-- the flat position among the selectable candidates from which the output position `q` is filled, if any -/
def backPos (m : Nat) (mapping : Option (List Nat)) (q : Nat) : Option Nat :=
  match mapping with
  | none => some q
  | some mp => if mp.contains (q / m) then some (posIn mp (q / m) * m + q % m) else none

theorem outAvail_eq (m : Nat) (hm : 0 < m) (A : List (List Bool)) (hrect : ∀ r ∈ A, r.length = m)
    (mapping : Option (List Nat)) (q : Nat) :
    outAvail m mapping A q = match backPos m mapping q with
      | some p => A.flatten.getD p false
      | none => false := by
  cases mapping with
  | none => exact (getD_flatten A m hm hrect q false).symm
  | some mp =>
    rw [outAvail, backPos]
    cases mp.contains (q / m) with
    | false => rfl
    | true =>
      rw [if_pos rfl, Bool.true_and]
      simp only
      rw [getD_flatten A m hm hrect, div_block (Nat.mod_lt _ hm), Nat.mul_add_mod_of_lt (Nat.mod_lt _ hm)]

theorem translateRow_getD (nS m : Nat) (mapping : Option (List Nat)) (row : List (Option α)) (q : Nat) :
    (translateRow nS m mapping row).getD q none = none ∨
      ∃ p, backPos m mapping q = some p ∧ (translateRow nS m mapping row).getD q none = row.getD p none := by
  cases mapping with
  | none => exact .inr ⟨q, rfl, rfl⟩
  | some mp =>
    rw [translateRow, scatterRows_getD, backPos, scatterAt]
    by_cases hq : q < nS * m
    · rw [if_pos hq]
      by_cases hc : mp.contains (q / m) = true
      · rw [if_pos hc, if_pos hc]; exact .inr ⟨_, rfl, rfl⟩
      · rw [if_neg hc]; exact .inl rfl
    · rw [if_neg hq]; exact .inl rfl

theorem backPos_outPos (m : Nat) (hm : 0 < m) (mapping : Option (List Nat)) (n : Nat)
    (hmp : ∀ mp, mapping = some mp → mp.Nodup ∧ mp.length = n) (p : Nat) (hp : p < n * m) :
    backPos m mapping (outPos m (translatePick m mapping p)) = some p := by
  cases mapping with
  | none => rw [backPos, outPos, translatePick, Nat.div_add_mod']
  | some mp =>
    obtain ⟨hnd, hl⟩ := hmp mp rfl
    have hi : p / m < mp.length := hl ▸ (Nat.div_lt_iff_lt_mul hm).mpr hp
    have hj : p % m < m := Nat.mod_lt _ hm
    rw [backPos, outPos, translatePick, div_block hj, Nat.mul_add_mod_of_lt hj, getD_eq_getElem mp 0 hi,
      if_pos (List.contains_iff_mem.mpr (List.getElem_mem hi)), posIn_getElem mp hnd _ hi, Nat.div_add_mod']

/-- what holds of picks and rows over the selectable candidates carries over to the index space of the result -/
theorem translate_spec (nS m : Nat) (hm : 0 < m) (A : List (List Bool)) (hrect : ∀ r ∈ A, r.length = m)
    (mapping : Option (List Nat))
    (hmp : ∀ mp, mapping = some mp → mp.Nodup ∧ mp.length = A.length)
    (out : List (Nat × List (Option α)))
    (hav : ∀ r ∈ out, A.flatten.getD r.1 false = true)
    (hnan : ∀ k, ∀ hk : k < out.length, ∀ q,
      (A.flatten.getD q false = false ∨ q ∈ (out.map Prod.fst).take k) → out[k].2.getD q none = none) :
    (∀ r ∈ out, (translatePick m mapping r.1).2 < m ∧
      outAvail m mapping A (outPos m (translatePick m mapping r.1)) = true) ∧
    (∀ k, ∀ hk : k < out.length, ∀ q,
      (outAvail m mapping A q = false ∨
        q ∈ ((out.map Prod.fst).take k).map (fun p => outPos m (translatePick m mapping p))) →
      (translateRow nS m mapping out[k].2).getD q none = none) := by
  have hlt : ∀ r ∈ out, r.1 < A.length * m := fun r hr => flatten_getD_true_lt hrect (hav r hr)
  refine ⟨fun r hr => ⟨?_, ?_⟩, fun k hk q hq => ?_⟩
  · cases mapping <;> exact Nat.mod_lt _ hm
  · rw [outAvail_eq m hm A hrect, backPos_outPos m hm mapping _ hmp _ (hlt r hr)]
    exact hav r hr
  · rcases translateRow_getD nS m mapping out[k].2 q with h | ⟨p, hp, h⟩
    · exact h
    · rw [h]
      refine hnan k hk p (hq.imp (fun hq => ?_) fun hq => ?_)
      · rwa [outAvail_eq m hm A hrect, hp] at hq
      · obtain ⟨p', hp', rfl⟩ := List.mem_map.mp hq
        obtain ⟨r, hr, rfl⟩ := List.mem_map.mp (List.mem_of_mem_take hp')
        rw [backPos_outPos m hm mapping _ hmp _ (hlt r hr)] at hp
        exact Option.some.inj hp ▸ hp'

end Translate

section Iet
variable {α : Type}

theorem allTrue_getD (r : List Bool) (k : Nat) (h : allTrue r = true) (hk : k < r.length) :
    r.getD k false = true := by
  rw [getD_eq_getElem r false hk]
  exact List.all_eq_true.mp h _ (List.getElem_mem hk)

theorem getD_map_allTrue (A : List (List Bool)) {i : Nat} (hi : i < A.length) :
    (A.map allTrue).getD i false = allTrue (A.getD i []) := by
  rw [List.getD_eq_getElem?_getD, List.getElem?_map, List.getElem?_eq_getElem hi, getD_eq_getElem A [] hi]
  rfl

theorem getElem?_ietMask (m : Nat) (A : List (List Bool)) (U : List (Option α)) (p : Nat) :
    (ietMask m A U)[p]? =
      if p < A.length * m then some (ietMaskAt m (A.map allTrue) U p) else none :=
  getElem?_map_range ..

theorem getElem?_ietMask_eq_some {m : Nat} (hm : 0 < m) {A : List (List Bool)} (hrect : ∀ r ∈ A, r.length = m)
    {U : List (Option α)} {q : Nat} {v : α} (h : (ietMask m A U)[q]? = some (some v)) :
    q < A.length * m ∧ (A.getD (q / m) []).getD (q % m) false = true := by
  rw [getElem?_ietMask, Option.ite_none_right_eq_some] at h
  have hi : q / m < A.length := (Nat.div_lt_iff_lt_mul hm).mpr h.1
  have hf := (Option.ite_none_right_eq_some.mp (Option.some.inj h.2)).1
  rw [getD_map_allTrue A hi] at hf
  refine ⟨h.1, allTrue_getD _ _ hf ?_⟩
  rw [getD_eq_getElem A [] hi, hrect _ (List.getElem_mem hi)]
  exact Nat.mod_lt _ hm

theorem ietMaskAt_full (m : Nat) (hm : 0 < m) (A : List (List Bool)) (U : List (Option α))
    (hfull : ∀ r ∈ A, allTrue r = true) {p : Nat} (hp : p < A.length * m) :
    ietMaskAt m (A.map allTrue) U p = U.getD p none := by
  have hi : p / m < A.length := (Nat.div_lt_iff_lt_mul hm).mpr hp
  rw [ietMaskAt, getD_map_allTrue A hi, getD_eq_getElem A [] hi, hfull _ (List.getElem_mem hi), if_pos rfl]

theorem ietMask_getD_full (m : Nat) (hm : 0 < m) (A : List (List Bool)) (U : List (Option α))
    (hfull : ∀ r ∈ A, allTrue r = true) (p : Nat) (hp : p < A.length * m) :
    (ietMask m A U).getD p none = U.getD p none := by
  rw [List.getD_eq_getElem?_getD, getElem?_ietMask, if_pos hp, ietMaskAt_full m hm A U hfull hp]
  rfl

theorem ietUtilities_eq (nS m : Nat) (unl : List (List Bool)) (cand : Cand) (annot : Annot)
    (U : List (Option α)) :
    ietUtilities nS m unl cand annot U = translateRow nS m (transformCandAnnot nS m unl cand annot).1
      (ietMask m (transformCandAnnot nS m unl cand annot).2 U) := by
  rw [ietUtilities]
  rcases transformCandAnnot nS m unl cand annot with ⟨_ | mp, A⟩ <;> rfl

theorem getElem?_ietUtilities_eq_some {nS m : Nat} (hm : 0 < m) {unl : List (List Bool)} {cand : Cand} {annot : Annot}
    (hrect : ∀ r ∈ (transformCandAnnot nS m unl cand annot).2, r.length = m)
    {U : List (Option α)} {q : Nat} {v : α}
    (h : (ietUtilities nS m unl cand annot U)[q]? = some (some v)) :
    outAvail m (transformCandAnnot nS m unl cand annot).1 (transformCandAnnot nS m unl cand annot).2 q = true := by
  rw [ietUtilities_eq] at h
  generalize transformCandAnnot nS m unl cand annot = tr at *
  rcases translateRow_getD nS m tr.1 (ietMask m tr.2 U) q with hn | ⟨p, hp, e⟩
  · rw [getD_of_getElem? none h] at hn; cases hn
  · rw [getD_of_getElem? none h] at e
    rw [outAvail_eq m hm _ hrect, hp]
    simp only
    rw [getD_flatten _ m hm hrect]
    exact (getElem?_ietMask_eq_some hm hrect (getD_none_eq_some.mp e.symm)).2

theorem countSome_eq_filter_length (f : Nat → Option α) (N : Nat) :
    countSome ((List.range N).map f) = ((List.range N).filter (fun q => (f q).isSome)).length := by
  rw [countSome, List.filter_map, List.length_map]; rfl

theorem countSome_map_range (N : Nat) (f : Nat → Option α) (h : ∀ p, p < N → (f p).isSome = true) :
    countSome ((List.range N).map f) = N := by
  rw [countSome_eq_filter_length, List.filter_eq_self.mpr fun p hp => h p (List.mem_range.mp hp),
    List.length_range]

theorem countSome_ietMask (m : Nat) (hm : 0 < m) (A : List (List Bool)) (U : List (Option α))
    (hfull : ∀ r ∈ A, allTrue r = true) (hU : ∀ p, p < A.length * m → (U.getD p none).isSome = true) :
    countSome (ietMask m A U) = A.length * m := by
  rw [ietMask]
  exact countSome_map_range _ _ fun p hp => by rw [ietMaskAt_full m hm A U hfull hp]; exact hU p hp

theorem countSome_scatterRows (nS m : Nat) (hm : 0 < m) (mp : List Nat) (hnd : mp.Nodup)
    (hlt : ∀ s ∈ mp, s < nS) (row : List (Option α))
    (hrow : ∀ p, p < mp.length * m → (row.getD p none).isSome = true) :
    countSome (scatterRows nS m mp row) = mp.length * m := by
  unfold scatterRows
  rw [countSome_eq_filter_length]
  have e : (fun q => (scatterAt m mp row q).isSome) = (fun q => mp.contains (q / m)) := by
    funext q
    unfold scatterAt
    cases hc : mp.contains (q / m) with
    | false => simp
    | true =>
      simp only [if_true]
      exact hrow _ (flat_lt (posIn_lt_of_mem (List.contains_iff_mem.mp hc)) (Nat.mod_lt _ hm))
  rw [e, block_filter_length m (fun s => mp.contains s) nS, filter_contains_length nS mp hnd hlt, Nat.mul_comm]

end Iet

end Ska.MultiAnnot
