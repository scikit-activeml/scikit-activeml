import Mathlib.Algebra.BigOperators.Group.List.Basic
import Mathlib.Algebra.Order.Field.Basic
import SkaModel.Core.Aggregation
import SkaModel.Lemmas.Label
import SkaModel.Lemmas.Selection

/-! Lemmas about the aggregation model (`Core/Aggregation.lean`) for `Props/C17.lean`.

`compute_vote_vectors` is read off bin by bin: bin `p` of the `bincount` holds `wsum p`, which for the offsets
of a label matrix is the vote of row `p / K` for class `p % K` (`computeVoteVectors_eq`). `majority_vote`
gathers the labeled rows, picks per row and scatters the picks back: `forall₂_scatterPicks` carries a relation
between selected rows and picks over to all rows and the result, so no row index is computed. -/

namespace Ska.Agg
open Ska Ska.Label

section Bincount
variable {α : Type} [AddMonoid α]

/-- the weight booked on bin `p` by the index/weight pairs, in array order. -/
def wsum (p : Nat) : List Nat → List α → α
  | i :: is, w :: ws => (if i = p then w else 0) + wsum p is ws
  | _, _ => 0

theorem addAt_eq_modify (acc : List α) (i : Nat) (w : α) : addAt acc i w = acc.modify i (· + w) := by
  induction acc generalizing i with
  | nil => cases i <;> rfl
  | cons x xs ih =>
    cases i with
    | zero => rfl
    | succ i => exact congrArg (x :: ·) (ih i)

theorem bincountGo_length (acc : List α) (idx : List Nat) (wts : List α) :
    (bincountGo acc idx wts).length = acc.length := by
  induction idx generalizing acc wts with
  | nil => rw [bincountGo]
  | cons i is ih =>
    cases wts with
    | nil => rw [bincountGo]
    | cons w ws => rw [bincountGo, ih, addAt_eq_modify, List.length_modify]

theorem getElem?_bincountGo (acc : List α) (idx : List Nat) (wts : List α) (p : Nat) :
    (bincountGo acc idx wts)[p]? = (acc[p]?).map (· + wsum p idx wts) := by
  induction idx generalizing acc wts with
  | nil => simp [bincountGo, wsum]
  | cons i is ih =>
    cases wts with
    | nil => simp [bincountGo, wsum]
    | cons w ws =>
      rw [bincountGo, ih, addAt_eq_modify, List.getElem?_modify, wsum]
      cases acc[p]? with
      | none => rfl
      | some x => by_cases h : i = p <;> simp [h, add_assoc]

theorem getElem?_bincount (len : Nat) (idx : List Nat) (wts : List α) (p : Nat) (hp : p < len) :
    (bincount len idx wts)[p]? = some (wsum p idx wts) := by
  rw [bincount, getElem?_bincountGo, List.getElem?_replicate, if_pos hp, Option.map_some, zero_add]

theorem bincount_length (len : Nat) (idx : List Nat) (wts : List α) :
    (bincount len idx wts).length = len :=
  (bincountGo_length _ idx wts).trans List.length_replicate

theorem wsum_append (p : Nat) (i1 i2 : List Nat) (w1 w2 : List α) (h : i1.length = w1.length) :
    wsum p (i1 ++ i2) (w1 ++ w2) = wsum p i1 w1 + wsum p i2 w2 := by
  induction i1 generalizing w1 with
  | nil =>
    cases w1 with
    | nil => exact (zero_add _).symm
    | cons _ _ => cases h
  | cons i is ih =>
    cases w1 with
    | nil => cases h
    | cons w ws => exact (congrArg _ (ih ws (Nat.succ.inj h))).trans (add_assoc ..).symm

/-- weights booked on the consecutive bins `i0, i0+1, …`: bin `q` receives `vs[q - i0]`. -/
theorem wsum_range' (q i0 n : Nat) (vs : List α) (hn : vs.length = n) :
    wsum q (List.range' i0 n) vs = if i0 ≤ q then vs[q - i0]?.getD 0 else 0 := by
  subst hn
  induction vs generalizing i0 with
  | nil => rw [List.getElem?_nil]; exact (ite_self 0).symm
  | cons v vs ih =>
    rw [List.length_cons, List.range'_succ, wsum, ih]
    obtain h | rfl | h := Nat.lt_trichotomy i0 q
    · rw [if_neg (Nat.ne_of_lt h), if_pos (show i0 + 1 ≤ q from h), if_pos (Nat.le_of_lt h), zero_add,
        ← Nat.succ_pred_eq_of_pos (Nat.sub_pos_of_lt h), List.getElem?_cons_succ, Nat.sub_succ]
    · rw [if_pos rfl, if_neg (Nat.not_succ_le_self _), if_pos (Nat.le_refl _), Nat.sub_self, add_zero]; rfl
    · rw [if_neg (Nat.ne_of_gt h), if_neg (Nat.not_le_of_lt (Nat.lt_succ_of_lt h)),
        if_neg (Nat.not_le_of_lt h), zero_add]

end Bincount

section RowVote
variable {α : Type} [AddMonoid α]

/-- weight of an annotation once NaN weights are ignored. -/
def weightOf : Option α → α
  | none => 0
  | some v => v

/-- the counting specification for one sample: `Σ_j w[j] · [y[j] = c]` (missing labels have the code
`-1`, which is no class; NaN weights count `0`). -/
def rowVote (c : Nat) : List Int → List (Option α) → α
  | e :: es, w :: ws => (if e = (c : Int) then weightOf w else 0) + rowVote c es ws
  | _, _ => 0

/-- valid output of the encoder: `-1` or a class index. -/
def ValidCode (K : Nat) (e : Int) : Prop := e = -1 ∨ (0 ≤ e ∧ e < (K : Int))

theorem offsetRow_eq_iff (K i : Nat) (e : Int) (p : Nat) (hK : 0 < K) (he : 0 ≤ e ∧ e < (K : Int)) :
    offsetRow K i e = p ↔ (i = p / K ∧ e = ((p % K : Nat) : Int)) := by
  obtain ⟨n, rfl⟩ := Int.eq_ofNat_of_zero_le he.1
  have hn : n < K := Int.ofNat_lt.mp he.2
  rw [offsetRow, voteClass, if_neg (natCast_ne_neg_one n), Int.toNat_natCast, Nat.mul_comm, Int.natCast_inj,
    eq_comm (a := n), eq_comm (a := i), Nat.div_mod_unique hK, and_iff_left hn]

theorem ite_offsetRow_eq (K i p : Nat) (hK : 0 < K) (e : Int) (he : ValidCode K e) (w : Option α) :
    (if offsetRow K i e = p then voteWeight e w else 0) =
      if i = p / K then (if e = ((p % K : Nat) : Int) then weightOf w else 0) else 0 := by
  rcases he with rfl | he
  · -- a missing label is booked on class 0 of its row, with weight 0
    rw [if_neg (natCast_ne_neg_one (p % K)).symm, ite_self, show voteWeight (α := α) (-1) w = 0 from if_pos rfl, ite_self]
  · have hne : ¬ e = -1 := fun h => absurd he.1 (h ▸ by decide)
    rw [if_congr (offsetRow_eq_iff K i e p hK he) rfl rfl, ite_and]
    simp only [voteWeight, if_neg hne]
    cases w <;> rfl

theorem wsum_row (K i p : Nat) (hK : 0 < K) (r : List Int) (wr : List (Option α))
    (hv : ∀ e ∈ r, ValidCode K e) :
    wsum p (r.map (offsetRow K i)) (List.zipWith voteWeight r wr) =
      if i = p / K then rowVote (p % K) r wr else 0 := by
  induction r generalizing wr with
  | nil => exact (ite_self 0).symm
  | cons e es ih =>
    cases wr with
    | nil => exact (ite_self 0).symm
    | cons w ws =>
      rw [List.map_cons, List.zipWith_cons_cons, wsum, rowVote,
        ih ws fun e' he' => hv e' (List.mem_cons_of_mem _ he'), ite_offsetRow_eq K i p hK e (hv e List.mem_cons_self)]
      exact ite_add_zero.symm

theorem sameShape_cons {β γ : Type} (r : List β) (rs : List (List β)) (w : List γ) (ws : List (List γ)) :
    sameShape (r :: rs) (w :: ws) = true ↔ r.length = w.length ∧ sameShape rs ws = true := by
  rw [sameShape, Bool.and_eq_true, beq_iff_eq]

theorem sameShape_iff {β γ : Type} (rs : List (List β)) (ws : List (List γ)) :
    sameShape rs ws = true ↔ rs.map List.length = ws.map List.length := by
  induction rs generalizing ws with
  | nil => cases ws <;> simp [sameShape]
  | cons r rs ih =>
    cases ws with
    | nil => exact iff_of_false Bool.false_ne_true (List.cons_ne_nil _ _)
    | cons w ws => rw [sameShape_cons, ih, List.map_cons, List.map_cons, List.cons.injEq]

theorem sameShape_length {β γ : Type} (rs : List (List β)) (ws : List (List γ))
    (h : sameShape rs ws = true) : rs.length = ws.length := by
  simpa using congrArg List.length ((sameShape_iff rs ws).mp h)

theorem flatWeights_length (rows : List (List Int)) (wts : List (List (Option α)))
    (h : sameShape rows wts = true) :
    (flatWeights rows wts).length = (rows.map List.length).sum := by
  induction rows generalizing wts with
  | nil => rfl
  | cons r rs ih =>
    cases wts with
    | nil => cases h
    | cons w ws =>
      obtain ⟨h1, h2⟩ := (sameShape_cons r rs w ws).mp h
      simp [flatWeights, ih ws h2, h1]

/-- the flat bincount read at bin `p` is a bincount over the rows, read at bin `p / K`, of the rows' votes for
class `p % K`. -/
theorem wsum_offsets (K i0 p : Nat) (hK : 0 < K) (rows : List (List Int)) (wts : List (List (Option α)))
    (hs : sameShape rows wts = true) (hv : ∀ r ∈ rows, ∀ e ∈ r, ValidCode K e) :
    wsum p (offsets K i0 rows) (flatWeights rows wts) =
      wsum (p / K) (List.range' i0 rows.length) (List.zipWith (rowVote (p % K)) rows wts) := by
  induction rows generalizing wts i0 with
  | nil => rfl
  | cons r rs ih =>
    cases wts with
    | nil => cases hs
    | cons w ws =>
      obtain ⟨h1, h2⟩ := (sameShape_cons r rs w ws).mp hs
      rw [offsets, flatWeights, wsum_append _ _ _ _ _ (by rw [List.length_map, List.length_zipWith, ← h1, Nat.min_self]),
        wsum_row K i0 p hK r w (hv r List.mem_cons_self),
        ih (i0+1) ws h2 (fun r' hr' => hv r' (List.mem_cons_of_mem _ hr')),
        List.length_cons, List.range'_succ, List.zipWith_cons_cons, wsum]

end RowVote

section VoteSpec
variable {α : Type} [Semiring α]

theorem sameShape_onesLike (yenc : List (List Int)) :
    sameShape yenc (onesLike (α := α) yenc) = true := by
  rw [sameShape_iff, onesLike, List.map_map]
  exact List.map_congr_left fun r _ => (List.length_map _).symm

theorem offsets_length (K i0 : Nat) (rows : List (List Int)) :
    (offsets K i0 rows).length = (rows.map List.length).sum := by
  induction rows generalizing i0 with
  | nil => simp [offsets]
  | cons r rs ih => simp [offsets, ih]

/-- The guards of `computeVoteVectors`, read off a normal return. Nothing else opens the definition on the `.ok`
side. -/
theorem computeVoteVectors_eq_ok_iff {K : Nat} {yenc : List (List Int)} {w : Option (List (List (Option α)))}
    {V : List (List α)} :
    computeVoteVectors K yenc w = .ok V ↔ K ≠ 0 ∧ sameShape yenc (effWeights yenc w) = true ∧
      V = rowsOf K yenc.length
        (bincount (yenc.length * K) (offsets K 0 yenc) (flatWeights yenc (effWeights yenc w))) := by
  rw [computeVoteVectors, ite_error_eq_ok_iff, ite_error_eq_ok_iff, Bool.not_eq_true', Bool.not_eq_false,
    Except.ok.injEq, eq_comm (a := V)]

theorem computeVoteVectors_eq (K : Nat) (yenc : List (List Int)) (w : Option (List (List (Option α))))
    (hK : K ≠ 0) (hs : sameShape yenc (effWeights yenc w) = true)
    (hv : ∀ r ∈ yenc, ∀ e ∈ r, ValidCode K e) :
    computeVoteVectors K yenc w = .ok (List.zipWith (fun r wi => (List.range K).map (rowVote · r wi))
      yenc (effWeights yenc w)) := by
  have hK' : 0 < K := Nat.pos_of_ne_zero hK
  have hwl := sameShape_length _ _ hs
  rw [computeVoteVectors_eq_ok_iff.mpr ⟨hK, hs, rfl⟩]
  refine congrArg Except.ok (List.ext_getElem (by simp [rowsOf_length, ← hwl]) fun i h1 h2 => ?_)
  have hi : i < yenc.length := by simpa [rowsOf_length] using h1
  rw [List.getElem_eq_iff, getElem?_rowsOf K _ _ i hi, Option.some.injEq, List.getElem_zipWith]
  refine List.ext_getElem? fun c => ?_
  rw [getElem?_block, getElem?_map_range]
  by_cases hc : c < K
  · -- entry `(i, c)` is bin `i * K + c`
    rw [if_pos hc, if_pos hc, getElem?_bincount _ _ _ _ (flat_lt hi hc), wsum_offsets K 0 _ hK' yenc _ hs hv,
      div_block hc, Nat.mul_add_mod_of_lt hc, wsum_range' _ _ _ _ (by rw [List.length_zipWith, ← hwl, Nat.min_self]),
      if_pos (Nat.zero_le _), Nat.sub_zero, List.getElem?_zipWith, List.getElem?_eq_getElem hi,
      List.getElem?_eq_getElem (hwl ▸ hi)]
    rfl
  · rw [if_neg hc, if_neg hc]

theorem computeVoteVectors_rows {K : Nat} {yenc : List (List Int)} {w : Option (List (List (Option α)))}
    {V : List (List α)} (h : computeVoteVectors K yenc w = .ok V) (hv : ∀ r ∈ yenc, ∀ e ∈ r, ValidCode K e) :
    V.length = yenc.length ∧ ∀ i, ∀ hi : i < yenc.length, ∃ wi, (effWeights yenc w)[i]? = some wi ∧
      V[i]? = some ((List.range K).map (rowVote · yenc[i] wi)) := by
  obtain ⟨hK, hs, -⟩ := computeVoteVectors_eq_ok_iff.mp h
  obtain rfl := Except.ok.inj ((computeVoteVectors_eq K yenc w hK hs hv).symm.trans h)
  have hwl := sameShape_length _ _ hs
  refine ⟨by rw [List.length_zipWith, ← hwl, Nat.min_self], fun i hi =>
    ⟨_, List.getElem?_eq_getElem (hwl ▸ hi), ?_⟩⟩
  rw [List.getElem?_zipWith, List.getElem?_eq_getElem hi, List.getElem?_eq_getElem (hwl ▸ hi)]

theorem rowVote_ones (c : Nat) (r : List Int) :
    rowVote (α := α) c r (r.map (fun _ => some (1 : α))) = ((r.filter (fun e => decide (e = (c : Int)))).length : α) := by
  induction r with
  | nil => simp [rowVote]
  | cons e es ih =>
    simp only [List.map_cons, rowVote, ih, weightOf]
    by_cases he : e = (c : Int)
    · simp [he, add_comm]
    · simp [he]

theorem rowVote_eq_sum (c : Nat) (r : List Int) (w : List (Option α)) :
    rowVote c r w = ((r.zip w).map (fun ew => if ew.1 = (c : Int) then weightOf ew.2 else 0)).sum := by
  induction r generalizing w with
  | nil => simp [rowVote]
  | cons e es ih =>
    cases w with
    | nil => simp [rowVote]
    | cons x xs => simp [rowVote, ih]

end VoteSpec

section Select
variable {γ δ ν : Type}

theorem selectRows_nil (xs : List γ) : selectRows [] xs = [] := rfl

theorem selectRows_nil_right (lab : List Bool) : selectRows lab ([] : List γ) = [] := by
  rcases lab with _ | ⟨_ | _, _⟩ <;> rfl

theorem selectRows_cons (b : Bool) (bs : List Bool) (x : γ) (xs : List γ) :
    selectRows (b :: bs) (x :: xs) = if b then x :: selectRows bs xs else selectRows bs xs := by
  cases b <;> rfl

theorem selectRows_map (f : γ → δ) (lab : List Bool) (xs : List γ) :
    selectRows lab (xs.map f) = (selectRows lab xs).map f := by
  induction lab generalizing xs with
  | nil => rfl
  | cons b bs ih =>
    cases xs with
    | nil => simp only [List.map_nil, selectRows_nil_right]
    | cons x xs =>
      cases b <;> simp only [List.map_cons, selectRows_cons, ih, if_true, Bool.false_eq_true, if_false]

theorem selectRows_zip (lab : List Bool) (xs : List γ) (ys : List δ) :
    selectRows lab (xs.zip ys) = (selectRows lab xs).zip (selectRows lab ys) := by
  induction lab generalizing xs ys with
  | nil => rfl
  | cons b bs ih =>
    cases xs with
    | nil => simp only [List.zip_nil_left, selectRows_nil_right]
    | cons x xs =>
      cases ys with
      | nil => simp only [List.zip_nil_right, selectRows_nil_right]
      | cons y ys =>
        cases b <;> simp only [List.zip_cons_cons, selectRows_cons, ih, if_true, Bool.false_eq_true, if_false]

theorem selectRows_sublist (lab : List Bool) (xs : List γ) : (selectRows lab xs).Sublist xs := by
  induction lab generalizing xs with
  | nil => exact List.nil_sublist _
  | cons b bs ih =>
    cases xs with
    | nil => rw [selectRows_nil_right]
    | cons x xs =>
      rw [selectRows_cons]
      cases b
      · exact (ih xs).cons _
      · exact (ih xs).cons_cons _

theorem sameShape_selectRows {β : Type} (lab : List Bool) (rs : List (List β)) (ws : List (List γ))
    (h : sameShape rs ws = true) : sameShape (selectRows lab rs) (selectRows lab ws) = true := by
  rw [sameShape_iff] at h ⊢
  rw [← selectRows_map, ← selectRows_map, h]

/-- scatter after gather: the `k`-th pick lands at the place of the `k`-th selected row, the other rows
get the sentinel. -/
theorem forall₂_scatterPicks {R : γ → Int → Prop} (g : γ → Bool) (xs : List γ) (picks : List Nat)
    (h : List.Forall₂ (fun x (p : Nat) => R x p) (selectRows (xs.map g) xs) picks) :
    List.Forall₂ (fun x c => if g x then R x c else c = -1) xs (scatterPicks (xs.map g) picks) := by
  induction xs generalizing picks with
  | nil => exact .nil
  | cons x xs ih =>
    rw [List.map_cons, selectRows_cons] at h
    rw [List.map_cons]
    cases hg : g x with
    | false =>
      rw [hg, if_neg Bool.false_ne_true] at h
      exact .cons (by rw [hg, if_neg Bool.false_ne_true]) (ih picks h)
    | true =>
      rw [hg, if_pos rfl] at h
      cases h with
      | cons hp ht => exact .cons (by rw [hg, if_pos rfl]; exact hp) (ih _ ht)

theorem forall₂_zipWith_of_forall_mem {Q : γ → δ → Prop} (f : γ → ν → δ) (l : List γ) (ns : List ν)
    (hl : ns.length = l.length) (h : ∀ x ∈ l, ∀ n ∈ ns, Q x (f x n)) :
    List.Forall₂ Q l (List.zipWith f l ns) := by
  induction l generalizing ns with
  | nil => exact .nil
  | cons x xs ih =>
    cases ns with
    | nil => cases hl
    | cons n ns =>
      exact .cons (h x List.mem_cons_self n List.mem_cons_self)
        (ih ns (Nat.succ.inj hl) fun y hy m hm => h y (List.mem_cons_of_mem _ hy) m (List.mem_cons_of_mem _ hm))

theorem effWeights_selectRows {α : Type} [OfNat α 1] (lab : List Bool) (yenc : List (List Int))
    (w : Option (List (List (Option α)))) :
    effWeights (selectRows lab yenc) (w.map (selectRows lab)) = selectRows lab (effWeights yenc w) := by
  cases w with
  | none => exact (selectRows_map _ lab yenc).symm
  | some w => rfl

end Select

section MajoritySpec
variable {α : Type} [LinearOrder α] {β : Type} [LinearOrder β] [Zero β] [Semiring α]

/-- `majorityVote` with its `match w` written as `Option.map`, the form that `effWeights_selectRows` rewrites. -/
theorem majorityVote_eq (K : Nat) (yenc : List (List Int)) (w : Option (List (List (Option α))))
    (noise : List (List β)) :
    majorityVote K yenc w noise =
      if !((yenc.map rowLabeled).any id) then .ok (yenc.map (fun _ => -1))
      else match computeVoteVectors K (selectRows (yenc.map rowLabeled) yenc)
          (w.map (selectRows (yenc.map rowLabeled))) with
        | .error e => .error e
        | .ok v => .ok (scatterPicks (yenc.map rowLabeled) (randArgmaxRows (v.map someRow) noise)) := by
  cases w <;> rfl

/-- `majority_vote` as a relation between each sample, paired with its weights, and its entry of the result. -/
theorem majorityVote_forall₂ (K : Nat) (yenc : List (List Int)) (w : Option (List (List (Option α))))
    (noise : List (List β)) (hK : 0 < K)
    (hv : ∀ r ∈ yenc, ∀ e ∈ r, ValidCode K e)
    (hs : sameShape yenc (effWeights yenc w) = true)
    (hn : noise.length = (selectRows (yenc.map rowLabeled) yenc).length)
    (hpos : ∀ nz ∈ noise, nz.length = K ∧ ∀ x ∈ nz, 0 < x) :
    ∃ res, majorityVote K yenc w noise = .ok res ∧
      List.Forall₂ (fun (yw : List Int × List (Option α)) (c : Int) =>
          if rowLabeled yw.1 then
            ∃ c₀ : Nat, c₀ < K ∧ c = c₀ ∧ ∀ c', c' < K → rowVote c' yw.1 yw.2 ≤ rowVote c₀ yw.1 yw.2
          else c = -1)
        (yenc.zip (effWeights yenc w)) res := by
  have hwl := sameShape_length _ _ hs
  -- the mask, the selected rows and the result are re-expressed over `yenc.zip (effWeights yenc w)`, the list
  -- that `forall₂_scatterPicks` is then applied to
  have hmap {δ : Type} (f : List Int → δ) :
      yenc.map f = (yenc.zip (effWeights yenc w)).map (fun yw => f yw.1) := by
    conv_lhs => rw [← List.map_fst_zip hwl.le, List.map_map]
    rfl
  rw [majorityVote_eq]
  cases hany : (yenc.map rowLabeled).any id with
  | false =>
    refine ⟨_, rfl, ?_⟩
    rw [hmap, List.forall₂_map_right_iff, List.forall₂_same]
    intro x hx
    have : rowLabeled x.1 = false := by
      simpa using List.any_eq_false.mp hany _ (List.mem_map_of_mem (List.of_mem_zip hx).1)
    rw [this, if_neg Bool.false_ne_true]
  | true =>
    rw [computeVoteVectors_eq K _ _ hK.ne' (by rw [effWeights_selectRows]; exact sameShape_selectRows _ _ _ hs)
      fun r hr => hv r ((selectRows_sublist _ _).subset hr), effWeights_selectRows]
    refine ⟨_, rfl, ?_⟩
    have hn' : noise.length = (selectRows (yenc.map rowLabeled) (yenc.zip (effWeights yenc w))).length := by
      rw [hn, ← List.length_map (f := Prod.fst), ← selectRows_map, List.map_fst_zip hwl.le]
    rw [← List.map_uncurry_zip_eq_zipWith, ← selectRows_zip, List.map_map, randArgmaxRows, List.zipWith_map_left]
    rw [hmap rowLabeled] at hn' ⊢
    refine forall₂_scatterPicks (fun yw : List Int × List (Option α) => rowLabeled yw.1) _ _
      (forall₂_zipWith_of_forall_mem _ _ _ hn' fun ⟨r, wi⟩ _ nz hnz => ?_)
    obtain ⟨nl, np⟩ := hpos nz hnz
    have hlen : ((List.range K).map (rowVote · r wi)).length = K := by rw [List.length_map, List.length_range]
    obtain ⟨m, hm, hmax⟩ := C18.randArgmax_map_some ((List.range K).map (rowVote · r wi)) nz (nl.trans hlen.symm) np
      (List.ne_nil_of_length_pos (hK.trans_eq hlen.symm))
    obtain ⟨h, rfl⟩ := List.getElem?_eq_some_iff.mp hm
    refine ⟨_, h.trans_eq hlen, rfl, fun c' hc' => ?_⟩
    refine (hmax _ (List.mem_map.mpr ⟨c', List.mem_range.mpr hc', rfl⟩)).trans_eq ?_
    rw [List.getElem_map, List.getElem_range]

end MajoritySpec

section Confusion

theorem pairIs_missing (i j : Nat) (t : Int) : pairIs i j (t, -1) = false := by
  simp only [pairIs, Bool.and_eq_false_iff, decide_eq_false_iff_not]
  right; omega

theorem labeledPairs_filter (i j : Nat) (ts ps : List Int) :
    (labeledPairs ts ps).filter (pairIs i j) = (ts.zip ps).filter (pairIs i j) := by
  induction ts generalizing ps with
  | nil => simp [labeledPairs]
  | cons t ts ih =>
    cases ps with
    | nil => simp [labeledPairs]
    | cons p ps =>
      simp only [labeledPairs, List.zip_cons_cons]
      by_cases hp : p = -1
      · subst hp
        rw [if_pos rfl, List.filter_cons, pairIs_missing, ih]
        simp
      · rw [if_neg hp, List.filter_cons, List.filter_cons, ih]

theorem getElem?_confusionCounts (K : Nat) (pairs : List (Int × Int)) (i : Nat) (hi : i < K) :
    (confusionCounts K pairs)[i]? = some ((List.range K).map fun j => (pairs.filter (pairIs i j)).length) := by
  rw [confusionCounts, getElem?_map_range, if_pos hi]

theorem extConfusionMatrix_some {α : Type} [Div α] [OfNat α 1] (cast : Nat → α) (K : Nat) (ts : List Int)
    (predCols : List (List Int)) (nm : Norm) :
    extConfusionMatrix cast K ts predCols (some nm) =
      if ts.any (fun t => decide (t = -1)) then .error .trueMissing
      else .ok (predCols.map fun ps => normalizeCm cast K nm (confusionCounts K (labeledPairs ts ps))) :=
  rfl

theorem natSum_eq_sum (l : List Nat) : natSum l = l.sum := rfl

variable {α : Type} [Field α]

theorem cast_natSum (l : List Nat) : ((natSum l : Nat) : α) = (l.map (fun (c : Nat) => (c : α))).sum := by
  induction l with
  | nil => exact Nat.cast_zero
  | cons x xs ih =>
    rw [natSum_eq_sum, List.sum_cons, Nat.cast_add, List.map_cons, List.sum_cons, ← ih, natSum_eq_sum]

theorem sum_map_div (l : List Nat) (s : α) :
    (l.map (fun (c : Nat) => (c : α) / s)).sum = (l.map (fun (c : Nat) => (c : α))).sum / s := by
  induction l with
  | nil => exact (zero_div s).symm
  | cons x xs ih => rw [List.map_cons, List.sum_cons, ih, List.map_cons, List.sum_cons, add_div]

theorem normalised_row_sum [CharZero α] (l : List Nat) (h : natSum l ≠ 0) :
    (l.map (fun (c : Nat) => (c : α) / ((natSum l : Nat) : α))).sum = 1 := by
  rw [sum_map_div, ← cast_natSum]
  exact div_self (by exact_mod_cast h)

end Confusion

end Ska.Agg
