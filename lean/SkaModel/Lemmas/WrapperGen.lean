import SkaModel.Gen.WrapperGen
import SkaModel.Lemmas.IndexWrapper

/-! Bridging lemmas: the blocks translated from the current source of `IndexClassifierWrapper` (`Gen/WrapperGen.lean`)
compute, for all inputs, what the hand-written model does: `merge`, the storing tail of `fit`, `partialNative`. -/

namespace Ska.Gen.IW
open Ska Ska.IW Ska.PyIW

variable {C L W : Type}

theorem npIndex_eq_selKeep {α : Type} (u : Bool) (cur add : List Int) (l : List α) :
    npIndex l (if u then CurIdx.mask (cur.map (fun i => !(add.contains i))) else CurIdx.arange cur.length) =
      match selKeep u (keepMask u cur add) l with
      | some r => .ok r
      | none => .error .index := by
  cases u
  · simp only [Bool.false_eq_true, ↓reduceIte, npIndex, selKeep, keepMask_false, List.length_replicate,
      maskSel_replicate_true]
    by_cases h : cur.length ≤ l.length <;> simp [h]
  · simp only [↓reduceIte, npIndex, selKeep, keepMask_true, List.length_map]
    by_cases h : l.length = cur.length <;> simp [h]

/-- **the translated block is `merge`** -/
theorem merge_eq (u : Bool) (d : Data L W) (idx : List Int) (ay : List L) (aw : Option (List W)) :
    partial_fit.merge u d.idx d.y d.sw idx ay aw = merge u d idx ay aw := by
  obtain ⟨i, y, sw⟩ := d
  have hi : selKeep u (keepMask u i idx) i = some (maskSel i (keepMask u i idx)) :=
    selKeep_some u _ i (keepMask_length u i idx).symm
  simp only [partial_fit.merge, merge, bind, Except.bind, npIndex_eq_selKeep, hi]
  cases selKeep u (keepMask u i idx) y with
  | none => rfl
  | some ky =>
    cases sw with
    | none => cases aw <;> rfl
    | some w =>
      simp only [_get_sw, bind, Except.bind, npIndex_eq_selKeep]
      cases selKeep u (keepMask u i idx) w with
      | none => rfl
      | some kw => cases aw <;> rfl

/-- `(idx_, y_, sample_weight_)` as the model's training record: present once all three attributes are assigned -/
def absRec (i : Option (List Int)) (y : Option (List L)) (w : Option (Option (List W))) : Option (Data L W) :=
  match i, y, w with
  | some i, some y, some w => some ⟨i, y, w⟩
  | _, _, _ => none

/-- the model state an object stands for -/
def absW (o : WObj C L W) : St C L W :=
  ⟨o.clf_, absRec o.idx_ o.y_ o.sample_weight_, o.base_clf_, absRec o.base_idx_ o.base_y_ o.base_sample_weight_⟩

/-- The translated tail of `fit` is the model's one way of storing, `St.store`: on an object whose `clf_` has just been
fitted it never raises. This is the form proofs cite. The block is straight-line code: it is run for every value of its flags. -/
theorem fit_store_eq_store (native sb : Bool) (o : WObj C L W) (c : C) (idx : List Int) (y : List L)
    (sw : Option (List W)) (hc : o.clf_ = some c) :
    ∃ o', fit.store native sb o idx y sw = .ok o' ∧ absW o' = (absW o).store native c ⟨idx, y, sw⟩ sb := by
  obtain ⟨clf, i, yy, w, bc, bi, by', bw⟩ := o
  subst hc
  cases native <;> cases sb <;> cases sw <;> exact ⟨_, rfl, rfl⟩

/-- **the translated tail of `fit` ends in the state the model's `fit` ends in**: `fit_store_eq_store` with `St.store` written
out as the text of `Ska.IW.fit` has it — `⟨clf_, cur', base classifier, base record⟩`, `cur'` = the new record unless the
classifier has a native `partial_fit`. -/
theorem fit_store_abs (native sb : Bool) (o : WObj C L W) (c : C) (idx : List Int) (y : List L) (sw : Option (List W))
    (hc : o.clf_ = some c) :
    ∃ o', fit.store native sb o idx y sw = .ok o' ∧
      absW o' =
        (let cur' := if native then (absW o).cur else some ⟨idx, y, sw⟩
         if sb then ⟨some c, cur', some c, if native then (absW o).base else cur'⟩
         else ⟨some c, cur', (absW o).bclf, (absW o).base⟩) := by
  obtain ⟨o', h1, h2⟩ := fit_store_eq_store native sb o c idx y sw hc
  exact ⟨o', h1, h2.trans (by cases sb <;> cases native <;> rfl)⟩

theorem xRows_eq (cfg : Cfg L W) (idx : List Int) :
    xRows cfg.n idx = if xIndexOk cfg idx then .ok idx else .error .index := rfl

/-- **the translated native branch is `partialNative`**: on an object that holds the classifier to update (which the argument
validation of `partial_fit` has established before: `NotFittedError` otherwise) it raises exactly when `self.X[add_idx]` does, and
otherwise leaves attributes that stand for the state `Ska.IW.partialNative` returns; the stored training records are untouched.
Again the block is run in every flag combination. -/
theorem native_abs (cfg : Cfg L W) (pfit : C → Data L W → C) (ub sb : Bool) (o : WObj C L W) (c : C)
    (idx : List Int) (ay : List L) (aw : Option (List W))
    (hc : (if ub then o.base_clf_ else o.clf_) = some c) :
    (match partial_fit.native cfg.n pfit ub sb o idx ay aw with
     | .ok o' => (absW o', (none : Option Err))
     | .error e => (absW o, some e)) = partialNative cfg pfit (absW o) idx ay aw ub sb := by
  obtain ⟨clf, i, yy, w, bc, bi, by', bw⟩ := o
  unfold partial_fit.native partialNative
  rw [xRows_eq]
  cases xIndexOk cfg idx
  · rfl
  · cases ub <;> cases hc <;> cases sb <;> cases aw <;> rfl

end Ska.Gen.IW
