import SkaModel.Gen.StreamBM
import SkaModel.Lemmas.Basic
import SkaModel.Lemmas.SimLoop

/-! The methods translated from the Python source (`Gen/StreamBM.lean`) compute what the hand-written models of
`Core/Budget.lean` and `Core/Stream.lean` compute, for all inputs: one `*_query_eq` and one `*_update_eq` per class.
An object is read as parameters and state (`zp`/`zs`, …) and written back with `zput`, …; every translated query loop
is related to the model's `simLoop` by `foldl_zipIdx_simLoop` and one comparison of the two loop bodies, every
translated `update` loop to the model's pass by a `foldl` induction of its own (`*_update_loop`), the `Variable` one by
reduction to the `RandomVariable` one. -/

set_option linter.unusedSectionVars false

namespace Ska.StreamGen
open Ska Ska.Budget Ska.PyRt Ska.Gen.BM

section
variable {α : Type}

def zp (o : ZObj α) : ZParams α := { w := o.w, b := o.budget_, s := o.s, v := o.v, nc := o.nclasses }
def zs (o : ZObj α) : ZState α := { u := o.u_t_, theta := o.theta_, rng := o.rng }
def zput (o : ZObj α) (s : ZState α) : ZObj α := { o with u_t_ := s.u, theta_ := s.theta, rng := s.rng }

theorem zput_zs (o : ZObj α) : zput o (zs o) = o := rfl
theorem zp_zput (o : ZObj α) (s : ZState α) : zp (zput o s) = zp o := rfl
theorem zs_zput (o : ZObj α) (s : ZState α) : zs (zput o s) = s := rfl
theorem zput_zput (o : ZObj α) (s s' : ZState α) : zput (zput o s) s' = zput o s' := rfl

def dp (o : DObj α) : DParams α := { b := o.budget_, s := o.s }
def ds (o : DObj α) : DState α := { u := o.u_, t := o.t_, theta := o.theta_, rng := o.rng }
def dput (o : DObj α) (s : DState α) : DObj α := { o with u_ := s.u, t_ := s.t, theta_ := s.theta, rng := s.rng }

theorem dput_ds (o : DObj α) : dput o (ds o) = o := rfl
theorem dp_dput (o : DObj α) (s : DState α) : dp (dput o s) = dp o := rfl
theorem ds_dput (o : DObj α) (s : DState α) : ds (dput o s) = s := rfl
theorem dput_dput (o : DObj α) (s s' : DState α) : dput (dput o s) s' = dput o s' := rfl

def cs (o : CObj α) : CState := { obs := o.observed_samples_, qd := o.queried_samples_, rng := o.rng }
def cput (o : CObj α) (s : CState) : CObj α :=
  { o with observed_samples_ := s.obs, queried_samples_ := s.qd, rng := s.rng }

theorem cput_cs (o : CObj α) : cput o (cs o) = o := rfl
theorem cs_cput (o : CObj α) (s : CState) : cs (cput o s) = s := rfl
theorem cput_cput (o : CObj α) (s s' : CState) : cput (cput o s) s' = cput o s' := rfl

def qp (o : QObj α) : QParams α := { w := o.w, wtol := o.w_tol, b := o.budget_ }
def qs (o : QObj α) : QState α := { obs := o.observed_samples_, qd := o.queried_samples_, hist := o.history_sorted_ }
def qput (o : QObj α) (s : QState α) : QObj α :=
  { o with observed_samples_ := s.obs, queried_samples_ := s.qd, history_sorted_ := s.hist }

theorem qput_qs (o : QObj α) : qput o (qs o) = o := rfl
theorem qs_qput (o : QObj α) (s : QState α) : qs (qput o s) = s := rfl
theorem qput_qput (o : QObj α) (s s' : QState α) : qput (qput o s) s' = qput o s' := rfl

end

theorem lastB_concat (xs : List Bool) (b : Bool) : lastB (xs ++ [b]) = b := by
  simp [lastB]

theorem draws_eq_map_range' {α : Type} (uni : Nat → α) : ∀ n c, draws uni c n = (List.range' c n).map uni
  | 0, _ => rfl
  | n + 1, c => congrArg (uni c :: ·) (draws_eq_map_range' uni n (c + 1))

theorem range_map_draws {α : Type} (uni : Nat → α) (n c : Nat) :
    (List.range n).map (fun k => uni (c + k)) = draws uni c n := by
  rw [draws_eq_map_range', List.range'_eq_map_range, List.map_map]; rfl

/-- A translated `for i, x in enumerate(xs)` loop (a `foldl` over the tuple `L` of loop-carried locals) simulates
`simLoop body`.  `R rest l s ds` reads: with `rest` still to come, the locals `l` stand for the model state `s` and
the decisions `ds` taken so far (`ds.length` is the position reached).  If one round of the loop keeps `R`, it holds
at the end of the loop of the state and the decisions `simLoop` computes. -/
theorem foldl_zipIdx_simLoop {L σ ι : Type} (step : L → ι × Nat → L) (body : σ → ι → Bool × σ)
    (R : List ι → L → σ → List Bool → Prop)
    (hstep : ∀ x rest l s ds, R (x :: rest) l s ds →
      R rest (step l (x, ds.length)) (body s x).2 (ds ++ [(body s x).1]))
    (xs : List ι) (l : L) (s : σ) (h : R xs l s []) :
    R [] (xs.zipIdx.foldl step l) (simLoop body s xs).2 (simLoop body s xs).1 := by
  -- with `ds` already decided the loop stands at position `ds.length`
  suffices ∀ xs l s ds, R xs l s ds →
      R [] ((xs.zipIdx ds.length).foldl step l) (simLoop body s xs).2 (ds ++ (simLoop body s xs).1) from this xs l s [] h
  intro xs l s ds h
  induction xs generalizing l s ds with
  | nil => exact (List.append_nil ds).symm ▸ h
  | cons x xs ih =>
    have := ih _ _ _ (hstep x xs l s ds h)
    rwa [List.length_append, List.append_assoc] at this

theorem foldl_zipIdx_fst {β ι : Type} (g : β → ι → β) (xs : List ι) (k : Nat) (b : β) :
    (xs.zipIdx k).foldl (fun b p => g b p.1) b = xs.foldl g b := by
  rw [← List.foldl_map (f := Prod.fst) (g := g), List.zipIdx_map_fst]

/-- `enumerate(random_sample(len(xs)))` read along `xs` -/
theorem zipIdx_map_range {ι κ : Type} (g : Nat → κ) (xs : List ι) :
    ((List.range xs.length).map g).zipIdx = xs.zipIdx.map (fun p => (g p.2, p.2)) := by
  apply List.ext_getElem <;> simp

section
variable {α : Type} [Add α] [Sub α] [Mul α] [Div α] [LT α] [DecidableLT α] [OfNat α 0] [OfNat α 1] [NatCast α]

theorem fixed_query_eq (nrm uni : Nat → α) (qf) (o : ZObj α) (us : List (Option α)) :
    FixedUncertaintyBudgetManager.query_by_utility nrm uni qf o us
      = ((fixedQuery (zp o) (zs o) us).1, zput o (fixedQuery (zp o) (zs o) us).2) := by
  have h := foldl_zipIdx_simLoop
    (fun l p => FixedUncertaintyBudgetManager.query_by_utility.loop1 nrm uni qf o l
      (((fun c => leO c (1 / o.nclasses + o.budget_ * (1 - 1 / o.nclasses))) ∘ conf) p.1, p.2))
    (fixedBody (zp o))
    -- `budget_left` is a list the code appends to and reads only the last entry of (`lastB_concat`): `l.1` is left free
    (fun _ l s ds => l.2 = (s.u, idxOf ds 0))
    (by
      rintro x rest ⟨bl, l⟩ ⟨u, th, r⟩ ds rfl
      simp only [FixedUncertaintyBudgetManager.query_by_utility.loop1, Function.comp, lastB_concat, fixedBody,
        fixedTheta, zp, budgetLeft, nextU, b2f, idxOf_concat, Nat.zero_add]
      by_cases h1 : u / o.w < o.budget_ <;> simp [h1])
    us ([], o.u_t_, []) (zs o) rfl
  simp only [FixedUncertaintyBudgetManager.query_by_utility, fixedQuery, zQuery, List.map_map, List.zipIdx_map,
    List.foldl_map, Prod.map, id]
  simp only [h]
  rfl

theorem est_update_loop (nrm uni : Nat → α) (qf) (bits : List Bool) (o : ZObj α) :
    bits.foldl (EstimatedBudgetZliobaite.update.loop1 nrm uni qf) o
      = { o with u_t_ := uPass o.w o.u_t_ bits } := by
  induction bits generalizing o with
  | nil => rfl
  | cons b bs ih => rw [List.foldl_cons, ih]; rfl

theorem est_update_eq (nrm uni : Nat → α) (qf) (o : ZObj α) (n : Nat) (idx : List Nat) :
    EstimatedBudgetZliobaite.update nrm uni qf o n idx = (fixedUpdate (zp o) (zs o) n idx).map (zput o) := by
  simp only [EstimatedBudgetZliobaite.update, fixedUpdate, est_update_loop]
  cases bitsOf n idx <;> rfl

theorem fixed_update_eq (nrm uni : Nat → α) (qf) (o : ZObj α) (n : Nat) (idx : List Nat) :
    FixedUncertaintyBudgetManager.update nrm uni qf o n idx = (fixedUpdate (zp o) (zs o) n idx).map (zput o) := by
  simp only [FixedUncertaintyBudgetManager.update, est_update_eq]
  cases fixedUpdate (zp o) (zs o) n idx <;> rfl

theorem randvar_update_loop (nrm uni : Nat → α) (qf) (bits : List Bool) (o : ZObj α) (tu : α) :
    bits.foldl (RandomVariableUncertaintyBudgetManager.update.loop1 nrm uni qf) (o, tu)
      = ({ o with theta_ := thetaPass (zp o) tu o.theta_ bits }, uPass o.w tu bits) := by
  induction bits generalizing o tu with
  | nil => rfl
  | cons b bs ih =>
    have step : RandomVariableUncertaintyBudgetManager.update.loop1 nrm uni qf (o, tu) b
        = ({ o with theta_ := if budgetLeft o.w o.budget_ tu then scale o.s o.theta_ b else o.theta_ },
           nextU o.w tu b) := by
      by_cases h1 : tu / o.w < o.budget_ <;>
        simp only [RandomVariableUncertaintyBudgetManager.update.loop1, budgetLeft, h1, decide_true, decide_false,
          Bool.false_eq_true, ↓reduceIte]
      · cases b <;> rfl
      · rfl
    rw [List.foldl_cons, step, ih]; rfl

/-- the translated body is `RandomVariableUncertaintyBudgetManager.update.loop1` with an `enumerate` index it does not use -/
theorem var_update_loop (nrm uni : Nat → α) (qf) (bits : List Bool) (o : ZObj α) (tu : α) (k : Nat) :
    (bits.zipIdx k).foldl (VariableUncertaintyBudgetManager.update.loop1 nrm uni qf) (o, tu)
      = ({ o with theta_ := thetaPass (zp o) tu o.theta_ bits }, uPass o.w tu bits) :=
  (foldl_zipIdx_fst (RandomVariableUncertaintyBudgetManager.update.loop1 nrm uni qf) bits k (o, tu)).trans
    (randvar_update_loop nrm uni qf bits o tu)

theorem var_query_eq (nrm uni : Nat → α) (qf) (o : ZObj α) (us : List (Option α)) :
    VariableUncertaintyBudgetManager.query_by_utility nrm uni qf o us
      = ((varQuery (zp o) (zs o) us).1, zput o (varQuery (zp o) (zs o) us).2) := by
  have h := foldl_zipIdx_simLoop
    (fun l p => VariableUncertaintyBudgetManager.query_by_utility.loop1 nrm uni qf o l (Prod.map conf id p))
    (varBody (zp o))
    (fun _ l s ds => l.2 = (s.theta, idxOf ds 0, s.u))
    (by
      rintro x rest ⟨bl, l⟩ ⟨u, th, r⟩ ds rfl
      by_cases h1 : u / o.w < o.budget_ <;>
        simp only [VariableUncertaintyBudgetManager.query_by_utility.loop1, Prod.map, id, lastB_concat, varBody, zp,
          budgetLeft, idxOf_concat, Nat.zero_add, h1, decide_true, decide_false, Bool.not_true, Bool.not_false,
          Bool.false_eq_true, ↓reduceIte]
      · cases ltO (conf x) th <;> rfl
      · rfl)
    us ([], o.theta_, [], o.u_t_) (zs o) rfl
  simp only [VariableUncertaintyBudgetManager.query_by_utility, varQuery, zQuery, List.zipIdx_map, List.foldl_map]
  simp only [h]
  rfl

theorem var_update_eq (nrm uni : Nat → α) (qf) (o : ZObj α) (n : Nat) (idx : List Nat) :
    VariableUncertaintyBudgetManager.update nrm uni qf o n idx = (varUpdate (zp o) (zs o) n idx).map (zput o) := by
  simp only [VariableUncertaintyBudgetManager.update, varUpdate, var_update_loop, est_update_eq, fixedUpdate]
  cases bitsOf n idx <;> rfl

theorem randvar_query_eq (nrm uni : Nat → α) (qf) (o : ZObj α) (us : List (Option α)) :
    RandomVariableUncertaintyBudgetManager.query_by_utility nrm uni qf o us
      = ((randVarQuery (zp o) nrm (zs o) us).1, zput o (randVarQuery (zp o) nrm (zs o) us).2) := by
  have h := foldl_zipIdx_simLoop
    (fun l p => RandomVariableUncertaintyBudgetManager.query_by_utility.loop1 nrm uni qf l (Prod.map conf id p))
    (randVarBody (zp o) nrm)
    (fun _ l s ds => l.2 = ({ o with rng := s.rng }, s.theta, idxOf ds 0, s.u))
    (by
      rintro x rest ⟨bl, l⟩ ⟨u, th, r⟩ ds rfl
      by_cases h1 : u / o.w < o.budget_ <;>
        simp only [RandomVariableUncertaintyBudgetManager.query_by_utility.loop1, Prod.map, id, lastB_concat,
          randVarBody, zp, budgetLeft, idxOf_concat, Nat.zero_add, h1, decide_true, decide_false, Bool.not_true,
          Bool.not_false, Bool.false_eq_true, ↓reduceIte]
      · cases ltO (conf x) (th * nrm r) <;> rfl
      · rfl)
    us ([], o, o.theta_, [], o.u_t_) (zs o) rfl
  simp only [RandomVariableUncertaintyBudgetManager.query_by_utility, randVarQuery, zQuery, List.zipIdx_map,
    List.foldl_map]
  simp only [h]
  rfl

theorem randvar_update_eq (nrm uni : Nat → α) (qf) (o : ZObj α) (n : Nat) (idx : List Nat) :
    RandomVariableUncertaintyBudgetManager.update nrm uni qf o n idx
      = (randVarUpdate (zp o) (zs o) n idx).map (zput o) := by
  simp only [RandomVariableUncertaintyBudgetManager.update, randVarUpdate, randvar_update_loop, est_update_eq,
    fixedUpdate]
  cases bitsOf n idx <;> rfl

theorem split_query_eq (nrm uni : Nat → α) (qf) (o : ZObj α) (us : List (Option α)) :
    SplitBudgetManager.query_by_utility nrm uni qf o us
      = ((splitQuery (zp o) uni (zs o) us).1, zput o (splitQuery (zp o) uni (zs o) us).2) := by
  have h := foldl_zipIdx_simLoop
    (fun l p => SplitBudgetManager.query_by_utility.loop1 nrm uni qf l (Prod.map conf id p))
    (splitBody (zp o) uni)
    (fun _ l s ds => l.2 = ({ o with rng := s.rng }, s.theta, idxOf ds 0, s.u))
    (by
      rintro x rest ⟨bl, l⟩ ⟨u, th, r⟩ ds rfl
      by_cases h1 : u / o.w < o.budget_ <;> by_cases h3 : uni r < o.v <;>
        simp only [SplitBudgetManager.query_by_utility.loop1, Prod.map, id, lastB_concat, splitBody, zp, budgetLeft,
          idxOf_concat, Nat.zero_add, h1, h3, decide_true, decide_false, Bool.not_true, Bool.not_false,
          Bool.false_eq_true, ↓reduceIte]
      · cases leB (uni (r + 1)) o.budget_ <;> rfl
      · cases ltO (conf x) th <;> rfl
      · rfl
      · rfl)
    us ([], o, o.theta_, [], o.u_t_) (zs o) rfl
  simp only [SplitBudgetManager.query_by_utility, splitQuery, zQuery, List.zipIdx_map, List.foldl_map]
  simp only [h]
  rfl

/-- `super().update([x_t], [0] if q else [])` -/
theorem est_update_one (nrm uni : Nat → α) (qf) (o : ZObj α) (q : Bool) :
    EstimatedBudgetZliobaite.update nrm uni qf o 1 (if q then [0] else [])
      = .ok { o with u_t_ := nextU o.w o.u_t_ q } := by
  rw [est_update_eq, fixedUpdate]; cases q <;> rfl

theorem split_update_step (nrm uni : Nat → α) (qf) (o : ZObj α) (q : Bool) :
    SplitBudgetManager.update.loop1 nrm uni qf o q = .ok (zput o (splitUBody (zp o) uni (zs o) q)) := by
  by_cases h1 : o.u_t_ / o.w < o.budget_ <;> by_cases h3 : uni o.rng < o.v <;>
    simp only [SplitBudgetManager.update.loop1, est_update_one, splitUBody, budgetLeft, zp, zs, h1, h3, decide_true,
      decide_false, Bool.false_eq_true, ↓reduceIte]
  · rfl
  · cases q <;> rfl
  · rfl
  · rfl

theorem split_update_loop (nrm uni : Nat → α) (qf) (bits : List Bool) (o : ZObj α) :
    bits.foldlM (SplitBudgetManager.update.loop1 nrm uni qf) o
      = .ok (zput o (bits.foldl (splitUBody (zp o) uni) (zs o))) := by
  induction bits generalizing o with
  | nil => rfl
  | cons b bs ih =>
    rw [List.foldlM_cons, split_update_step]
    exact (ih _).trans (by rw [zp_zput, zs_zput, zput_zput, List.foldl_cons])

theorem split_update_eq (nrm uni : Nat → α) (qf) (o : ZObj α) (n : Nat) (idx : List Nat) :
    SplitBudgetManager.update nrm uni qf o n idx = (splitUpdate (zp o) uni (zs o) n idx).map (zput o) := by
  simp only [SplitBudgetManager.update, splitUpdate, split_update_loop]
  cases bitsOf n idx <;> rfl

theorem random_query_eq (nrm uni : Nat → α) (qf) (o : ZObj α) (us : List (Option α)) :
    RandomBudgetManager.query_by_utility nrm uni qf o us
      = ((randomQuery (zp o) uni (zs o) us).1, zput o (randomQuery (zp o) uni (zs o) us).2) := by
  have h := foldl_zipIdx_simLoop
    (fun l p => RandomBudgetManager.query_by_utility.loop1 nrm uni qf { o with rng := o.rng + us.length } us l
      (leB (uni (o.rng + p.2)) o.budget_, p.2))
    (randomBody (zp o) uni)
    -- the samples are drawn up front and `utilities[i]` is read by position: cursor and place in `us` are tracked
    (fun rest l s ds => l = (s.u, idxOf ds 0) ∧ s.rng = o.rng + ds.length ∧
      ∃ pre, us = pre ++ rest ∧ pre.length = ds.length)
    (by
      rintro x rest l ⟨u, th, r⟩ ds ⟨rfl, hr, pre, rfl, hlen⟩
      simp only at hr
      subst hr
      refine ⟨?_, by rw [List.length_append]; rfl, pre ++ [x], (List.append_assoc pre [x] rest).symm,
        by rw [List.length_append, List.length_append, hlen]; rfl⟩
      simp only [RandomBudgetManager.query_by_utility.loop1, ← hlen, getD_append_length, randomBody, zp, budgetLeft,
        nextU, b2f, idxOf_concat, Nat.zero_add]
      by_cases h1 : u / o.w < o.budget_ <;> simp [h1])
    us (o.u_t_, []) (zs o) ⟨rfl, rfl, [], rfl, rfl⟩
  simp only [RandomBudgetManager.query_by_utility, randomQuery, zQuery, List.length_map, List.map_map,
    zipIdx_map_range, List.foldl_map, Function.comp_def]
  simp only [h.1]
  rfl

theorem random_update_eq (nrm uni : Nat → α) (qf) (o : ZObj α) (n : Nat) (idx : List Nat) :
    RandomBudgetManager.update nrm uni qf o n idx = (randomUpdate (zp o) (zs o) n idx).map (zput o) := by
  simp only [RandomBudgetManager.update, randomUpdate, est_update_eq, fixedUpdate]
  cases bitsOf n idx <;> rfl

theorem db_query_eq (nrm uni : Nat → α) (qf) (o : DObj α) (us : List (Option α)) :
    DensityBasedSplitBudgetManager.query_by_utility nrm uni qf o us
      = ((dbQuery (dp o) nrm (ds o) us).1, dput o (dbQuery (dp o) nrm (ds o) us).2) := by
  have h := foldl_zipIdx_simLoop
    (fun l p => DensityBasedSplitBudgetManager.query_by_utility.loop1 nrm uni qf l (Prod.map conf id p))
    (dbBody (dp o) nrm)
    (fun _ l s dcs => l = (s.t, { o with rng := s.rng }, s.theta, idxOf dcs 0, s.u))
    (by
      rintro x rest l ⟨u, t, th, r⟩ dcs rfl
      by_cases h1 : (u : α) / ((t + 1 : Nat) : α) < o.budget_ <;>
        simp only [DensityBasedSplitBudgetManager.query_by_utility.loop1, Prod.map, id, dbBody, dbLeft, dp,
          idxOf_concat, Nat.zero_add, h1, decide_true, decide_false, Bool.not_true, Bool.not_false,
          Bool.false_eq_true, ↓reduceIte]
      · cases ltO (conf x) (th * nrm r) <;> rfl
      · rfl)
    us (o.t_, o, o.theta_, [], o.u_) (ds o) rfl
  simp only [DensityBasedSplitBudgetManager.query_by_utility, dbQuery, List.zipIdx_map, List.foldl_map]
  simp only [h]
  rfl

theorem db_update_step (nrm uni : Nat → α) (qf) (o : DObj α) (b : Bool) :
    DensityBasedSplitBudgetManager.update.loop1 nrm uni qf o b = dput o (dbUBody (dp o) (ds o) b) := by
  by_cases h1 : (o.u_ : α) / ((o.t_ + 1 : Nat) : α) < o.budget_ <;>
    simp only [DensityBasedSplitBudgetManager.update.loop1, dbUBody, dbLeft, dp, ds, h1, decide_true, decide_false,
      Bool.false_eq_true, ↓reduceIte]
  · cases b <;> rfl
  · rfl

theorem db_update_loop (nrm uni : Nat → α) (qf) (bits : List Bool) (o : DObj α) :
    bits.foldl (DensityBasedSplitBudgetManager.update.loop1 nrm uni qf) o
      = dput o (bits.foldl (dbUBody (dp o)) (ds o)) := by
  induction bits generalizing o with
  | nil => rfl
  | cons b bs ih => rw [List.foldl_cons, db_update_step, ih, dp_dput, ds_dput, dput_dput, List.foldl_cons]

theorem db_update_eq (nrm uni : Nat → α) (qf) (o : DObj α) (n : Nat) (idx : List Nat) :
    DensityBasedSplitBudgetManager.update nrm uni qf o n idx = (dbUpdate (dp o) (ds o) n idx).map (dput o) := by
  simp only [DensityBasedSplitBudgetManager.update, dbUpdate, db_update_loop]
  cases bitsOf n idx <;> rfl

theorem srs_query_eq (nrm uni : Nat → α) (qf) (o : CObj α) (n : Nat) :
    StreamRandomSampling.query nrm uni qf o n
      = ((srsQuery o.allow_exceeding_budget o.budget_ uni (cs o) n).1,
         cput o (srsQuery o.allow_exceeding_budget o.budget_ uni (cs o) n).2) := by
  have h := foldl_zipIdx_simLoop
    (StreamRandomSampling.query.loop1 nrm uni qf o)
    (srsBody o.allow_exceeding_budget o.budget_)
    -- `queried = np.zeros(n)` is allocated before the loop and slot `i` assigned in it: the slots still to come are `false`
    (fun rest l s ds => l = (s.obs, ds ++ List.replicate rest.length false, s.qd))
    (by
      rintro x rest l ⟨obs, qd, r⟩ ds rfl
      simp only [StreamRandomSampling.query.loop1, List.length_cons, List.replicate_succ, set_append_length,
        getD_append_length, srsBody, b2n, List.append_assoc, List.singleton_append])
    (draws uni o.rng n) (o.observed_samples_, List.replicate (draws uni o.rng n).length false, o.queried_samples_)
    (cs o) rfl
  simp only [StreamRandomSampling.query, srsQuery, cs, cput, range_map_draws]
  simp only [h, List.length_nil, List.replicate_zero, List.append_nil]
  rfl

theorem srs_update_eq (nrm uni : Nat → α) (qf) (o : CObj α) (n : Nat) (idx : List Nat) :
    StreamRandomSampling.update nrm uni qf o n idx = (srsUpdate (cs o) n idx).map (cput o) := by
  simp only [StreamRandomSampling.update, srsUpdate]
  cases bitsOf n idx <;> rfl

theorem per_update_eq (nrm uni : Nat → α) (qf) (o : CObj α) (n : Nat) (idx : List Nat) :
    PeriodicSampling.update nrm uni qf o n idx = (perUpdate (cs o) n idx).map (cput o) := by
  simp only [PeriodicSampling.update, perUpdate]
  cases bitsOf n idx <;> rfl

theorem per_query_eq (nrm uni : Nat → α) (qf) (o : CObj α) (n : Nat) :
    PeriodicSampling.query nrm uni qf o n
      = ((perQuery o.budget_ (cs o) n).1, cput o (perQuery o.budget_ (cs o) n).2) := by
  have h := foldl_zipIdx_simLoop
    (PeriodicSampling.query.loop1 nrm uni qf o)
    (perBody o.budget_)
    (fun rest l s ds => l = (s.obs, ds ++ List.replicate rest.length false,
      ds.map (fun q => if q then (1 : α) else 0) ++ List.replicate rest.length 0, s.qd))
    (by
      rintro x rest l ⟨obs, qd, r⟩ ds rfl
      have hl := List.length_map (as := ds) (fun q => if q then (1 : α) else 0)
      simp only [PeriodicSampling.query.loop1, List.length_cons, List.replicate_succ, set_append_length,
        getD_append_length, perBody, b2n, List.append_assoc, List.singleton_append, List.map_append, List.map_cons,
        List.map_nil]
      rw [← hl, set_append_length]
      cases leB (1 : α) (((obs + 1 : Nat) : α) * o.budget_ - (qd : α)) <;> rfl)
    (List.replicate n ()) (o.observed_samples_, List.replicate n false, List.replicate n 0, o.queried_samples_)
    (cs o) (by rw [List.length_replicate]; rfl)
  simp only [PeriodicSampling.query, perQuery, h, List.length_nil, List.replicate_zero, List.append_nil]
  rfl

theorem subO_maxO_minO (h : List (Option α)) : subO (maxO h) (minO h) = rangeO h := by
  simp only [maxO, minO, rangeO]
  cases allSome h with
  | none => rfl
  | some l => cases l <;> rfl

/-- the NaN-propagating arithmetic of the translated sampling test is the three-way `match` of `biqfBody` -/
theorem biqf_sample_eq (qf : List (Option α) → Option α) (o : QObj α) (s : QState α) (x : Option α) :
    leOO (subO (qf (pushW o.w s.hist x))
        (mulO (subO (maxO (pushW o.w s.hist x)) (minO (pushW o.w s.hist x)))
          (some ((o.budget_ * ((s.obs + 1 : Nat) : α) - (s.qd : α)) / o.w_tol)))) x
      = (biqfBody (qp o) qf s x).1 := by
  simp only [subO_maxO_minO, biqfBody, qp]
  generalize pushW o.w s.hist x = h
  cases x <;> cases qf h <;> cases rangeO h <;> rfl

theorem biqf_query_eq (nrm uni : Nat → α) (qf) (o : QObj α) (us : List (Option α)) :
    BalancedIncrementalQuantileFilter.query_by_utility nrm uni qf o us
      = ((biqfQuery (qp o) qf (qs o) us).1, qput o (biqfQuery (qp o) qf (qs o) us).2) := by
  have h := foldl_zipIdx_simLoop
    (BalancedIncrementalQuantileFilter.query_by_utility.loop1 nrm uni qf o)
    (biqfBody (qp o) qf)
    (fun _ l s ds => l = (s.obs, s.hist, s.qd, idxOf ds 0))
    (by
      rintro x rest l s ds rfl
      have hs : (biqfBody (qp o) qf s x).2 = ⟨s.obs + 1, s.qd + (if (biqfBody (qp o) qf s x).1 then 1 else 0),
          pushW o.w s.hist x⟩ := rfl
      simp only [BalancedIncrementalQuantileFilter.query_by_utility.loop1, biqf_sample_eq, hs, idxOf_concat,
        Nat.zero_add]
      cases (biqfBody (qp o) qf s x).1 <;> rfl)
    us (o.observed_samples_, o.history_sorted_, o.queried_samples_, []) (qs o) rfl
  simp only [BalancedIncrementalQuantileFilter.query_by_utility, biqfQuery]
  simp only [h]
  rfl

theorem biqf_update_eq (nrm uni : Nat → α) (qf) (o : QObj α) (n : Nat) (idx : List Nat) (us : List (Option α)) :
    BalancedIncrementalQuantileFilter.update nrm uni qf o n idx us
      = (biqfUpdate (qp o) (qs o) n idx us).map (qput o) := by
  simp only [BalancedIncrementalQuantileFilter.update, biqfUpdate]
  cases bitsOf n idx <;> rfl

end
end Ska.StreamGen
