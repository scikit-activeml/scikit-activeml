import Mathlib.Order.Basic
import SkaModel.Core.Label
import SkaModel.Lemmas.Basic

/-! Helper lemmas about the label model (`Core/Label.lean`). Property theorems live in
`SkaModel/Props/C16.lean` and `SkaModel/Props/C09.lean`.

A recursive definition of the model that is a library function in disguise is first tied to it, and its
facts come from there: `whereFrom` is `truePos` (`Lemmas/Basic.lean`), `argwhere2From` and `enumFrom'` are
`List.zipIdx` flattened or as it is, `indexOf?` is `List.findIdx?`. `transformFlat` and `decodeFlat` are
`List.mapM` in `Except`, which has no lemmas to inherit: they are tied to one traversal `mapE` (defined
here) and its facts are proved on that. `insertSorted`, `encode1`, `decode1` and `relabel` (specification
vocabulary of C09, defined here with `MonoOn`) get their equations case by case; `sortDedup`,
`insertKey`/`sortKeys` and `rowsOf` get their facts by direct induction. The validation chains
`isUnlabeledArr`, `encoderFit`, `encoderTransform` and the 1-d index functions on top of them
(`unlabeledIndices1`, `labeledIndices1`) are inverted once each (`*_ok`); of `checkClassifierParams` only
the consequence the properties use is stated; the 2-d index functions have no lemma. -/

namespace Ska.Label

section Missing
variable {α : Type} [DecidableEq α]

theorem isMissing_iff (ml x : Lbl α) : isMissing ml x = true ↔ x = ml := by
  cases ml <;> cases x <;> simp [isMissing]

theorem notMissing_iff (ml x : Lbl α) : notMissing ml x = true ↔ x ≠ ml := by
  rw [notMissing, Bool.not_eq_true', ← Bool.not_eq_true, isMissing_iff]

end Missing

section Where

theorem whereFrom_eq_truePos (k : Nat) (m : List Bool) : whereFrom k m = truePos k m := by
  induction m generalizing k with
  | nil => rfl
  | cons b bs ih => rw [whereFrom, ih, truePos_cons]

theorem mem_whereFrom_zero (m : List Bool) (i : Nat) : i ∈ whereFrom 0 m ↔ m[i]? = some true :=
  whereFrom_eq_truePos 0 m ▸ mem_truePos_zero

theorem whereFrom_pairwise (k : Nat) (m : List Bool) : (whereFrom k m).Pairwise (· < ·) :=
  whereFrom_eq_truePos k m ▸ truePos_pairwise k m

/-- lexicographic order on index pairs (the order of `np.argwhere` on a 2-d mask). -/
def lexLt (p q : Nat × Nat) : Prop := p.1 < q.1 ∨ (p.1 = q.1 ∧ p.2 < q.2)

theorem argwhere2From_eq (k : Nat) (rows : List (List Bool)) :
    argwhere2From k rows =
      (rows.zipIdx k).flatMap fun p => (whereFrom 0 p.1).map (pairWith p.2) := by
  induction rows generalizing k with
  | nil => rfl
  | cons r rs ih => rw [argwhere2From, ih, List.zipIdx_cons, List.flatMap_cons]

theorem mem_argwhere2 (rows : List (List Bool)) (i j : Nat) :
    (i, j) ∈ argwhere2 rows ↔ ∃ row, rows[i]? = some row ∧ row[j]? = some true := by
  simp only [argwhere2, argwhere2From_eq, List.mem_flatMap, List.mem_map, Prod.exists, pairWith,
    Prod.mk.injEq, exists_eq_right_right, List.mk_mem_zipIdx_iff_getElem?, mem_whereFrom_zero]

theorem argwhere2From_pairwise (k : Nat) (rows : List (List Bool)) :
    (argwhere2From k rows).Pairwise lexLt := by
  rw [argwhere2From_eq, List.pairwise_flatMap]
  refine ⟨fun p _ => ?_, (pairwise_snd_zipIdx rows k).imp fun {a b} hab x hx y hy => ?_⟩
  · rw [List.pairwise_map]
    exact (whereFrom_pairwise 0 p.1).imp fun h => Or.inr ⟨rfl, h⟩
  · obtain ⟨_, -, rfl⟩ := List.mem_map.mp hx
    obtain ⟨_, -, rfl⟩ := List.mem_map.mp hy
    exact Or.inl hab

end Where

section Rows
variable {γ : Type}

theorem rowsOf_length (c r : Nat) (l : List γ) : (rowsOf c r l).length = r := by
  induction r generalizing l with
  | zero => rfl
  | succ r ih => rw [rowsOf, List.length_cons, ih]

theorem getElem?_rowsOf (c r : Nat) (l : List γ) (i : Nat) (hi : i < r) :
    (rowsOf c r l)[i]? = some ((l.drop (i * c)).take c) := by
  induction r generalizing l i with
  | zero => exact absurd hi (Nat.not_lt_zero i)
  | succ r ih =>
    cases i with
    | zero => rw [rowsOf, List.getElem?_cons_zero, Nat.zero_mul, List.drop_zero]
    | succ i =>
      rw [rowsOf, List.getElem?_cons_succ, ih (l.drop c) i (Nat.lt_of_succ_lt_succ hi),
        List.drop_drop, Nat.succ_mul, Nat.add_comm]

end Rows

section Mask
variable {α : Type} [DecidableEq α]

/-- `hr`: an array without rows gets the empty mask, whatever `flat` holds. -/
theorem isUnlabeledArr_ok {isList : Bool} {ml : Lbl α} {a : Arr α} {mu : List Bool}
    (h : isUnlabeledArr isList (some ml) a = .ok mu) (hr : a.rows ≠ 0) :
    mu = a.flat.map (isMissing ml) := by
  simp only [isUnlabeledArr, checkMl, if_neg hr] at h
  repeat replace h := ite_error_ok h
  exact (Except.ok.inj h).symm

theorem mem_argwhere1_map {β : Type} (p : β → Bool) (l : List β) (i : Nat) :
    i ∈ argwhere1 (l.map p) ↔ ∃ x, l[i]? = some x ∧ p x = true := by
  rw [argwhere1, mem_whereFrom_zero, List.getElem?_map, Option.map_eq_some_iff]

theorem unlabeledIndices1_ok {isList : Bool} {ml : Lbl α} {a : Arr α} {idx : List Nat}
    (h : unlabeledIndices1 isList (some ml) a = .ok idx) (hr : a.rows ≠ 0) :
    idx = argwhere1 (a.flat.map (isMissing ml)) := by
  unfold unlabeledIndices1 at h
  cases hm : isUnlabeledArr isList (some ml) a with
  | error e => rw [hm] at h; cases h
  | ok m => rw [hm] at h; cases h; rw [isUnlabeledArr_ok hm hr]

theorem labeledIndices1_ok {isList : Bool} {ml : Lbl α} {a : Arr α} {idx : List Nat}
    (h : labeledIndices1 isList (some ml) a = .ok idx) (hr : a.rows ≠ 0) :
    idx = argwhere1 (a.flat.map (notMissing ml)) := by
  unfold labeledIndices1 isLabeledArr at h
  cases hm : isUnlabeledArr isList (some ml) a with
  | error e => rw [hm] at h; cases h
  | ok m => rw [hm] at h; cases h; rw [isUnlabeledArr_ok hm hr, List.map_map]; rfl

end Mask

section Sorting
variable {γ : Type} [LinearOrder γ]

theorem insertSorted_of_lt {x y : γ} (ys : List γ) (h : x < y) :
    insertSorted x (y :: ys) = x :: y :: ys := if_pos h

theorem insertSorted_self (x : γ) (ys : List γ) : insertSorted x (x :: ys) = x :: ys := by
  simp only [insertSorted, if_neg (lt_irrefl x)]

theorem insertSorted_of_gt {x y : γ} (ys : List γ) (h : y < x) :
    insertSorted x (y :: ys) = y :: insertSorted x ys := by
  simp only [insertSorted, if_neg (lt_asymm h), if_pos h]

theorem mem_insertSorted (x : γ) (l : List γ) (y : γ) : y ∈ insertSorted x l ↔ y = x ∨ y ∈ l := by
  induction l with
  | nil => rw [insertSorted, List.mem_singleton, List.mem_nil_iff, or_false]
  | cons z zs ih =>
    rcases lt_trichotomy x z with h | rfl | h
    · rw [insertSorted_of_lt zs h, List.mem_cons]
    · rw [insertSorted_self, List.mem_cons, or_self_left]
    · rw [insertSorted_of_gt zs h, List.mem_cons, ih, List.mem_cons, or_left_comm]

theorem insertSorted_pairwise (x : γ) (l : List γ) (h : l.Pairwise (· < ·)) :
    (insertSorted x l).Pairwise (· < ·) := by
  induction l with
  | nil => exact List.pairwise_singleton _ _
  | cons z zs ih =>
    obtain ⟨hz, hzs⟩ := List.pairwise_cons.mp h
    rcases lt_trichotomy x z with hxz | rfl | hzx
    · rw [insertSorted_of_lt zs hxz]
      exact List.pairwise_cons.mpr
        ⟨fun y hy => (List.mem_cons.mp hy).elim (· ▸ hxz) fun hy => lt_trans hxz (hz y hy), h⟩
    · rwa [insertSorted_self]
    · rw [insertSorted_of_gt zs hzx]
      exact List.pairwise_cons.mpr
        ⟨fun y hy => ((mem_insertSorted x zs y).mp hy).elim (· ▸ hzx) (hz y), ih hzs⟩

theorem mem_sortDedup (l : List γ) (y : γ) : y ∈ sortDedup l ↔ y ∈ l := by
  induction l with
  | nil => rfl
  | cons x xs ih => simp only [sortDedup, mem_insertSorted, ih, List.mem_cons]

theorem sortDedup_pairwise (l : List γ) : (sortDedup l).Pairwise (· < ·) := by
  induction l with
  | nil => exact List.Pairwise.nil
  | cons x xs ih => exact insertSorted_pairwise x _ ih

theorem sorted_getElem?_lt_iff {l : List γ} (h : l.Pairwise (· < ·)) {i j : Nat} {x y : γ}
    (hx : l[i]? = some x) (hy : l[j]? = some y) : x < y ↔ i < j := by
  obtain ⟨hi, rfl⟩ := List.getElem?_eq_some_iff.mp hx
  obtain ⟨hj, rfl⟩ := List.getElem?_eq_some_iff.mp hy
  refine ⟨fun hlt => ?_, List.pairwise_iff_getElem.mp h i j hi hj⟩
  rcases Nat.lt_trichotomy i j with hij | rfl | hji
  · exact hij
  · exact absurd hlt (lt_irrefl _)
  · exact absurd hlt (lt_asymm (List.pairwise_iff_getElem.mp h j i hj hi hji))

theorem indexOf?_eq_findIdx? (x : γ) (l : List γ) :
    indexOf? x l = l.findIdx? fun y => decide (x = y) := by
  induction l with
  | nil => rfl
  | cons y ys ih => rw [indexOf?, List.findIdx?_cons, ih]; simp only [decide_eq_true_eq]

theorem indexOf?_eq_none (x : γ) (l : List γ) : indexOf? x l = none ↔ x ∉ l := by
  rw [indexOf?_eq_findIdx?, List.findIdx?_eq_none_iff]
  exact ⟨fun h hx => of_decide_eq_false (h x hx) rfl, fun h y hy => decide_eq_false fun e => h (e ▸ hy)⟩

theorem getElem?_of_indexOf?_eq_some (x : γ) (l : List γ) (i : Nat) (h : indexOf? x l = some i) :
    l[i]? = some x := by
  rw [indexOf?_eq_findIdx?, List.findIdx?_eq_some_iff_getElem] at h
  obtain ⟨hi, hp, -⟩ := h
  rw [List.getElem?_eq_getElem hi, of_decide_eq_true hp]

theorem indexOf?_getElem (l : List γ) (hn : l.Nodup) (i : Nat) (hi : i < l.length) :
    indexOf? l[i] l = some i := by
  rw [indexOf?_eq_findIdx?, List.findIdx?_eq_some_iff_getElem]
  exact ⟨hi, decide_eq_true rfl, fun j hji e =>
    List.pairwise_iff_getElem.mp hn j i (Nat.lt_trans hji hi) hi hji (of_decide_eq_true e).symm⟩

theorem indexOf?_of_mem (x : γ) (l : List γ) (h : x ∈ l) : ∃ i, indexOf? x l = some i := by
  cases hq : indexOf? x l with
  | none => exact absurd h ((indexOf?_eq_none x l).mp hq)
  | some i => exact ⟨i, rfl⟩

end Sorting

section MapE
variable {α α' β β' ε : Type}

/-- `l.mapM f` in `Except ε`, written out the way the model writes `transformFlat` and `decodeFlat`. -/
def mapE (f : α → Except ε β) : List α → Except ε (List β)
  | [] => .ok []
  | x :: xs =>
    match f x with
    | .error e => .error e
    | .ok c =>
      match mapE f xs with
      | .error e => .error e
      | .ok cs => .ok (c :: cs)

theorem mapE_cons_eq_ok {f : α → Except ε β} {x : α} {xs : List α} {r : List β}
    (h : mapE f (x :: xs) = .ok r) : ∃ c cs, f x = .ok c ∧ mapE f xs = .ok cs ∧ r = c :: cs := by
  rw [mapE] at h
  cases hx : f x with
  | error e => rw [hx] at h; cases h
  | ok c =>
    cases hxs : mapE f xs with
    | error e => rw [hx, hxs] at h; cases h
    | ok cs => rw [hx, hxs] at h; cases h; exact ⟨c, cs, rfl, rfl, rfl⟩

theorem mapE_ok {f : α → Except ε β} {l : List α} {r : List β} (h : mapE f l = .ok r) :
    r.length = l.length ∧ ∀ i, ∀ hi : i < l.length, ∃ hi' : i < r.length, f l[i] = .ok r[i] := by
  induction l generalizing r with
  | nil => cases h; exact ⟨rfl, nofun⟩
  | cons x xs ih =>
    obtain ⟨c, cs, hc, hcs, rfl⟩ := mapE_cons_eq_ok h
    obtain ⟨hl, hget⟩ := ih hcs
    refine ⟨congrArg (· + 1) hl, fun i hi => ?_⟩
    cases i with
    | zero => exact ⟨Nat.zero_lt_succ _, hc⟩
    | succ i =>
      obtain ⟨hi', he⟩ := hget i (Nat.lt_of_succ_lt_succ hi)
      exact ⟨Nat.succ_lt_succ hi', he⟩

theorem mapE_error {f : α → Except ε β} {l : List α} {e : ε} (h : mapE f l = .error e) :
    ∃ x ∈ l, f x = .error e := by
  induction l with
  | nil => cases h
  | cons x xs ih =>
    rw [mapE] at h
    cases hx : f x with
    | error e' => rw [hx] at h; cases h; exact ⟨x, List.mem_cons_self, hx⟩
    | ok c =>
      cases hxs : mapE f xs with
      | error e' =>
        rw [hx, hxs] at h; cases h
        obtain ⟨z, hz, hze⟩ := ih hxs
        exact ⟨z, List.mem_cons_of_mem _ hz, hze⟩
      | ok cs => rw [hx, hxs] at h; cases h

theorem mapE_map_congr {f : α → Except ε β} {f' : α' → Except ε β} {g : α → α'} {l : List α}
    (h : ∀ x ∈ l, f' (g x) = f x) : mapE f' (l.map g) = mapE f l := by
  induction l with
  | nil => rfl
  | cons x xs ih =>
    rw [List.map_cons, mapE, mapE, h x List.mem_cons_self,
      ih fun z hz => h z (List.mem_cons_of_mem _ hz)]

theorem mapE_map_result {f : α → Except ε β} {f' : α → Except ε β'} {g : β → β'} (l : List α)
    (h : ∀ x, f' x = (f x).map g) : mapE f' l = (mapE f l).map (List.map g) := by
  induction l with
  | nil => rfl
  | cons x xs ih =>
    rw [mapE, mapE, h x, ih]
    cases f x with
    | error e => rfl
    | ok c => cases mapE f xs <;> rfl

theorem mapE_mapE {f : α → Except ε β} {g : β → Except ε α} {l : List α} {r : List β}
    (hl : mapE f l = .ok r) (hfg : ∀ x ∈ l, ∀ c, f x = .ok c → g c = .ok x) : mapE g r = .ok l := by
  induction l generalizing r with
  | nil => cases hl; rfl
  | cons x xs ih =>
    obtain ⟨c, cs, hc, hcs, rfl⟩ := mapE_cons_eq_ok hl
    rw [mapE, hfg x List.mem_cons_self c hc, ih hcs fun z hz => hfg z (List.mem_cons_of_mem _ hz)]

end MapE

section Transform
set_option linter.unusedSectionVars false
variable {γ : Type} [LinearOrder γ]

theorem encode1_of_missing (cls : List γ) {missing : γ → Bool} {x : γ} (h : missing x = true) :
    encode1 cls missing x = .ok (-1) := if_pos h

theorem encode1_of_not_missing (cls : List γ) {missing : γ → Bool} {x : γ} (h : missing x = false) :
    encode1 cls missing x =
      match indexOf? x cls with
      | some i => .ok (Int.ofNat i)
      | none => .error .unseen :=
  if_neg (h ▸ Bool.false_ne_true)

theorem encode1_unseen (cls : List γ) (missing : γ → Bool) (x : γ) (hm : missing x = false)
    (hx : x ∉ cls) : encode1 cls missing x = .error .unseen := by
  rw [encode1_of_not_missing cls hm, (indexOf?_eq_none x cls).mpr hx]

theorem encode1_eq_error_iff {cls : List γ} {missing : γ → Bool} {x : γ} {e : LErr} :
    encode1 cls missing x = .error e ↔ e = .unseen ∧ missing x = false ∧ x ∉ cls := by
  refine ⟨fun h => ?_, fun ⟨he, hm, hx⟩ => he ▸ encode1_unseen cls missing x hm hx⟩
  cases hm : missing x with
  | true => rw [encode1_of_missing cls hm] at h; cases h
  | false =>
    rw [encode1_of_not_missing cls hm] at h
    cases hq : indexOf? x cls with
    | none => rw [hq] at h; cases h; exact ⟨rfl, rfl, (indexOf?_eq_none x cls).mp hq⟩
    | some i => rw [hq] at h; cases h

theorem encode1_spec (cls : List γ) (missing : γ → Bool) (x : γ) (c : Int)
    (h : encode1 cls missing x = .ok c) :
    (missing x = true → c = -1) ∧
    (missing x = false → ∃ i : Nat, c = (i : Int) ∧ i < cls.length ∧ cls[i]? = some x) := by
  refine ⟨fun hm => ?_, fun hm => ?_⟩
  · rw [encode1_of_missing cls hm] at h; cases h; rfl
  · rw [encode1_of_not_missing cls hm] at h
    cases hq : indexOf? x cls with
    | none => rw [hq] at h; cases h
    | some i =>
      rw [hq] at h; cases h
      have hg := getElem?_of_indexOf?_eq_some x cls i hq
      exact ⟨i, rfl, (List.getElem?_eq_some_iff.mp hg).1, hg⟩

theorem transformFlat_eq_mapE (cls : List γ) (missing : γ → Bool) (y : List γ) :
    transformFlat cls missing y = mapE (encode1 cls missing) y := by
  induction y with
  | nil => rfl
  | cons x xs ih =>
    rw [transformFlat, mapE, ih]
    cases encode1 cls missing x with
    | error e => rfl
    | ok c => cases mapE (encode1 cls missing) xs <;> rfl

theorem decodeFlat_eq_mapE (cls : List γ) (ml : γ) (es : List Int) :
    decodeFlat cls ml es = mapE (decode1 cls ml) es := by
  induction es with
  | nil => rfl
  | cons x xs ih =>
    rw [decodeFlat, mapE, ih]
    cases decode1 cls ml x with
    | error e => rfl
    | ok c => cases mapE (decode1 cls ml) xs <;> rfl

theorem transformFlat_spec (cls : List γ) (missing : γ → Bool) (y : List γ) (es : List Int)
    (h : transformFlat cls missing y = .ok es) :
    es.length = y.length ∧
    ∀ i, ∀ hi : i < y.length, ∀ hi' : i < es.length,
      (missing y[i] = true → es[i] = -1) ∧
      (missing y[i] = false → ∃ c : Nat, es[i] = (c : Int) ∧ c < cls.length ∧ cls[c]? = some y[i]) := by
  obtain ⟨hl, hget⟩ := mapE_ok (transformFlat_eq_mapE cls missing y ▸ h)
  refine ⟨hl, fun i hi _ => ?_⟩
  obtain ⟨_, he⟩ := hget i hi
  exact encode1_spec cls missing y[i] es[i] he

theorem decodeFlat_ok (cls : List γ) (ml : γ) (es : List Int) (ys : List γ)
    (h : decodeFlat cls ml es = .ok ys) :
    ys.length = es.length ∧ ∀ i, ∀ hi : i < es.length, ∃ hi' : i < ys.length,
      decode1 cls ml es[i] = .ok ys[i] :=
  mapE_ok (decodeFlat_eq_mapE cls ml es ▸ h)

theorem natCast_ne_neg_one (c : Nat) : (c : Int) ≠ -1 := nofun

theorem decode1_neg_one (cls : List γ) (ml : γ) : decode1 cls ml (-1) = .ok ml := rfl

theorem decode1_natCast (cls : List γ) (ml : γ) (c : Nat) :
    decode1 cls ml (c : Int) =
      match cls[c]? with
      | some x => .ok x
      | none => .error .unseen := by
  rw [decode1, if_neg (natCast_ne_neg_one c), if_neg (Int.not_lt.mpr (Int.natCast_nonneg c)),
    Int.toNat_natCast]
  cases cls[c]? <;> rfl

theorem decode1_of_lt_neg_one (cls : List γ) (ml : γ) {e : Int} (h : e < -1) :
    decode1 cls ml e = .error .unseen := by
  rw [decode1, if_neg (Int.ne_of_lt h), if_pos (Int.lt_trans h (by decide))]

theorem decode1_encode1 (cls : List γ) (missing : γ → Bool) (ml : γ)
    (hmiss : ∀ x, missing x = true ↔ x = ml) (x : γ) (c : Int)
    (h : encode1 cls missing x = .ok c) : decode1 cls ml c = .ok x := by
  cases hm : missing x with
  | true => rw [(encode1_spec cls missing x c h).1 hm, decode1_neg_one, (hmiss x).mp hm]
  | false =>
    obtain ⟨i, rfl, -, hget⟩ := (encode1_spec cls missing x c h).2 hm
    rw [decode1_natCast, hget]

end Transform

section LblOrder
variable {α : Type} [LinearOrder α]

/-- `Lbl.lt` (numbers < NaN < strings < None, numbers and strings by value) is a linear order whose
`<` is the `LT` instance the executable model uses. -/
instance Lbl.instLinearOrder : LinearOrder (Lbl α) where
  le a b := Lbl.lt b a = false
  lt a b := Lbl.lt a b = true
  le_refl a := by cases a <;> simp [Lbl.lt]
  le_trans a b c := by
    cases a <;> cases b <;> cases c <;> simp [Lbl.lt] <;> exact fun h1 h2 => le_trans h1 h2
  lt_iff_le_not_ge a b := by
    cases a <;> cases b <;> simp [Lbl.lt] <;> exact fun h => le_of_lt h
  le_antisymm a b := by
    cases a <;> cases b <;> simp [Lbl.lt] <;> exact fun h1 h2 => le_antisymm h1 h2
  le_total a b := by
    cases a <;> cases b <;> simp [Lbl.lt] <;> exact le_total _ _
  toDecidableLE := fun a b => inferInstanceAs (Decidable (Lbl.lt b a = false))
  toDecidableEq := inferInstance
  toDecidableLT := fun a b => inferInstanceAs (Decidable (Lbl.lt a b = true))

theorem Lbl.instLinearOrder_lt : (Lbl.instLinearOrder (α := α)).toLT = (Lbl.instLT : LT (Lbl α)) := rfl

theorem Lbl.num_lt_num (a b : α) : (Lbl.num a : Lbl α) < Lbl.num b ↔ a < b :=
  decide_eq_true_iff

theorem Lbl.str_lt_str (a b : α) : (Lbl.str a : Lbl α) < Lbl.str b ↔ a < b :=
  decide_eq_true_iff

end LblOrder

section Encoder
variable {α : Type} [LinearOrder α]

theorem not_mem_of_checkClassifierParams_ok {ml : Lbl α} {kc : ArrKind} {cls : List (Lbl α)} {u : Unit}
    (h : checkClassifierParams ml (some (kc, cls)) = .ok u) : ml ∉ cls := by
  intro hin
  have hany : cls.any (isMissing ml) = true :=
    List.any_eq_true.mpr ⟨ml, hin, (isMissing_iff ml ml).mpr rfl⟩
  -- `if_pos hany` turns its guard into `.error` wherever it stands; the guards in front become conjuncts of `False`
  simp only [checkClassifierParams, if_pos hany, ite_error_eq_ok_iff, reduceCtorEq, and_false] at h

theorem encoderFit_ok {mlArg : Option (Lbl α)} {classes : Option (ArrKind × List (Lbl α))}
    {y : Arr α} {f : Fitted α} (h : encoderFit mlArg classes y = .ok f) :
    mlArg = some f.ml ∧ checkClassifierParams f.ml classes = .ok () ∧
    f.classes = sortDedup (classes.elim (y.flat.filter (notMissing f.ml)) Prod.snd) := by
  cases mlArg with
  | none => cases h
  | some ml =>
    cases hc : checkClassifierParams ml classes with
    | error e => simp only [encoderFit, checkMl, hc] at h; cases h
    | ok u =>
      simp only [encoderFit, checkMl, hc] at h
      repeat replace h := ite_error_ok h
      cases classes with
      | some p => cases h; exact ⟨rfl, hc, rfl⟩
      | none =>
        cases hu : isUnlabeledArr false (some ml) y with
        | error e => rw [hu] at h; cases h
        | ok m => rw [hu] at h; cases h; exact ⟨rfl, hc, rfl⟩

theorem encoderTransform_ok {f : Fitted α} {y : Arr α} {es : List Int}
    (h : encoderTransform f y = .ok es) :
    transformFlat f.classes (isMissing f.ml) y.flat = .ok es := by
  unfold encoderTransform at h
  repeat replace h := ite_error_ok h
  cases hu : isUnlabeledArr false (some f.ml) y with
  | error e => rw [hu] at h; cases h
  | ok m => rw [hu] at h; exact h

end Encoder

section Relabel
set_option linter.unusedSectionVars false
variable {γ γ' : Type} [LinearOrder γ] [LinearOrder γ']

/-- re-encode a label array: the old sentinel becomes the new one, every other label goes through `φ`. -/
def relabel (φ : γ → γ') (m : γ) (m' : γ') (x : γ) : γ' := if x = m then m' else φ x

/-- `φ` preserves and reflects `<` between the members of `L`. -/
def MonoOn (φ : γ → γ') (L : List γ) : Prop := ∀ a ∈ L, ∀ b ∈ L, (a < b ↔ φ a < φ b)

theorem MonoOn.inj {φ : γ → γ'} {L : List γ} (h : MonoOn φ L) (a b : γ) (ha : a ∈ L) (hb : b ∈ L) :
    φ a = φ b ↔ a = b := by
  refine ⟨fun e => ?_, congrArg φ⟩
  rcases lt_trichotomy a b with hlt | heq | hgt
  · exact absurd ((h a ha b hb).mp hlt) e.not_lt
  · exact heq
  · exact absurd ((h b hb a ha).mp hgt) e.not_gt

theorem MonoOn.mono {φ : γ → γ'} {L L' : List γ} (h : MonoOn φ L) (hsub : ∀ x ∈ L', x ∈ L) : MonoOn φ L' :=
  fun a ha b hb => h a (hsub a ha) b (hsub b hb)

theorem insertSorted_map (φ : γ → γ') (x : γ) (l : List γ)
    (h : ∀ y ∈ l, (x < y ↔ φ x < φ y) ∧ (y < x ↔ φ y < φ x)) :
    insertSorted (φ x) (l.map φ) = (insertSorted x l).map φ := by
  induction l with
  | nil => rfl
  | cons y ys ih =>
    have hy := h y List.mem_cons_self
    rw [List.map_cons]
    rcases lt_trichotomy x y with hxy | rfl | hyx
    · rw [insertSorted_of_lt _ hxy, insertSorted_of_lt _ (hy.1.mp hxy)]; rfl
    · rw [insertSorted_self, insertSorted_self]; rfl
    · rw [insertSorted_of_gt _ hyx, insertSorted_of_gt _ (hy.2.mp hyx), List.map_cons,
        ih fun z hz => h z (List.mem_cons_of_mem _ hz)]

theorem sortDedup_map (φ : γ → γ') (l : List γ) (h : MonoOn φ l) :
    sortDedup (l.map φ) = (sortDedup l).map φ := by
  induction l with
  | nil => rfl
  | cons x xs ih =>
    simp only [List.map_cons, sortDedup]
    rw [ih (h.mono fun z hz => List.mem_cons_of_mem _ hz)]
    refine insertSorted_map φ x _ fun y hy => ?_
    have hy' := List.mem_cons_of_mem x ((mem_sortDedup xs y).mp hy)
    exact ⟨h x List.mem_cons_self y hy', h y hy' x List.mem_cons_self⟩

theorem indexOf?_map (φ : γ → γ') (x : γ) (l : List γ) (h : ∀ a ∈ l, (φ x = φ a ↔ x = a)) :
    indexOf? (φ x) (l.map φ) = indexOf? x l := by
  induction l with
  | nil => rfl
  | cons y ys ih =>
    have hy := h y List.mem_cons_self
    simp only [List.map_cons, indexOf?]
    rw [ih fun a ha => h a (List.mem_cons_of_mem _ ha)]
    by_cases e : x = y
    · rw [if_pos e, if_pos (hy.mpr e)]
    · rw [if_neg e, if_neg fun e' => e (hy.mp e')]

theorem relabel_self (φ : γ → γ') (m : γ) (m' : γ') : relabel φ m m' m = m' := if_pos rfl

theorem relabel_of_ne (φ : γ → γ') {m : γ} (m' : γ') {x : γ} (h : x ≠ m) : relabel φ m m' x = φ x :=
  if_neg h

theorem relabel_eq_sentinel (φ : γ → γ') (m : γ) (m' : γ') (x : γ) (h : x ≠ m → φ x ≠ m') :
    relabel φ m m' x = m' ↔ x = m := by
  by_cases e : x = m
  · rw [e, relabel_self]; exact iff_of_true rfl rfl
  · rw [relabel_of_ne φ m' e]; exact iff_of_false (h e) e

theorem encode1_relabel (φ : γ → γ') (m : γ) (m' : γ') (cls : List γ) (x : γ)
    (hx : x ≠ m → φ x ≠ m') (hinj : x ≠ m → ∀ a ∈ cls, (φ x = φ a ↔ x = a)) :
    encode1 (cls.map φ) (fun z => decide (z = m')) (relabel φ m m' x) =
      encode1 cls (fun z => decide (z = m)) x := by
  unfold encode1
  by_cases e : x = m
  · simp only [e, relabel_self, decide_eq_true, if_true]
  · simp only [relabel_of_ne φ m' e, decide_eq_false (hx e), decide_eq_false e,
      indexOf?_map φ x cls (hinj e)]

theorem decode1_relabel (φ : γ → γ') (m : γ) (m' : γ') (cls : List γ) (hm : m ∉ cls) (e : Int) :
    decode1 (cls.map φ) m' e = (decode1 cls m e).map (relabel φ m m') := by
  unfold decode1
  by_cases h1 : e = -1
  · rw [if_pos h1, if_pos h1]; exact congrArg Except.ok (relabel_self φ m m').symm
  · rw [if_neg h1, if_neg h1]
    by_cases h2 : e < 0
    · rw [if_pos h2, if_pos h2]; rfl
    · rw [if_neg h2, if_neg h2, List.getElem?_map]
      cases hc : cls[e.toNat]? with
      | none => rfl
      | some c =>
        exact congrArg Except.ok
          (relabel_of_ne φ m' fun h : c = m => hm (h ▸ List.mem_of_getElem? hc)).symm

theorem decode1_map (φ : γ → γ') (m : γ) (m' : γ') (cls : List γ) (c : Nat) (x : γ)
    (h : decode1 cls m (c : Int) = .ok x) : decode1 (cls.map φ) m' (c : Int) = .ok (φ x) := by
  rw [decode1_natCast] at h ⊢
  rw [List.getElem?_map]
  cases hc : cls[c]? with
  | none => rw [hc] at h; cases h
  | some v => rw [hc] at h; cases h; rfl

end Relabel

section Argsort
set_option linter.unusedSectionVars false
variable {γ γ' : Type} [LinearOrder γ] [LinearOrder γ']

theorem enumFrom'_eq_zipIdx (i : Nat) (l : List γ) : enumFrom' i l = l.zipIdx i := by
  induction l generalizing i with
  | nil => rfl
  | cons x xs ih => rw [enumFrom', ih, List.zipIdx_cons]

theorem mem_insertKey (p : γ × Nat) (l : List (γ × Nat)) (q : γ × Nat) :
    q ∈ insertKey p l ↔ q = p ∨ q ∈ l := by
  induction l with
  | nil => rw [insertKey, List.mem_singleton, List.mem_nil_iff, or_false]
  | cons z zs ih =>
    simp only [insertKey]
    by_cases h : p.1 < z.1
    · rw [if_pos h, List.mem_cons]
    · rw [if_neg h, List.mem_cons, ih, List.mem_cons, or_left_comm]

theorem mem_sortKeys (l : List (γ × Nat)) (q : γ × Nat) : q ∈ sortKeys l ↔ q ∈ l := by
  induction l with
  | nil => rfl
  | cons x xs ih => simp only [sortKeys, mem_insertKey, ih, List.mem_cons]

theorem insertKey_map (φ : γ → γ') (p : γ × Nat) (l : List (γ × Nat))
    (h : ∀ q ∈ l, (p.1 < q.1 ↔ φ p.1 < φ q.1)) :
    insertKey (Prod.map φ id p) (l.map (Prod.map φ id)) = (insertKey p l).map (Prod.map φ id) := by
  induction l with
  | nil => rfl
  | cons q qs ih =>
    have hq : p.1 < q.1 ↔ (Prod.map φ id p).1 < (Prod.map φ id q).1 := h q List.mem_cons_self
    simp only [List.map_cons, insertKey]
    by_cases h1 : p.1 < q.1
    · rw [if_pos h1, if_pos (hq.mp h1)]; rfl
    · rw [if_neg h1, if_neg fun h' => h1 (hq.mpr h'), List.map_cons,
        ih fun z hz => h z (List.mem_cons_of_mem _ hz)]

theorem sortKeys_map (φ : γ → γ') (l : List (γ × Nat))
    (h : ∀ p ∈ l, ∀ q ∈ l, (p.1 < q.1 ↔ φ p.1 < φ q.1)) :
    sortKeys (l.map (Prod.map φ id)) = (sortKeys l).map (Prod.map φ id) := by
  induction l with
  | nil => rfl
  | cons x xs ih =>
    simp only [List.map_cons, sortKeys]
    rw [ih fun p hp q hq => h p (List.mem_cons_of_mem _ hp) q (List.mem_cons_of_mem _ hq)]
    exact insertKey_map φ x _ fun q hq =>
      h x List.mem_cons_self q (List.mem_cons_of_mem _ ((mem_sortKeys xs q).mp hq))

/-- `np.argsort` only looks at comparisons: an order-preserving renaming leaves it unchanged. -/
theorem argsort_map (φ : γ → γ') (l : List γ) (h : MonoOn φ l) : argsort (l.map φ) = argsort l := by
  rw [argsort, argsort, enumFrom'_eq_zipIdx, enumFrom'_eq_zipIdx, List.zipIdx_map,
    sortKeys_map φ _ fun p hp q hq =>
      h p.1 (List.fst_mem_of_mem_zipIdx hp) q.1 (List.fst_mem_of_mem_zipIdx hq),
    List.map_map]
  rfl

end Argsort

end Ska.Label
