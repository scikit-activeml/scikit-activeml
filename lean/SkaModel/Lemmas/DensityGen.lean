import SkaModel.Gen.DensityGen
import SkaModel.Lemmas.SimLoop

/-!
# The generated `StreamDensityBasedAL._calculate_ldf` (`Gen/DensityGen.lean`) is the hand-written `calcLdf`
(`Core/Density.lean`)

All statements hold for arbitrary lengths of `window_` and `min_dist_` (they need not be equal): `List.zipWith`
truncates to the shorter list exactly as `lowerTo` / `countNew` stop at the shorter list, and the loop never touches
a position beyond the shorter of the two.
-/

set_option linter.unusedSectionVars false

namespace Ska.DensityGen
open Ska Ska.Budget Ska.Density Ska.Gen.Dens

section
variable {α χ : Type}

def dw (o : WObj α χ) : DW α χ := { win := o.window_, md := o.min_dist_ }
def wput (o : WObj α χ) (s : DW α χ) : WObj α χ := { o with window_ := s.win, min_dist_ := s.md }

theorem wput_dw (o : WObj α χ) : wput o (dw o) = o := rfl
theorem dw_wput (o : WObj α χ) (s : DW α χ) : dw (wput o s) = s := rfl
theorem wput_wput (o : WObj α χ) (s s' : DW α χ) : wput (wput o s) s' = wput o s' := rfl

end

variable {α : Type} [LT α] [DecidableLT α] {χ : Type}

/-- `np.sum(distances < np.array(min_dist_))` -/
theorem countTrue_zipWith_eq_countNew (d md : List α) :
    countTrue (List.zipWith (fun d m => decide (d < m)) d md) = countNew md d := by
  induction md generalizing d with
  | nil => rw [List.zipWith_nil_right]; rfl
  | cons m ms ih =>
    cases d with
    | nil => rfl
    | cons x xs =>
      rw [List.zipWith_cons_cons, countTrue_cons, ih xs, countNew]
      simp only [decide_eq_true_eq]

/-- `for i in np.where(d < min_dist_)[0]: min_dist_[i] = d[i]` on the lists -/
theorem foldl_set_lowerTo (inf : α) (ms ds : List α) :
    (idxOf (List.zipWith (fun d m => decide (d < m)) ds ms) 0).foldl (fun md i => md.set i (ds.getD i inf)) ms
      = lowerTo ms ds := by
  induction ms generalizing ds with
  | nil => rw [List.zipWith_nil_right]; rfl
  | cons m ms ih =>
    cases ds with
    | nil => rfl
    | cons d ds =>
      -- the positions after the first are those of the tails, shifted by one
      have tail : ∀ a, (idxOf (List.zipWith (fun d m => decide (d < m)) ds ms) 1).foldl
          (fun md i => md.set i ((d :: ds).getD i inf)) (a :: ms) = a :: lowerTo ms ds := fun a => by
        rw [← ih ds, idxOf_shift _ 0 1, List.foldl_map]
        exact List.foldl_hom (a :: ·) (fun _ _ => rfl)
      rw [List.zipWith_cons_cons, lowerTo]
      by_cases hx : d < m
      · rw [if_pos hx, ← tail d, decide_eq_true hx]; rfl
      · rw [if_neg hx, ← tail m, decide_eq_false hx]; rfl

/-- the `for i in np.where(is_new_nn)[0]` loop, the whole object -/
theorem lower_loop_obj (inf : α) (d md : List α) (o : WObj α χ) :
    (idxOf (List.zipWith (fun d m => decide (d < m)) d md) 0).foldl (_calculate_ldf.loop1 inf d)
        { o with min_dist_ := md }
      = { o with min_dist_ := lowerTo md d } := by
  rw [List.foldl_hom (fun md => ({ o with min_dist_ := md } : WObj α χ))
    (g₁ := fun md i => md.set i (d.getD i inf)) (fun _ _ => rfl), foldl_set_lowerTo]

theorem lower_loop_eq (inf : α) (d md : List α) (o : WObj α χ) :
    ((idxOf (List.zipWith (fun d m => decide (d < m)) d md) 0).foldl (_calculate_ldf.loop1 inf d)
        { o with min_dist_ := md }).min_dist_
      = lowerTo md d := by
  rw [lower_loop_obj]

theorem lower_loop_window (inf : α) (d md : List α) (o : WObj α χ) :
    ((idxOf (List.zipWith (fun d m => decide (d < m)) d md) 0).foldl (_calculate_ldf.loop1 inf d)
        { o with min_dist_ := md }).window_
      = o.window_ := by
  rw [lower_loop_obj]

theorem lower_loop_window_size (inf : α) (d md : List α) (o : WObj α χ) :
    ((idxOf (List.zipWith (fun d m => decide (d < m)) d md) 0).foldl (_calculate_ldf.loop1 inf d)
        { o with min_dist_ := md }).window_size
      = o.window_size := by
  rw [lower_loop_obj]

theorem minLF_cons (inf d : α) (ds : List α) : minLF inf (d :: ds) = minL d ds := rfl

/-- the generated `_calculate_ldf` is `calcLdf` on the two deques, `window_size` is left alone -/
theorem calculate_ldf_eq (dist : χ → χ → α) (inf : α) (o : WObj α χ) (x : χ) :
    _calculate_ldf dist inf o x
      = ((calcLdf o.window_size inf dist (dw o) x).1, wput o (calcLdf o.window_size inf dist (dw o) x).2) := by
  obtain ⟨win, md, w⟩ := o
  cases win with
  | nil => simp [_calculate_ldf, calcLdf, dw, wput]
  | cons v vs =>
    have h := lower_loop_obj inf (dist v x :: vs.map (fun v => dist v x)) md
      ({ window_ := v :: vs, min_dist_ := md, window_size := w } : WObj α χ)
    simp only [_calculate_ldf, calcLdf, dw, wput, List.map_cons, List.length_cons, countTrue_zipWith_eq_countNew]
    simp only [Nat.le_add_left, decide_true, if_true]
    rw [h]
    rfl

end Ska.DensityGen
