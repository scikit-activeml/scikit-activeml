import SkaModel.Gen.SelectionGen
import SkaModel.Lemmas.Basic

/-! The generated model of `skactiveml/utils/_selection.py` (`Gen/SelectionGen.lean`) agrees with the
hand-written model (`Core/Selection.lean`) on all inputs. Core Lean only. -/

namespace Ska.SelectionGen
open Ska Ska.PySel Ska.Gen.Sel

section Rand
variable {α : Type} [LT α] [DecidableLT α] {β : Type} [LT β] [DecidableLT β] [OfNat β 0]

omit [LT β] [DecidableLT β] in
theorem vmulB_eq_masked (m : Option α) (a : List (Option α)) (noise : List β) :
    vmulB noise (a.map (fun x => isOpt m x)) = masked m a noise := by
  induction a generalizing noise with
  | nil => cases noise <;> rfl
  | cons x xs ih => cases noise <;> simp [vmulB, masked, ih]

theorem rand_argmax_eq (draws : Nat → List β) (rs : Nat) (a : List (Option α)) :
    rand_argmax draws rs a = (randArgmax a (draws rs), rs + 1) := by
  simp only [rand_argmax, randArgmax, vmulB_eq_masked]

theorem rand_argmin_eq (draws : Nat → List β) (rs : Nat) (a : List (Option α)) :
    rand_argmin draws rs a = (randArgmin a (draws rs), rs + 1) := by
  simp only [rand_argmin, randArgmin, vmulB_eq_masked]

theorem loop1_append (draws : Nat → List β) (picks : List Nat) (rows : List (List (Option α))) (k : Nat)
    (hp : picks.length = k) (hr : rows.length = k) (p : Nat) (ps : List Nat) (r : List (Option α))
    (rs : List (List (Option α))) (cur : List (Option α)) (c : Nat) :
    simple_batch.loop1 draws (picks ++ p :: ps, rows ++ r :: rs, cur, c) k =
      (picks ++ randArgmax cur (draws c) :: ps, rows ++ cur :: rs,
        cur.set (randArgmax cur (draws c)) none, c + 1) := by
  subst hp
  simp only [simple_batch.loop1, rand_argmax_eq, set_append_length, getD_append_length]
  rw [← hr, set_append_length]

/-- Loop invariant of the generated `simple_batch` loop: `k` slots are filled, `n` slots still hold their initial
value; after the `n` remaining steps these hold the picks / rows of `simpleBatchMaxLoop` on the draws `c, …, c+n-1`. -/
theorem foldl_loop1_eq (draws : Nat → List β) (n k : Nat) (cur : List (Option α)) (picks : List Nat)
    (rows : List (List (Option α))) (c : Nat) (hp : picks.length = k) (hr : rows.length = k) :
    ∃ fin, (List.range' k n).foldl (simple_batch.loop1 draws)
        (picks ++ List.replicate n 0, rows ++ List.replicate n [], cur, c)
      = (picks ++ (simpleBatchMaxLoop n cur ((List.range' c n).map draws)).map (·.1),
         rows ++ (simpleBatchMaxLoop n cur ((List.range' c n).map draws)).map (·.2), fin, c + n) := by
  induction n generalizing k cur picks rows c with
  | zero => exact ⟨cur, rfl⟩
  | succ n ih =>
    obtain ⟨fin, h⟩ := ih (k + 1) (cur.set (randArgmax cur (draws c)) none) (picks ++ [randArgmax cur (draws c)])
      (rows ++ [cur]) (c + 1) (by rw [List.length_append, hp]; rfl) (by rw [List.length_append, hr]; rfl)
    refine ⟨fin, ?_⟩
    rw [List.range'_succ, List.foldl_cons, List.replicate_succ, List.replicate_succ,
      loop1_append draws picks rows k hp hr, List.append_cons picks, List.append_cons rows, h,
      List.range'_succ, List.map_cons, simpleBatchMaxLoop]
    simp only [List.map_cons, List.append_assoc, List.cons_append, List.nil_append, Nat.add_assoc, Nat.add_comm 1 n]

end Rand

section Batch
variable {α : Type} [LT α] [DecidableLT α] [OfNat α 0] [Add α]
variable {β : Type} [LT β] [DecidableLT β] [OfNat β 0]

omit [OfNat α 0] [Add α] in
/-- Past its two validations the translated function returns the picks and the rows of `simpleBatchMaxLoop`. Each
guard is found by the hypothesis that decides it, not by its place; the property theorems cite this form, so they
do not depend on the two sides validating in the same order. -/
theorem simple_batch_max_of_valid (isInf : α → Bool) (draws : Nat → List β) (rs : Nat) (u : List (Option α))
    (b : Nat) (hinf : hasInf isInf u = false) (hb : 1 ≤ b) :
    simple_batch_max isInf draws rs u b
      = (Except.ok (ε := SelErr) (simpleBatchMaxLoop (min b (countSome u)) u
          ((List.range (min b (countSome u))).map (fun k => draws (rs + k))))).map
          (fun rows => (rows.map (·.1), rows.map (·.2))) := by
  have hmin : (if countSome u < b then countSome u else b) = min b (countSome u) := by
    by_cases hc : countSome u < b
    · rw [if_pos hc, Nat.min_eq_right (Nat.le_of_lt hc)]
    · rw [if_neg hc, Nat.min_eq_left (Nat.not_lt.1 hc)]
  obtain ⟨fin, h⟩ := foldl_loop1_eq draws (min b (countSome u)) 0 u [] [] rs rfl rfl
  rw [List.nil_append, List.nil_append, List.nil_append, List.nil_append, ← List.range_eq_range'] at h
  rw [simple_batch_max, hinf, if_neg Bool.false_ne_true, if_neg (Nat.not_lt.2 hb)]
  simp only [hmin, h, List.range'_eq_map_range, List.map_map]
  rfl

theorem simple_batch_max_eq (isInf : α → Bool) (draws : Nat → List β) (rs : Nat) (u : List (Option α)) (b : Nat) :
    simple_batch_max isInf draws rs u b
      = (simpleBatch (β := β) isInf u b .max
          ((List.range (min b (countSome u))).map (fun k => draws (rs + k))) []).map
          (fun rows => (rows.map (·.1), rows.map (·.2))) := by
  -- the validations agree: the same tests in the same order raise the same errors
  rw [simpleBatch]
  by_cases h1 : hasInf isInf u = true
  · rw [simple_batch_max, if_pos h1, if_pos h1]; rfl
  by_cases h2 : b < 1
  · rw [simple_batch_max, if_neg h1, if_neg h1, if_pos h2, if_pos h2]; rfl
  · rw [simple_batch_max_of_valid isInf draws rs u b (eq_false_of_ne_true h1) (Nat.not_lt.1 h2), if_neg h1, if_neg h2]

end Batch

end Ska.SelectionGen
