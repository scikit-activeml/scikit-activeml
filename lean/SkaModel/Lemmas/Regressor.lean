import SkaModel.Lemmas.Classifier
import SkaModel.Core.Regressor

/-! `Core/Regressor.lean` for C15: the arithmetic of the normal-inverse-chi-squared posterior over an ordered field.
The one inequality everything rests on is `combineParams_sigmaSq_ge`: the posterior σ² is at least the prior's share. -/

namespace Ska.Regressor
open Ska.Classifier

section Arith
set_option linter.unusedSectionVars false
variable {α : Type} [Field α] [LinearOrder α] [IsStrictOrderedRing α]

theorem sqr_nonneg (x : α) : 0 ≤ sqr x := mul_self_nonneg x

theorem weightRow_nonneg (w : Option (List α)) (krow : List α) (hk : ∀ k ∈ krow, 0 ≤ k)
    (hw : ∀ l, w = some l → ∀ x ∈ l, 0 ≤ x) : ∀ z ∈ weightRow w krow, 0 ≤ z := by
  cases w with
  | none => exact hk
  | some l => exact forall_mem_zipWith (fun _ _ => mul_nonneg) (hw l rfl) hk

theorem scaleSq_nonneg (q : NIC α) (hk : 0 < q.kappa) (hs : 0 ≤ q.sigmaSq) : 0 ≤ scaleSq q :=
  mul_nonneg (div_nonneg (add_nonneg zero_le_one hk.le) hk.le) hs

theorem scaleSq_pos (q : NIC α) (hk : 0 < q.kappa) (hs : 0 < q.sigmaSq) : 0 < scaleSq q :=
  mul_pos (div_pos (add_pos_of_pos_of_nonneg zero_lt_one hk.le) hk) hs

/-- the posterior variance parameter is at least the prior's share `ν₀σ₀²/(ν₀+ν_u)`: the update's scatter
and the between-means term only add to it. -/
theorem combineParams_sigmaSq_ge (p u : NIC α) (hpk : 0 ≤ p.kappa) (huk : 0 ≤ u.kappa) (hun : 0 ≤ u.nu)
    (hus : 0 ≤ u.sigmaSq) (hk : 0 < p.kappa + u.kappa) (hn : 0 < p.nu + u.nu) :
    p.nu * p.sigmaSq / (p.nu + u.nu) ≤ (combineParams p u).sigmaSq := by
  show p.nu * p.sigmaSq / (p.nu + u.nu) ≤ (p.nu * p.sigmaSq + u.nu * u.sigmaSq +
    p.kappa * u.kappa * sqr (p.mu - u.mu) / (p.kappa + u.kappa)) / (p.nu + u.nu)
  exact div_le_div_of_nonneg_right
    (le_add_of_le_of_nonneg (le_add_of_nonneg_right (mul_nonneg hun hus))
      (div_nonneg (mul_nonneg (mul_nonneg hpk huk) (sqr_nonneg _)) hk.le)) hn.le

theorem tVariance_of_two_lt (nu s2 : α) (hnu : 2 < nu) (hs : 0 ≤ s2) : ∃ v, tVariance nu s2 = some v ∧ 0 ≤ v := by
  rw [tVariance, one_add_one_eq_two, if_pos hnu]
  exact ⟨_, rfl, mul_nonneg (div_nonneg (zero_le_two.trans hnu.le) (sub_nonneg.mpr hnu.le)) hs⟩

theorem labelMean_of_pos (ys : List α) (h : 0 < ys.length) : labelMean ys = sumL ys / (ys.length : α) := by
  rw [labelMean, if_pos h, natTo_eq]

theorem labelVar_nonneg (ys : List α) : 0 ≤ labelVar ys := by
  refine div_nonneg (sumL_nonneg _ fun x hx => ?_) (natTo_eq (α := α) ys.length ▸ Nat.cast_nonneg _)
  obtain ⟨y, -, rfl⟩ := List.mem_map.mp hx
  exact sqr_nonneg _

theorem boundScale_eq_max (tiny s : α) : boundScale tiny s = max tiny s := by
  unfold boundScale; split
  · next h => exact (max_eq_left h.le).symm
  · next h => exact (max_eq_right (not_lt.mp h)).symm

theorem transposeM_length (q : Nat) (M : List (List α)) : (transposeM q M).length = q := by
  simp [transposeM]

end Arith
end Ska.Regressor
