import SkaModel.Core.Effects

/-!
# Soundness of the two analyses of effect summaries (core Lean only)

`prog_sound`: a program accepted by `check` keeps the simulation invariant `Sim` between the abstract state and the
store, and changes the old heap only within the frame `FrameRel`.
`hist_sound`: a program accepted by `histCheck` runs in lock-step on any two objects that agree on the parameters.
Both are inductions over the program with the same shape; the branching case rests on the end of either branch
being described by the join of both (`Post.joinO_*`, `HPost.joinW_*`).
-/

namespace Ska.Effects

theorem forceN_eq {β : Type} (n : Nat) (k : Nat → β) : forceN n k = k n := by
  cases n <;> rfl

theorem Abs.force_eq {β : Type} (A : Abs) (k : Abs → β) : A.force k = k A := by
  simp only [Abs.force, forceN_eq]

theorem testBit_setBitTo (n i j : Nat) (b : Bool) :
    (setBitTo n i b).testBit j = if j = i then b else n.testBit j := by
  -- `n ||| 2 ^ i` sets bit `i`, `n ^^^ (n &&& 2 ^ i)` clears it; `simp` does the bit algebra
  by_cases h : i = j
  · subst h; cases b <;> simp [setBitTo]
  · cases b <;> simp [setBitTo, h, Ne.symm h]

theorem testBit_maskOf (l : List Nat) (i : Nat) : (maskOf l).testBit i = l.contains i := by
  induction l with
  | nil => exact Nat.zero_testBit i
  | cons a l ih =>
    rw [maskOf, Nat.testBit_or, Nat.testBit_two_pow, ih, List.contains_cons, Bool.beq_comm (a := i),
      Bool.beq_eq_decide_eq]

theorem Abs.join_comm (A B : Abs) : A.join B = B.join A := by
  simp only [Abs.join, Nat.and_comm]

theorem joinO_comm : ∀ r₁ r₂ : Option Abs, joinO r₁ r₂ = joinO r₂ r₁
  | none, none => rfl
  | none, some _ => rfl
  | some _, none => rfl
  | some A, some B => congrArg some (A.join_comm B)

theorem joinW_comm : ∀ r₁ r₂ : Option Nat, joinW r₁ r₂ = joinW r₂ r₁
  | none, none => rfl
  | none, some _ => rfl
  | some _, none => rfl
  | some a, some b => congrArg some (Nat.and_comm a b)

theorem check_seq (S : Summary) (e : Atom) (rest : Prog) (A : Abs) :
    check S (.seq e rest) A =
      ((checkAtom S.params A e).1 && (check S rest (checkAtom S.params A e).2).1,
       (check S rest (checkAtom S.params A e).2).2) := by
  rw [check, Abs.force_eq]

theorem check_ite (S : Summary) (t e rest : Prog) (A : Abs) :
    check S (.ite t e rest) A =
      ((check S t A).1 && (check S e A).1 && (joinO (check S t A).2 (check S e A).2).all fun J => (check S rest J).1,
       (joinO (check S t A).2 (check S e A).2).bind fun J => (check S rest J).2) := by
  rw [check, Abs.force_eq]
  cases check S t A with
  | mk ok1 r1 =>
    cases check S e A with
    | mk ok2 r2 =>
      simp only
      cases joinO r1 r2 with
      | none => exact congrArg (·, none) (Bool.and_true _).symm
      | some J => rfl

theorem histCheck_seq (ps : List Nat) (e : Atom) (rest : Prog) (W : Nat) :
    histCheck ps (.seq e rest) W =
      ((histAtom ps W e).1 && (histCheck ps rest (histAtom ps W e).2).1,
       (histCheck ps rest (histAtom ps W e).2).2) := by
  rw [histCheck, forceN_eq]

theorem histCheck_ite (ps : List Nat) (t e rest : Prog) (W : Nat) :
    histCheck ps (.ite t e rest) W =
      ((histCheck ps t W).1 && (histCheck ps e W).1 &&
          (joinW (histCheck ps t W).2 (histCheck ps e W).2).all fun J => (histCheck ps rest J).1,
       (joinW (histCheck ps t W).2 (histCheck ps e W).2).bind fun J => (histCheck ps rest J).2) := by
  rw [histCheck, forceN_eq]
  cases histCheck ps t W with
  | mk ok1 r1 =>
    cases histCheck ps e W with
    | mk ok2 r2 =>
      simp only
      cases joinW r1 r2 with
      | none => exact congrArg (·, none) (Bool.and_true _).symm
      | some J => rfl

theorem frameOK_eq (S : Summary) :
    FrameOK S = ((check S S.body (Abs.init S)).1 && (check S S.body (Abs.init S)).2.all (exitOK S)) := by
  unfold FrameOK
  cases check S S.body (Abs.init S) with
  | mk ok r =>
    cases r with
    | none => exact (Bool.and_true ok).symm
    | some A => rfl

theorem historyFree_eq (S : Summary) :
    HistoryFree S = ((histCheck S.params S.body 0).1 &&
      (histCheck S.params S.body 0).2.all fun W => mayWrite S.body &&& W == mayWrite S.body) := by
  unfold HistoryFree
  cases histCheck S.params S.body 0 with
  | mk ok r =>
    cases r with
    | none => exact (Bool.and_true ok).symm
    | some W => rfl

/-- Fixed data of one call: `n₀` the allocation pointer on entry, `self`, its parameter attributes,
`O` the old cells privately owned by `self` (objects created by earlier calls of `self`), `W` the
fields that calls of *other* strategy objects (`callInner`) are allowed to write. -/
structure Ctx where
  n₀ : Nat
  self : Nat
  ps : List Nat
  O : Nat → Prop
  W : Nat → Nat → Prop

/-- a cell this call may mutate without the caller noticing -/
def Ctx.Safe (C : Ctx) (r : Nat) : Prop := C.n₀ ≤ r ∨ C.O r

structure Ctx.WF (C : Ctx) : Prop where
  self_lt : C.self < C.n₀
  O_self : ¬ C.O C.self
  W_lt : ∀ c k, C.W c k → c < C.n₀
  W_O : ∀ c k, C.W c k → ¬ C.O c
  W_self : ∀ k, C.W C.self k → C.ps.contains k = false

/-- The only old fields the call may change: cells owned by `self`, what inner calls may write, and
the non-parameter attributes of `self`. -/
def Ctx.Touch (C : Ctx) (r k : Nat) : Prop :=
  C.O r ∨ C.W r k ∨ (r = C.self ∧ C.ps.contains k = false)

def FrameRel (C : Ctx) (h h' : Heap) : Prop :=
  h.next ≤ h'.next ∧ ∀ r k, r < C.n₀ → ¬ C.Touch r k → h'.cell r k = h.cell r k

/-- Contract of the transformers used for `callInner`: they leave alone every existing field
outside `W`. -/
def InnerOK (C : Ctx) (inner : Nat → Heap → Heap) : Prop :=
  ∀ r h, C.n₀ ≤ h.next →
    h.next ≤ (inner r h).next ∧ ∀ c k, c < h.next → ¬ C.W c k → (inner r h).cell c k = h.cell c k

theorem FrameRel.refl (C : Ctx) (h : Heap) : FrameRel C h h :=
  ⟨Nat.le_refl _, fun _ _ _ _ => rfl⟩

theorem FrameRel.trans {C : Ctx} {h₁ h₂ h₃ : Heap} (a : FrameRel C h₁ h₂) (b : FrameRel C h₂ h₃) :
    FrameRel C h₁ h₃ :=
  ⟨Nat.le_trans a.1 b.1, fun r k hr ht => (b.2 r k hr ht).trans (a.2 r k hr ht)⟩

theorem Ctx.Safe.ne_self {C : Ctx} {r : Nat} (h : C.Safe r) (hC : C.WF) : r ≠ C.self := by
  rintro rfl
  exact h.elim (Nat.not_le_of_lt hC.self_lt) hC.O_self

theorem frame_setCell {C : Ctx} (h : Heap) (r : Nat) (hr : C.Safe r) (o : Nat → Val) :
    FrameRel C h (h.setCell r o) := by
  refine ⟨Nat.le_refl _, fun r' k hlt ht => congrFun (if_neg ?_) k⟩
  rintro rfl
  exact hr.elim (Nat.not_le_of_lt hlt) fun hO => ht (Or.inl hO)

theorem frame_alloc (C : Ctx) (h : Heap) (hn : C.n₀ ≤ h.next) (o : Nat → Val) :
    FrameRel C h (h.alloc o) :=
  ⟨Nat.le_succ _, fun _ k hlt _ => congrFun (if_neg (Nat.ne_of_lt (Nat.lt_of_lt_of_le hlt hn))) k⟩

theorem frame_setField {C : Ctx} (h : Heap) (a : Nat) (ha : C.ps.contains a = false) (v : Val) :
    FrameRel C h (h.setField C.self a v) := by
  refine ⟨Nat.le_refl _, fun r k _ ht => ?_⟩
  by_cases hr : r = C.self
  · subst hr
    refine (congrFun (if_pos rfl) k).trans (if_neg ?_)
    rintro rfl
    exact ht (Or.inr (Or.inr ⟨rfl, ha⟩))
  · exact congrFun (if_neg hr) k

/-- `v` is what the three bits `k` claim, with `D` the set of closed cells and `nx` the allocation pointer -/
structure okVal (C : Ctx) (D : Nat → Prop) (nx : Nat) (k : Cls) (v : Val) : Prop where
  mutable : k.m = true → ∀ r, v = .ref r → C.Safe r ∧ r < nx
  closed : k.c = true → ∀ r, v = .ref r → D r
  notClosed : k.n = true → ∀ r, v = .ref r → ¬ D r ∧ r < nx

def Cls.le (k k' : Cls) : Prop :=
  (k.m = true → k'.m = true) ∧ (k.c = true → k'.c = true) ∧ (k.n = true → k'.n = true)

/-- The abstract state `A` describes the store `s`: every local and every attribute of `self` is what its bits
claim, for a set `D` of closed cells — cells the call may mutate, with all references in their fields in `D` again. -/
structure Sim (C : Ctx) (A : Abs) (D : Nat → Prop) (s : St) : Prop where
  loc : ∀ x, okVal C D s.h.next (clsPath A (.loc x)) (s.env x)
  attr : ∀ a, okVal C D s.h.next (clsPath A (.attr a)) (s.h.cell C.self a)
  d_safe : ∀ c, D c → C.Safe c ∧ c < s.h.next
  d_closed : ∀ c, D c → ∀ k r, s.h.cell c k = .ref r → D r
  next_ge : C.n₀ ≤ s.h.next

section Simulation
variable {C : Ctx} {A : Abs} {D : Nat → Prop} {s : St}

theorem okVal_le {nx : Nat} {k k' : Cls} {v : Val} (hle : k.le k') (h : okVal C D nx k' v) : okVal C D nx k v :=
  ⟨fun hm => h.mutable (hle.1 hm), fun hc => h.closed (hle.2.1 hc), fun hn => h.notClosed (hle.2.2 hn)⟩

theorem okVal_grow {D' : Nat → Prop} {nx nx' : Nat} (hnx : nx ≤ nx') (hD : ∀ c, D c → D' c)
    (hD' : ∀ c, D' c → D c ∨ nx ≤ c) {k : Cls} {v : Val} (h : okVal C D nx k v) : okVal C D' nx' k v :=
  ⟨fun hm r hv => ⟨(h.mutable hm r hv).1, Nat.lt_of_lt_of_le (h.mutable hm r hv).2 hnx⟩,
   fun hc r hv => hD _ (h.closed hc r hv),
   fun hn r hv => ⟨fun hd => (hD' r hd).elim (h.notClosed hn r hv).1 (Nat.not_le_of_lt (h.notClosed hn r hv).2),
     Nat.lt_of_lt_of_le (h.notClosed hn r hv).2 hnx⟩⟩

theorem okVal_atom {nx : Nat} {k : Cls} {n : Nat} : okVal C D nx k (.atom n) :=
  ⟨fun _ _ h => (nomatch h), fun _ _ h => (nomatch h), fun _ _ h => (nomatch h)⟩

theorem okVal_none {nx : Nat} {v : Val} : okVal C D nx ⟨false, false, false⟩ v :=
  ⟨fun h => (nomatch h), fun h => (nomatch h), fun h => (nomatch h)⟩

theorem Sim.congr {s' : St} (hs : Sim C A D s) (hh : s'.h = s.h) (he : s'.env = s.env) : Sim C A D s' := by
  obtain ⟨h, env, _, _⟩ := s'
  cases hh; cases he
  exact ⟨hs.loc, hs.attr, hs.d_safe, hs.d_closed, hs.next_ge⟩

theorem clsPath_sound (hs : Sim C A D s) (p : Path) :
    okVal C D s.h.next (clsPath A p) (evalPath C.self s p) := by
  induction p with
  | loc x => exact hs.loc x
  | attr a => exact hs.attr a
  | sub p k ih =>
    simp only [clsPath, evalPath]
    cases hc : (clsPath A p).c with
    | false => exact okVal_none
    | true =>
      cases hv : evalPath C.self s p with
      | atom n => exact okVal_atom
      | ref r =>
        have hD : D r := ih.closed hc r hv
        exact ⟨fun _ r' hr' => hs.d_safe _ (hs.d_closed r hD k r' hr'),
          fun _ r' hr' => hs.d_closed r hD k r' hr', fun h => (nomatch h)⟩

theorem mutOK_safe (hs : Sim C A D s) (p : Path) (hok : mutOK A p = true) (r : Nat)
    (hv : evalPath C.self s p = .ref r) : C.Safe r := by
  rcases Bool.or_eq_true _ _ ▸ hok with h | h
  · exact ((clsPath_sound hs p).mutable h r hv).1
  · exact (hs.d_safe r ((clsPath_sound hs p).closed h r hv)).1

theorem pickStored_closed (hs : Sim C A D s) (ps : List Path) (hall : allClosed A ps = true) (i : Nat)
    (d : Val) (r : Nat) (hd : d = .ref r → D r) (h : pickStored C.self s ps i d = .ref r) : D r := by
  unfold pickStored at h
  cases hp : ps[i]? with
  | none => rw [hp] at h; exact hd h
  | some p =>
    rw [hp] at h
    exact (clsPath_sound hs p).closed (List.all_eq_true.mp hall p (List.mem_of_getElem? hp)) r h

theorem Sim.weaken {B : Abs} (hs : Sim C A D s) (hl : ∀ x, (clsPath B (.loc x)).le (clsPath A (.loc x)))
    (ha : ∀ x, (clsPath B (.attr x)).le (clsPath A (.attr x))) : Sim C B D s :=
  ⟨fun x => okVal_le (hl x) (hs.loc x), fun a => okVal_le (ha a) (hs.attr a), hs.d_safe, hs.d_closed, hs.next_ge⟩

theorem Sim.join_left {B : Abs} (hs : Sim C A D s) : Sim C (A.join B) D s := by
  apply hs.weaken <;> intro x <;>
    simp only [Cls.le, clsPath, Abs.join, Nat.testBit_and, Bool.and_eq_true] <;>
    exact ⟨fun h => h.1, fun h => h.1, fun h => h.1⟩

theorem clsPath_forgetAttrs_attr (A : Abs) (a : Nat) : clsPath A.forgetAttrs (.attr a) = ⟨false, false, false⟩ := by
  simp only [clsPath, Abs.forgetAttrs, Nat.zero_testBit]

theorem Sim.forgetAttrs (hs : Sim C A D s) : Sim C A.forgetAttrs D s :=
  hs.weaken (fun _ => ⟨id, id, id⟩) fun _ => by
    rw [clsPath_forgetAttrs_attr]
    exact ⟨fun h => (nomatch h), fun h => (nomatch h), fun h => (nomatch h)⟩

theorem okVal_demote {nx : Nat} {k : Cls} {v : Val} (hd : ∀ c, D c → C.Safe c ∧ c < nx)
    (h : okVal C D nx k v) : okVal C (fun _ => False) nx ⟨k.m || k.c, false, k.m || k.c || k.n⟩ v := by
  have hmc : (k.m || k.c) = true → ∀ r, v = .ref r → C.Safe r ∧ r < nx := fun hmc r hv =>
    (Bool.or_eq_true _ _ ▸ hmc).elim (fun hm => h.mutable hm r hv) fun hc => hd r (h.closed hc r hv)
  exact ⟨hmc, fun hf => (nomatch hf), fun hn r hv => ⟨id,
    (Bool.or_eq_true _ _ ▸ hn).elim (fun hn => (hmc hn r hv).2) fun hn => (h.notClosed hn r hv).2⟩⟩

theorem Sim.demote (hs : Sim C A D s) : Sim C A.demote (fun _ => False) s :=
  { loc := fun x => by
      simpa only [clsPath, Abs.demote, Nat.testBit_or, Nat.zero_testBit] using okVal_demote hs.d_safe (hs.loc x)
    attr := fun a => by
      simpa only [clsPath, Abs.demote, Nat.testBit_or, Nat.zero_testBit] using okVal_demote hs.d_safe (hs.attr a)
    d_safe := fun _ h => h.elim
    d_closed := fun _ h => h.elim
    next_ge := hs.next_ge }

/-- Allocation; the new cell joins the closed set (`b`) if its references stay inside it. -/
theorem Sim.alloc (hC : C.WF) (hs : Sim C A D s) (o : Nat → Val) (b : Bool)
    (ho : b = true → ∀ k r, o k = .ref r → D r ∨ r = s.h.next) :
    Sim C A (fun c => D c ∨ (b = true ∧ c = s.h.next)) { s with h := s.h.alloc o } := by
  have hself : C.self ≠ s.h.next := Nat.ne_of_lt (Nat.lt_of_lt_of_le hC.self_lt hs.next_ge)
  have hg : ∀ {k v}, okVal C D s.h.next k v →
      okVal C (fun c => D c ∨ (b = true ∧ c = s.h.next)) (s.h.next + 1) k v :=
    okVal_grow (Nat.le_succ _) (fun _ => Or.inl) (fun _ h => h.imp_right fun h => Nat.le_of_eq h.2.symm)
  refine ⟨fun x => hg (hs.loc x), fun a => ?_, fun c hc => ?_, fun c hc k r hv => ?_, Nat.le_succ_of_le hs.next_ge⟩
  · simpa only [Heap.alloc, hself, if_false] using hg (hs.attr a)
  · rcases hc with hc | ⟨-, rfl⟩
    · exact ⟨(hs.d_safe c hc).1, Nat.lt_succ_of_lt (hs.d_safe c hc).2⟩
    · exact ⟨Or.inl hs.next_ge, Nat.lt_succ_self _⟩
  · rcases hc with hc | ⟨hb, rfl⟩
    · have hne : c ≠ s.h.next := Nat.ne_of_lt (hs.d_safe c hc).2
      simp only [Heap.alloc, hne, if_false] at hv
      exact Or.inl (hs.d_closed c hc k r hv)
    · simp only [Heap.alloc, if_true] at hv
      exact (ho hb k r hv).imp_right fun h => ⟨hb, h⟩

theorem okVal_new (hs : Sim C A D s) (o : Nat → Val) (b : Bool) :
    okVal C (fun q => D q ∨ (b = true ∧ q = s.h.next)) (s.h.alloc o).next ⟨true, b, !b⟩ (.ref s.h.next) := by
  refine ⟨fun _ r hr => ?_, fun hb r hr => ?_, fun hb r hr => ?_⟩ <;> cases hr
  · exact ⟨Or.inl hs.next_ge, Nat.lt_succ_self _⟩
  · exact Or.inr ⟨hb, rfl⟩
  · refine ⟨fun hd => ?_, Nat.lt_succ_self _⟩
    rcases hd with hd | ⟨hb', -⟩
    · exact Nat.lt_irrefl _ (hs.d_safe _ hd).2
    · rw [hb'] at hb; cases hb

theorem Sim.setCell (hC : C.WF) (hs : Sim C A D s) (r : Nat) (hr : C.Safe r) (o : Nat → Val)
    (ho : D r → ∀ k r', o k = .ref r' → D r') (n : Nat) :
    Sim C A D { s with h := s.h.setCell r o, clk := n } := by
  have hne : C.self ≠ r := (hr.ne_self hC).symm
  refine ⟨hs.loc, fun a => ?_, hs.d_safe, fun c hc k r' hv => ?_, hs.next_ge⟩
  · simp only [Heap.setCell, hne, if_false]; exact hs.attr a
  · by_cases hcr : c = r
    · subst hcr
      simp only [Heap.setCell, if_true] at hv
      exact ho hc k r' hv
    · simp only [Heap.setCell, hcr, if_false] at hv
      exact hs.d_closed c hc k r' hv

theorem clsPath_setLoc_loc (A : Abs) (x y : Nat) (k : Cls) :
    clsPath (A.setLoc x k) (.loc y) = if y = x then k else clsPath A (.loc y) := by
  simp only [clsPath, Abs.setLoc, testBit_setBitTo]; split <;> rfl

theorem clsPath_setAttr_attr (A : Abs) (a b : Nat) (k : Cls) :
    clsPath (A.setAttr a k) (.attr b) = if b = a then k else clsPath A (.attr b) := by
  simp only [clsPath, Abs.setAttr, testBit_setBitTo]; split <;> rfl

theorem Sim.setLoc (hs : Sim C A D s) (x : Nat) {k : Cls} {v : Val} (hv : okVal C D s.h.next k v) (n : Nat) :
    Sim C (A.setLoc x k) D { s with env := fun y => if y = x then v else s.env y, clk := n } := by
  refine ⟨fun y => ?_, hs.attr, hs.d_safe, hs.d_closed, hs.next_ge⟩
  rw [clsPath_setLoc_loc]
  dsimp only
  split
  · exact hv
  · exact hs.loc y

theorem Sim.setAttr (hC : C.WF) (hs : Sim C A D s) (a : Nat) {k : Cls} {v : Val}
    (hv : okVal C D s.h.next k v) (n : Nat) :
    Sim C (A.setAttr a k) D { s with h := s.h.setField C.self a v, clk := n } := by
  refine ⟨hs.loc, fun b => ?_, hs.d_safe, fun c hc k q hq => ?_, hs.next_ge⟩
  · rw [clsPath_setAttr_attr]
    simp only [Heap.setField, Heap.setCell, if_true]
    split
    · exact hv
    · exact hs.attr b
  · have hne : c ≠ C.self := (hs.d_safe c hc).1.ne_self hC
    simp only [Heap.setField, Heap.setCell, hne, if_false] at hq
    exact hs.d_closed c hc k q hq

theorem Sim.inner (hC : C.WF) {inner : Nat → Heap → Heap} (hin : InnerOK C inner) (hs : Sim C A D s)
    (r n : Nat) :
    Sim C A.forgetAttrs D { s with h := inner r s.h, clk := n } ∧ FrameRel C s.h (inner r s.h) := by
  obtain ⟨hnext, hcells⟩ := hin r s.h hs.next_ge
  refine ⟨⟨fun x => ?_, fun a => ?_, fun c hc => ?_, fun c hc k q hq => ?_, Nat.le_trans hs.next_ge hnext⟩, hnext,
    fun r' k hlt ht => hcells r' k (Nat.lt_of_lt_of_le hlt hs.next_ge) fun hw => ht (Or.inr (Or.inl hw))⟩
  · exact okVal_grow hnext (fun _ h => h) (fun _ h => Or.inl h) (hs.forgetAttrs.loc x)
  · rw [clsPath_forgetAttrs_attr]; exact okVal_none
  · exact ⟨(hs.d_safe c hc).1, Nat.lt_of_lt_of_le (hs.d_safe c hc).2 hnext⟩
  · have hsafe := hs.d_safe c hc
    -- a cell the call may mutate is not one an inner call may write
    rw [show (inner r s.h).cell c k = s.h.cell c k from hcells c k hsafe.2 fun hw =>
      hsafe.1.elim (fun h => Nat.not_lt.mpr h (hC.W_lt c k hw)) (hC.W_O c k hw)] at hq
    exact hs.d_closed c hc k q hq

theorem rhs_sound (hC : C.WF) (ω : Ora) (hs : Sim C A D s) (r : Rhs) :
    ∃ D', okVal C D' (evalRhs C.self ω s r).2.next (clsRhs A r) (evalRhs C.self ω s r).1 ∧
      Sim C A D' { s with h := (evalRhs C.self ω s r).2 } ∧
      FrameRel C s.h (evalRhs C.self ω s r).2 := by
  cases r with
  | alias p => exact ⟨D, clsPath_sound hs p, hs, FrameRel.refl _ _⟩
  | copy p =>
    simp only [evalRhs, clsRhs]
    cases hv : evalPath C.self s p with
    | atom n => exact ⟨D, okVal_atom, hs, FrameRel.refl _ _⟩
    | ref r =>
      exact ⟨_, okVal_new hs _ _, hs.alloc hC _ _ fun hc k r' hr' =>
        Or.inl (hs.d_closed r ((clsPath_sound hs p).closed hc r hv) k r' hr'), frame_alloc C _ hs.next_ge _⟩
  | deep p =>
    simp only [evalRhs, clsRhs]
    cases hv : evalPath C.self s p with
    | atom n => exact ⟨D, okVal_atom, hs, FrameRel.refl _ _⟩
    | ref r =>
      refine ⟨_, okVal_new hs _ true, hs.alloc hC _ true fun _ k r' hr' => Or.inr ?_, frame_alloc C _ hs.next_ge _⟩
      split at hr'
      · cases hr'
      · exact (Val.ref.inj hr').symm
  | fresh caps =>
    refine ⟨_, okVal_new hs _ _, hs.alloc hC _ _ fun hc k r' hr' => Or.inl ?_, frame_alloc C _ hs.next_ge _⟩
    split at hr'
    · cases hr'
    · cases hr'
    · exact pickStored_closed hs caps hc _ (.atom 0) r' (fun h => nomatch h) hr'

theorem atom_sound (hC : C.WF) (inner : Nat → Heap → Heap) (hin : InnerOK C inner) (ω : Ora)
    (hs : Sim C A D s) (e : Atom) (hok : (checkAtom C.ps A e).1 = true) :
    ∃ D', Sim C (checkAtom C.ps A e).2 D' (execAtom C.self inner ω s e) ∧
      FrameRel C s.h (execAtom C.self inner ω s e).h := by
  cases e with
  | bind x r =>
    obtain ⟨D', hval, hsim', hfr⟩ := rhs_sound hC ω hs r
    exact ⟨D', hsim'.setLoc x hval _, hfr⟩
  | writeAttr a r =>
    obtain ⟨D', hval, hsim', hfr⟩ := rhs_sound hC ω hs r
    exact ⟨D', hsim'.setAttr hC a hval _, hfr.trans (frame_setField _ a ((Bool.not_eq_true' _).mp hok) _)⟩
  | mutate p stored =>
    simp only [execAtom, checkAtom]
    cases hv : evalPath C.self s p with
    | atom n =>
      split
      · exact ⟨D, hs.congr rfl rfl, FrameRel.refl _ _⟩
      · exact ⟨_, hs.demote.congr rfl rfl, FrameRel.refl _ _⟩
    | ref r =>
      have hsafe : C.Safe r := mutOK_safe hs p hok r hv
      dsimp only
      split
      · next hall =>
        refine ⟨D, hs.setCell hC r hsafe _ (fun hD k r' hr' => ?_) _, frame_setCell _ _ hsafe _⟩
        rcases Bool.or_eq_true _ _ ▸ hall with hn | hall
        · exact absurd hD ((clsPath_sound hs p).notClosed hn r hv).1
        · split at hr'
          · exact hs.d_closed r hD k r' hr'
          · cases hr'
          · exact pickStored_closed hs stored hall _ _ r' (hs.d_closed r hD k r') hr'
      · exact ⟨_, hs.demote.setCell hC r hsafe _ (fun hD => hD.elim) _, frame_setCell _ _ hsafe _⟩
  | callFit p =>
    simp only [execAtom]
    cases hv : evalPath C.self s p with
    | atom n => exact ⟨D, hs.congr rfl rfl, FrameRel.refl _ _⟩
    | ref r =>
      have hsafe : C.Safe r := mutOK_safe hs p hok r hv
      refine ⟨D, hs.setCell hC r hsafe _ (fun hD k r' hr' => ?_) _, frame_setCell _ _ hsafe _⟩
      split at hr'
      · cases hr'
      · exact hs.d_closed r hD k r' hr'
  | callInner p =>
    simp only [execAtom]
    cases hv : evalPath C.self s p with
    | atom n => exact ⟨D, hs.forgetAttrs.congr rfl rfl, FrameRel.refl _ _⟩
    | ref r => exact ⟨D, hs.inner hC hin r _⟩
  | readAttr a => exact ⟨D, hs.congr rfl rfl, FrameRel.refl _ _⟩

end Simulation

theorem execAtom_dead (self : Nat) (inner : Nat → Heap → Heap) (ω : Ora) (s : St) (e : Atom) :
    (execAtom self inner ω s e).dead = s.dead := by
  cases e with
  | mutate p st => rw [execAtom]; cases evalPath self s p <;> rfl
  | callFit p => rw [execAtom]; cases evalPath self s p <;> rfl
  | callInner p => rw [execAtom]; cases evalPath self s p <;> rfl
  | _ => rfl

/-- What `check` guarantees about the state a program ends in: after an exceptional exit the
ownership exit condition holds for some abstract state describing the final store; after a normal
exit the abstract state computed by `check` describes it. -/
def Post (C : Ctx) (S : Summary) (r : Option Abs) (D' : Nat → Prop) (s' : St) : Prop :=
  (s'.dead = true → ∃ A', Sim C A' D' s' ∧ exitOK S A' = true) ∧
  (s'.dead = false → ∃ A', r = some A' ∧ Sim C A' D' s')

theorem Post.joinO_left {C : Ctx} {S : Summary} {r₁ : Option Abs} {D : Nat → Prop} {s : St}
    (h : Post C S r₁ D s) (r₂ : Option Abs) : Post C S (joinO r₁ r₂) D s := by
  refine ⟨h.1, fun hd => ?_⟩
  obtain ⟨A, rfl, hs⟩ := h.2 hd
  cases r₂ with
  | none => exact ⟨A, rfl, hs⟩
  | some B => exact ⟨A.join B, rfl, hs.join_left⟩

theorem Post.joinO_right {C : Ctx} {S : Summary} {r₂ : Option Abs} {D : Nat → Prop} {s : St}
    (h : Post C S r₂ D s) (r₁ : Option Abs) : Post C S (joinO r₁ r₂) D s :=
  joinO_comm r₂ r₁ ▸ h.joinO_left r₁

theorem prog_sound {C : Ctx} (hC : C.WF) (S : Summary) (hps : S.params = C.ps)
    (inner : Nat → Heap → Heap) (hin : InnerOK C inner) (ω : Ora)
    (p : Prog) : ∀ {A : Abs} {D : Nat → Prop} {s : St}, Sim C A D s → s.dead = false →
      (check S p A).1 = true →
      ∃ D', Post C S (check S p A).2 D' (run C.self inner ω p s) ∧
        FrameRel C s.h (run C.self inner ω p s).h := by
  induction p with
  | skip =>
    intro A D s hs hd _
    exact ⟨D, ⟨fun h => (by rw [run, hd] at h; cases h), fun _ => ⟨A, rfl, hs⟩⟩, FrameRel.refl _ _⟩
  | abort =>
    intro A D s hs _ hok
    exact ⟨D, ⟨fun _ => ⟨A, hs.congr rfl rfl, hok⟩, fun h => (nomatch h)⟩, FrameRel.refl _ _⟩
  | seq e rest ih =>
    intro A D s hs hd hok
    rw [check_seq, hps] at hok ⊢
    rw [Bool.and_eq_true] at hok
    obtain ⟨D₁, hs₁, hf₁⟩ := atom_sound hC inner hin ω hs e hok.1
    obtain ⟨D₂, hp₂, hf₂⟩ := ih hs₁ ((execAtom_dead ..).trans hd) hok.2
    exact ⟨D₂, hp₂, hf₁.trans hf₂⟩
  | ite t e rest iht ihe ihr =>
    intro A D s hs hd hok
    rw [check_ite, Bool.and_eq_true, Bool.and_eq_true, Option.all_eq_true] at hok
    obtain ⟨⟨hokt, hoke⟩, hokr⟩ := hok
    have hst : Sim C A D s.tick := hs.congr rfl rfl
    -- the rest runs from any state the join of both branches describes
    have hrest : ∀ D₁ s', Post C S (joinO (check S t A).2 (check S e A).2) D₁ s' → FrameRel C s.h s'.h →
        ∃ D', Post C S (check S (.ite t e rest) A).2 D' (if s'.dead then s' else run C.self inner ω rest s') ∧
          FrameRel C s.h (if s'.dead then s' else run C.self inner ω rest s').h := by
      intro D₁ s' hp₁ hf₁
      cases hdead : s'.dead with
      | true => exact ⟨D₁, ⟨fun _ => hp₁.1 hdead, fun h => (by rw [if_pos rfl, hdead] at h; cases h)⟩, hf₁⟩
      | false =>
        obtain ⟨J, hJ, hs₁⟩ := hp₁.2 hdead
        rw [check_ite, hJ]
        obtain ⟨D₂, hp₂, hf₂⟩ := ihr hs₁ hdead (hokr J hJ)
        exact ⟨D₂, hp₂, hf₁.trans hf₂⟩
    simp only [run]
    cases ω.coin s.clk with
    | true => obtain ⟨D₁, hp, hf⟩ := iht hst hd hokt; exact hrest D₁ _ (hp.joinO_left _) hf
    | false => obtain ⟨D₁, hp, hf⟩ := ihe hst hd hoke; exact hrest D₁ _ (hp.joinO_right _) hf

/-- Two runs agree on the parameters, on everything written so far, on what they have read and on
the program point. -/
def HAgree (ps : List Nat) (W : Nat) (s s' : HSt) : Prop :=
  (∀ a, (ps.contains a || W.testBit a) = true → s.obj a = s'.obj a) ∧ s.log = s'.log ∧ s.clk = s'.clk

theorem HAgree.mono {ps : List Nat} {W W' : Nat} {s s' : HSt} (h : HAgree ps W s s')
    (hW : ∀ a, W'.testBit a = true → W.testBit a = true) : HAgree ps W' s s' :=
  ⟨fun a ha => h.1 a (Bool.or_eq_true _ _ ▸ (Bool.or_eq_true _ _ ▸ ha).imp_right (hW a)), h.2⟩

theorem hAtom_sound (F : HOra) (ps : List Nat) (W : Nat) (s s' : HSt) (e : Atom)
    (hag : HAgree ps W s s') (hok : (histAtom ps W e).1 = true) :
    HAgree ps (histAtom ps W e).2 (hAtom F s e) (hAtom F s' e) := by
  obtain ⟨hobj, hlog, hclk⟩ := hag
  have hlog' : (atomReads e).map s.obj ++ s.log = (atomReads e).map s'.obj ++ s'.log := by
    rw [hlog, List.map_congr_left fun a ha => hobj a (List.all_eq_true.mp hok a ha)]
  cases e with
  | writeAttr a r =>
    simp only [hAtom, histAtom]
    refine ⟨fun a' ha' => ?_, hlog', by rw [hclk]⟩
    by_cases e1 : a' = a
    · simp only [e1, if_true]; rw [hlog', hclk]
    · simp only [e1, if_false]
      rw [Nat.testBit_or, Nat.testBit_two_pow, decide_eq_false (Ne.symm e1), Bool.or_false] at ha'
      exact hobj a' ha'
  | _ => exact ⟨hobj, hlog', congrArg (· + 1) hclk⟩

theorem hAtom_dead (F : HOra) (s : HSt) (e : Atom) : (hAtom F s e).dead = s.dead := by
  cases e <;> rfl

/-- Lock-step of two runs: same log, clock and liveness; on a normal exit they agree on the
parameters and on everything `histCheck` reports as certainly written. -/
def HPost (ps : List Nat) (r : Option Nat) (s s' : HSt) : Prop :=
  s.log = s'.log ∧ s.clk = s'.clk ∧ s.dead = s'.dead ∧
    (s.dead = false → ∃ W', r = some W' ∧ HAgree ps W' s s')

theorem HPost.joinW_left {ps : List Nat} {r₁ : Option Nat} {s s' : HSt} (h : HPost ps r₁ s s')
    (r₂ : Option Nat) : HPost ps (joinW r₁ r₂) s s' := by
  refine ⟨h.1, h.2.1, h.2.2.1, fun hd => ?_⟩
  obtain ⟨W, rfl, hag⟩ := h.2.2.2 hd
  cases r₂ with
  | none => exact ⟨W, rfl, hag⟩
  | some W₂ =>
    exact ⟨W &&& W₂, rfl, hag.mono fun a ha => (Bool.and_eq_true _ _ ▸ Nat.testBit_and W W₂ a ▸ ha).1⟩

theorem HPost.joinW_right {ps : List Nat} {r₂ : Option Nat} {s s' : HSt} (h : HPost ps r₂ s s')
    (r₁ : Option Nat) : HPost ps (joinW r₁ r₂) s s' :=
  joinW_comm r₂ r₁ ▸ h.joinW_left r₁

theorem hist_sound (F : HOra) (ps : List Nat) (p : Prog) : ∀ {W : Nat} {s s' : HSt},
    HAgree ps W s s' → s.dead = false → s'.dead = false → (histCheck ps p W).1 = true →
      HPost ps (histCheck ps p W).2 (hRun F p s) (hRun F p s') := by
  induction p with
  | skip =>
    intro W s s' h hd hd' _
    exact ⟨h.2.1, h.2.2, hd.trans hd'.symm, fun _ => ⟨W, rfl, h⟩⟩
  | abort =>
    intro W s s' h _ _ _
    exact ⟨h.2.1, h.2.2, rfl, fun hf => (nomatch hf)⟩
  | seq e rest ih =>
    intro W s s' h hd hd' hok
    rw [histCheck_seq] at hok ⊢
    rw [Bool.and_eq_true] at hok
    exact ih (hAtom_sound F ps W s s' e h hok.1) ((hAtom_dead ..).trans hd)
      ((hAtom_dead ..).trans hd') hok.2
  | ite t e rest iht ihe ihr =>
    intro W s s' h hd hd' hok
    rw [histCheck_ite, Bool.and_eq_true, Bool.and_eq_true, Option.all_eq_true] at hok
    obtain ⟨⟨hokt, hoke⟩, hokr⟩ := hok
    have htick : HAgree ps W { s with clk := s.clk + 1 } { s' with clk := s'.clk + 1 } :=
      ⟨h.1, h.2.1, congrArg (· + 1) h.2.2⟩
    -- the rest runs in lock-step from any two states the join of both branches relates
    have hrest : ∀ u u', HPost ps (joinW (histCheck ps t W).2 (histCheck ps e W).2) u u' →
        HPost ps (histCheck ps (.ite t e rest) W).2 (if u.dead then u else hRun F rest u)
          (if u'.dead then u' else hRun F rest u') := by
      rintro u u' ⟨hlog, hclk, hdd, hlive⟩
      cases hdu : u.dead with
      | true =>
        rw [← hdd, hdu, if_pos rfl, if_pos rfl]
        exact ⟨hlog, hclk, hdd, fun hf => by rw [hdu] at hf; cases hf⟩
      | false =>
        rw [← hdd, hdu]
        obtain ⟨J, hJ, hag⟩ := hlive hdu
        rw [histCheck_ite, hJ]
        exact ihr hag hdu (hdd ▸ hdu) (hokr J hJ)
    simp only [hRun]
    -- both runs take the same branch
    rw [show F.cond s'.clk s'.log = F.cond s.clk s.log by rw [h.2.1, h.2.2]]
    cases F.cond s.clk s.log with
    | true => exact hrest _ _ ((iht htick hd hd' hokt).joinW_left _)
    | false => exact hrest _ _ ((ihe htick hd hd' hoke).joinW_right _)

end Ska.Effects
