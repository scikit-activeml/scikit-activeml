import SkaModel.Lemmas.SimLoop

/-! Simulation: a manager over objects `ω` (the model generated from the Python source) that computes, through an
abstraction `abs`, what a manager over states `σ` (the hand-written model) computes, runs every chunked protocol
the same way and is pure whenever the hand-written model is. `inv` carries what stays constant in an object
(its parameters). -/

namespace Ska.StreamSim
open Ska Ska.Budget

variable {ω σ ι : Type}

/-- `put o s` is `o` with its state replaced by `s`; it takes the old object because the parameters, which `abs`
forgets, are kept. -/
structure Sim (G : Mgr ω ι) (M : Mgr σ ι) (abs : ω → σ) (put : ω → σ → ω) (inv : ω → Prop) : Prop where
  query_eq : ∀ o xs, inv o → G.query o xs = ((M.query (abs o) xs).1, put o (M.query (abs o) xs).2)
  update_eq : ∀ o xs idx, inv o → G.update o xs idx = (M.update (abs o) xs idx).map (put o)
  inv_put : ∀ o s, inv o → inv (put o s)
  abs_put : ∀ o s, abs (put o s) = s
  put_abs : ∀ o, put o (abs o) = o
  put_put : ∀ o s s', put (put o s) s' = put o s'

variable {G : Mgr ω ι} {M : Mgr σ ι} {abs : ω → σ} {put : ω → σ → ω} {inv : ω → Prop}

theorem Sim.query_pure (h : Sim G M abs put inv) (hp : PureQ M) (o : ω) (ho : inv o) (xs : List ι) :
    (G.query o xs).2 = o := by
  rw [h.query_eq o xs ho, hp, h.put_abs]

/-- `update` on what `query` returned, as one round of the protocol calls it (`query` need not be pure: `update`
is met at `put o _`, where `abs_put` and `put_put` bring it back to `o`) -/
theorem Sim.update_query (h : Sim G M abs put inv) (o : ω) (ho : inv o) (xs : List ι) :
    G.update (G.query o xs).2 xs (G.query o xs).1
      = (M.update (M.query (abs o) xs).2 xs (M.query (abs o) xs).1).map (put o) := by
  rw [h.query_eq o xs ho, h.update_eq _ xs _ (h.inv_put o _ ho), h.abs_put]
  cases M.update (M.query (abs o) xs).2 xs (M.query (abs o) xs).1 with
  | error e => rfl
  | ok s => exact congrArg Except.ok (h.put_put o _ s)

theorem Sim.runChunked_eq (h : Sim G M abs put inv) (chunks : List (List ι)) (o : ω) (ho : inv o) (off : Nat) :
    runChunked G o chunks off = (runChunked M (abs o) chunks off).map (fun r => (r.1, put o r.2)) := by
  induction chunks generalizing o off with
  | nil => exact congrArg (fun o => Except.ok ([], o)) (h.put_abs o).symm
  | cons c cs ih =>
    have hq : (G.query o c).1 = (M.query (abs o) c).1 := by rw [h.query_eq o c ho]
    rw [Budget.runChunked, Budget.runChunked, h.update_query o ho c, hq]
    cases M.update (M.query (abs o) c).2 c (M.query (abs o) c).1 with
    | error e => rfl
    | ok s' =>
      simp only [Except.map]
      rw [ih (put o s') (h.inv_put o s' ho), h.abs_put]
      cases runChunked M s' cs (off + c.length) with
      | error e => rfl
      | ok r => exact congrArg (fun x => Except.ok (_, x)) (h.put_put o s' r.2)

theorem Sim.run_chunked {G : Mgr ω ι} {M : Mgr σ ι} {abs : ω → σ} {put : ω → σ → ω} {inv : ω → Prop}
    (h : Sim G M abs put inv) (hp : PureQ M) (chunks : List (List ι)) (o : ω) (ho : inv o) (off : Nat) :
    runChunked G o chunks off = (runChunked M (abs o) chunks off).map (fun r => (r.1, put o r.2)) :=
  h.runChunked_eq chunks o ho off

/-- a chunked run of the hand-written model that succeeds is a run of the generated one -/
theorem Sim.ok (h : Sim G M abs put inv) {chunks : List (List ι)} {o : ω} (ho : inv o) {s : σ} (hs : abs o = s)
    {r : List Nat × σ} (hr : runChunked M s chunks 0 = .ok r) :
    runChunked G o chunks 0 = .ok (r.1, put o r.2) := by
  rw [h.runChunked_eq chunks o ho 0, hs, hr]; rfl

theorem Sim.chunk_invariance (h : Sim G M abs put inv) (c1 c2 : List (List ι)) (o : ω) (ho : inv o)
    (hM : runChunked M (abs o) c1 0 = runChunked M (abs o) c2 0 ∧ ∃ r, runChunked M (abs o) c1 0 = .ok r) :
    runChunked G o c1 0 = runChunked G o c2 0 ∧ ∃ r, runChunked G o c1 0 = .ok r := by
  obtain ⟨h12, r, hr⟩ := hM
  exact ⟨by rw [h.runChunked_eq c1 o ho 0, h.runChunked_eq c2 o ho 0, h12], _, h.ok ho rfl hr⟩

end Ska.StreamSim
