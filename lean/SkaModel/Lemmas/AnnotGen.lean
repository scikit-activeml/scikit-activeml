import SkaModel.Gen.AnnotGen

/-! Bridging lemmas: the function translated from the current source of
`SingleAnnotatorWrapper._n_to_assign_annotators` (`Gen/AnnotGen.lean`) is `Ska.MultiAnnot.nToAssign`, for all inputs and fuels. -/

namespace Ska.Gen.Annot
open Ska Ska.MultiAnnot

theorem filter_id_length (r : List Bool) : (r.filter id).length = countRow r :=
  (List.count_eq_length_filter.trans (congrArg (fun p => (r.filter p).length) (funext beq_true))).symm

theorem step_eq (nmax cur : List Nat) :
    List.zipWith min nmax (cur.map (· + 1)) = assignStep nmax cur :=
  List.zipWith_map_right ..

theorem canGrow_eq (nmax cur : List Nat) :
    (List.zipWith (fun x y => decide (x < y)) cur nmax).any id = canGrow nmax cur := by
  rw [canGrow, List.zipWith_comm]; rfl

/-- the translated loop goes on while `sum < b ∧ grow`, `assignIter` stops when `b ≤ sum ∨ ¬grow` -/
theorem loopCond_eq (s b : Nat) (g : Bool) : (decide (s < b) && g) = !(decide (b ≤ s) || !g) := by
  by_cases h : b ≤ s
  · rw [decide_eq_true h, decide_eq_false (Nat.not_lt.mpr h)]; rfl
  · rw [decide_eq_false h, decide_eq_true (Nat.lt_of_not_le h)]; cases g <;> rfl

theorem while1_stop (b fuel : Nat) (nmax cur : List Nat) (h : b ≤ cur.sum) :
    _n_to_assign_annotators.while1 b nmax fuel cur cur.sum = some (cur, cur.sum) := by
  unfold _n_to_assign_annotators.while1
  rw [decide_eq_false (Nat.not_lt.mpr h), Bool.false_and]
  rfl

/-- the translated loop is `assignIter` (the running sum is kept next to the vector) -/
theorem while1_eq (b : Nat) (nmax : List Nat) (fuel : Nat) (cur : List Nat) :
    _n_to_assign_annotators.while1 b nmax fuel cur cur.sum = (assignIter fuel b nmax cur).map (fun r => (r, r.sum)) := by
  induction fuel generalizing cur with
  | zero =>
    rw [_n_to_assign_annotators.while1, assignIter, canGrow_eq, loopCond_eq]
    cases (decide (b ≤ cur.sum) || !canGrow nmax cur) <;> rfl
  | succ f ih =>
    rw [_n_to_assign_annotators.while1, assignIter, canGrow_eq, loopCond_eq]
    cases (decide (b ≤ cur.sum) || !canGrow nmax cur) with
    | true => rfl
    | false =>
      -- after the step the translated loop tests `b ≤ sum` at once (`break`), `assignIter` at its next head
      simp only [Bool.not_false, ↓reduceIte, Bool.false_eq_true, step_eq]
      rw [← ih]
      split
      · next h3 => exact (while1_stop b f nmax _ (of_decide_eq_true h3)).symm
      · rfl

/-- **the translated function is `nToAssign`** on `nmax = np.sum(A, axis=1)[s_indices]` -/
theorem n_to_assign_eq (fuel b : Nat) (A : List (List Bool)) (s : List Nat) (pref : List Nat) :
    _n_to_assign_annotators fuel b A s pref =
      nToAssign fuel b (s.map (fun i => countRow (A.getD i []))) pref := by
  have hn : (s.map (fun i => (A.map (fun row => (row.filter id).length)).getD i 0)) =
      s.map (fun i => countRow (A.getD i [])) := by
    refine List.map_congr_left fun i _ => ?_
    rw [List.getD_eq_getElem?_getD, List.getElem?_map, List.getD_eq_getElem?_getD]
    cases A[i]? with
    | none => rfl
    | some r => exact filter_id_length r
  unfold _n_to_assign_annotators nToAssign assignInit
  simp only [hn]
  rw [while1_eq]
  cases assignIter fuel b _ _ <;> rfl

end Ska.Gen.Annot
