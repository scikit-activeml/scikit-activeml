import Mathlib.Order.Basic
import SkaModel.Core.Selection
import SkaModel.Lemmas.Basic

/-! The selection model (`Core/Selection.lean`) over linear orders. `rand_argmax` and `rand_argmin` are one scan
`argmax (masked m a noise)` for two mask values `m`, so one fact serves both (`argmax_masked_isOpt`,
`getElem?_argmax_masked`); `countSome` is a `List.countP`; `simpleBatch` gets one equation past its validations
(`simpleBatch_max_eq`) and a complete characterisation of success in proportional mode (`simpleBatch_prop_ok_iff`). -/

namespace Ska

section Argmax
variable {β : Type} [LinearOrder β]

theorem argmaxFrom_spec (xs : List β) (i best : Nat) (bv : β) :
    (argmaxFrom xs i best bv = best ∧ ∀ x ∈ xs, x ≤ bv) ∨
    (∃ k, ∃ hk : k < xs.length, argmaxFrom xs i best bv = i + k ∧ bv < xs[k] ∧
        (∀ x ∈ xs, x ≤ xs[k]) ∧ ∀ j, ∀ hj : j < k, xs[j]'(Nat.lt_trans hj hk) < xs[k]) := by
  induction xs generalizing i best bv with
  | nil => exact .inl ⟨rfl, nofun⟩
  | cons x xs ih =>
    -- the scan goes on in `xs` from the larger of `bv` and `x`; a later hit at `k` is a hit at `k + 1` of
    -- `x :: xs`, and `x` lies strictly below it
    rw [argmaxFrom]
    by_cases h : bv < x
    · rw [if_pos h]
      rcases ih (i+1) i x with ⟨hr, hle⟩ | ⟨k, hk, hr, hlt, hle, hfirst⟩
      · exact .inr ⟨0, Nat.zero_lt_succ _, hr, h, List.forall_mem_cons.2 ⟨le_rfl, hle⟩, nofun⟩
      · exact .inr ⟨k + 1, Nat.succ_lt_succ hk, hr.trans (Nat.add_right_comm i 1 k), h.trans hlt,
          List.forall_mem_cons.2 ⟨hlt.le, hle⟩,
          fun | 0, _ => hlt | j + 1, hj => hfirst j (Nat.lt_of_succ_lt_succ hj)⟩
    · rw [if_neg h]
      have hx : x ≤ bv := not_lt.1 h
      rcases ih (i+1) best bv with ⟨hr, hle⟩ | ⟨k, hk, hr, hlt, hle, hfirst⟩
      · exact .inl ⟨hr, List.forall_mem_cons.2 ⟨hx, hle⟩⟩
      · have hxk : x < xs[k] := lt_of_le_of_lt hx hlt
        exact .inr ⟨k + 1, Nat.succ_lt_succ hk, hr.trans (Nat.add_right_comm i 1 k), hlt,
          List.forall_mem_cons.2 ⟨hxk.le, hle⟩,
          fun | 0, _ => hxk | j + 1, hj => hfirst j (Nat.lt_of_succ_lt_succ hj)⟩

theorem argmax_spec (l : List β) (hl : l ≠ []) :
    ∃ h : argmax l < l.length, (∀ x ∈ l, x ≤ l[argmax l]) ∧
      ∀ j, ∀ hj : j < argmax l, l[j]'(Nat.lt_trans hj h) < l[argmax l] := by
  cases l with
  | nil => exact absurd rfl hl
  | cons x xs =>
    -- restarted at its own head, so that `argmaxFrom_spec` speaks of all of `x :: xs`
    have e : argmax (x :: xs) = argmaxFrom (x :: xs) 0 0 x := by
      rw [argmaxFrom, if_neg (lt_irrefl x)]; rfl
    rw [e]
    rcases argmaxFrom_spec (x :: xs) 0 0 x with ⟨hr, hle⟩ | ⟨k, hk, hr, -, hle, hfirst⟩
    · rw [hr]; exact ⟨Nat.zero_lt_succ _, hle, nofun⟩
    · rw [hr, Nat.zero_add]; exact ⟨hk, hle, hfirst⟩

end Argmax

section Nanmax
variable {α : Type} [LinearOrder α]

theorem eqv_iff (a b : α) : eqv a b = true ↔ a = b := by
  simp only [eqv, Bool.and_eq_true, Bool.not_eq_true', decide_eq_false_iff_not, not_lt]
  exact ⟨fun h => le_antisymm h.2 h.1, fun h => ⟨h.ge, h.le⟩⟩

theorem nanmax_cases (a : List (Option α)) :
    (nanmax a = none ∧ ∀ x ∈ a, x = none) ∨
      ∃ m, nanmax a = some m ∧ some m ∈ a ∧ ∀ v, some v ∈ a → v ≤ m := by
  induction a with
  | nil => exact .inl ⟨rfl, nofun⟩
  | cons x xs ih =>
    cases x with
    | none =>
      exact ih.imp (fun ⟨h, hn⟩ => ⟨h, List.forall_mem_cons.2 ⟨rfl, hn⟩⟩) fun ⟨m, h, hm, hle⟩ =>
        ⟨m, h, .tail _ hm, fun v hv => hle v ((List.mem_cons.1 hv).resolve_left nofun)⟩
    | some w =>
      right
      rw [nanmax]
      rcases ih with ⟨h, hn⟩ | ⟨m, h, hm, hle⟩
      · rw [h]
        exact ⟨w, rfl, .head _, fun v hv => (List.mem_cons.1 hv).elim (fun e => (Option.some.inj e).le)
          fun hv => nomatch hn _ hv⟩
      · rw [h]
        by_cases hlt : w < m
        · exact ⟨m, if_pos hlt, .tail _ hm, fun v hv => (List.mem_cons.1 hv).elim
            (fun e => Option.some.inj e ▸ hlt.le) (hle v)⟩
        · exact ⟨w, if_neg hlt, .head _, fun v hv => (List.mem_cons.1 hv).elim
            (fun e => (Option.some.inj e).le) fun hv => (hle v hv).trans (not_lt.1 hlt)⟩

-- The proofs for `nanmin` / `rand_argmin` (`nanmin_cases`, `randArgmin_is_min_of_pos`, `randArgmin_map_some`) are
-- those for `nanmax` / `rand_argmax` with the order reversed; change them together.
theorem nanmin_cases (a : List (Option α)) :
    (nanmin a = none ∧ ∀ x ∈ a, x = none) ∨
      ∃ m, nanmin a = some m ∧ some m ∈ a ∧ ∀ v, some v ∈ a → m ≤ v := by
  induction a with
  | nil => exact .inl ⟨rfl, nofun⟩
  | cons x xs ih =>
    cases x with
    | none =>
      exact ih.imp (fun ⟨h, hn⟩ => ⟨h, List.forall_mem_cons.2 ⟨rfl, hn⟩⟩) fun ⟨m, h, hm, hle⟩ =>
        ⟨m, h, .tail _ hm, fun v hv => hle v ((List.mem_cons.1 hv).resolve_left nofun)⟩
    | some w =>
      right
      rw [nanmin]
      rcases ih with ⟨h, hn⟩ | ⟨m, h, hm, hle⟩
      · rw [h]
        exact ⟨w, rfl, .head _, fun v hv => (List.mem_cons.1 hv).elim (fun e => (Option.some.inj e).ge)
          fun hv => nomatch hn _ hv⟩
      · rw [h]
        by_cases hlt : m < w
        · exact ⟨m, if_pos hlt, .tail _ hm, fun v hv => (List.mem_cons.1 hv).elim
            (fun e => Option.some.inj e ▸ hlt.le) (hle v)⟩
        · exact ⟨w, if_neg hlt, .head _, fun v hv => (List.mem_cons.1 hv).elim
            (fun e => (Option.some.inj e).ge) fun hv => (not_lt.1 hlt).trans (hle v hv)⟩

theorem isOpt_iff (m x : Option α) : isOpt m x = true ↔ ∃ v, x = some v ∧ m = some v := by
  cases x with
  | none => simp [isOpt]
  | some v => cases m with
    | none => simp [isOpt]
    | some w => simp [isOpt, eqv_iff, eq_comm (a := v)]

end Nanmax

section Masked
set_option linter.unusedSectionVars false
variable {α : Type} [LT α] [DecidableLT α]
variable {β : Type} [LT β] [DecidableLT β] [OfNat β 0]

theorem masked_length (m : Option α) (a : List (Option α)) (noise : List β) :
    (masked m a noise).length = a.length := by
  induction a generalizing noise with
  | nil => rfl
  | cons x xs ih => cases noise <;> simp [masked, ih]

theorem getElem_masked (m : Option α) (a : List (Option α)) (noise : List β)
    (hlen : noise.length = a.length) (i : Nat) (hi : i < a.length) :
    (masked m a noise)[i]'((masked_length m a noise).symm ▸ hi) =
      if isOpt m a[i] then noise[i]'(hlen ▸ hi) else 0 := by
  induction a generalizing noise i with
  | nil => cases hi
  | cons x xs ih =>
    cases noise with
    | nil => cases hlen
    | cons n ns =>
      cases i with
      | zero => rfl
      | succ i => exact ih ns (Nat.succ.inj hlen) i (Nat.lt_of_succ_lt_succ hi)

end Masked

section Rand
variable {α : Type} [LinearOrder α]
variable {β : Type} [LinearOrder β] [Zero β]

/-- What `rand_argmax` and `rand_argmin` share: `m` is whatever optimum the mask is built from. -/
theorem argmax_masked_isOpt (m : Option α) (a : List (Option α)) (noise : List β)
    (hlen : noise.length = a.length) (i : Nat) (hi : i < a.length) (ho : isOpt m a[i] = true)
    (h0 : 0 < noise[i]'(hlen ▸ hi)) :
    ∃ h : argmax (masked m a noise) < a.length, isOpt m a[argmax (masked m a noise)] = true ∧
      noise[i]'(hlen ▸ hi) ≤ noise[argmax (masked m a noise)]'(hlen ▸ h) := by
  have hl := masked_length m a noise
  obtain ⟨hlt, hge, -⟩ := argmax_spec (masked m a noise) (List.ne_nil_of_length_pos (hl.symm ▸ Nat.zero_lt_of_lt hi))
  have h := hge _ (List.getElem_mem (hl ▸ hi))
  rw [getElem_masked m a noise hlen i hi, getElem_masked m a noise hlen _ (hl ▸ hlt), if_pos ho] at h
  -- were the returned position masked out, its masked value `0` would dominate the positive `noise[i]`
  split at h
  next hk => exact ⟨hl ▸ hlt, hk, h⟩
  next => exact absurd h (not_le.2 h0)

theorem getElem?_argmax_masked (a : List (Option α)) (noise : List β) (m : α)
    (hlen : noise.length = a.length)
    (hpos : ∃ i, ∃ hi : i < a.length, a[i] = some m ∧ 0 < noise[i]'(hlen ▸ hi)) :
    a[argmax (masked (some m) a noise)]? = some (some m) := by
  obtain ⟨i, hi, hai, hn⟩ := hpos
  obtain ⟨h, hk, -⟩ := argmax_masked_isOpt (some m) a noise hlen i hi ((isOpt_iff _ _).2 ⟨m, hai, rfl⟩) hn
  obtain ⟨v, hv, hmv⟩ := (isOpt_iff _ _).1 hk
  rw [List.getElem?_eq_getElem h, hv, hmv]

theorem argmax_masked_spike (a : List (Option α)) (m : α) (j : Nat) (hj : j < a.length) (haj : a[j] = some m)
    (lo hi : β) (h0 : 0 < lo) (hlh : lo < hi) :
    argmax (masked (some m) a ((List.replicate a.length lo).set j hi)) = j := by
  obtain ⟨h, -, hle⟩ := argmax_masked_isOpt (some m) a ((List.replicate a.length lo).set j hi)
    (by rw [List.length_set, List.length_replicate]) j hj ((isOpt_iff _ _).2 ⟨m, haj, rfl⟩)
    (by rw [List.getElem_set_self]; exact h0.trans hlh)
  by_contra hne
  rw [List.getElem_set_self, List.getElem_set_ne (Ne.symm hne), List.getElem_replicate] at hle
  exact absurd hle (not_le.2 hlh)

end Rand

section Count
variable {α : Type}

theorem countSome_eq_countP (u : List (Option α)) : countSome u = u.countP Option.isSome :=
  List.countP_eq_length_filter.symm

theorem countSome_pos_iff (u : List (Option α)) : 0 < countSome u ↔ ∃ v, some v ∈ u := by
  rw [countSome_eq_countP, List.countP_pos_iff]
  exact ⟨fun ⟨x, hx, hs⟩ => ⟨x.get hs, by simpa using hx⟩, fun ⟨v, hv⟩ => ⟨some v, hv, rfl⟩⟩

theorem countSome_set (u : List (Option α)) (i : Nat) (x : Option α) (h : i < u.length) :
    countSome (u.set i x) =
      countSome u - (if u[i].isSome then 1 else 0) + (if x.isSome then 1 else 0) := by
  rw [countSome_eq_countP, countSome_eq_countP, List.countP_set h]

theorem countSome_set_none (u : List (Option α)) (i : Nat) (v : α) (h : u[i]? = some (some v)) :
    countSome (u.set i none) + 1 = countSome u := by
  obtain ⟨hi, e⟩ := List.getElem?_eq_some_iff.1 h
  rw [countSome_eq_countP, countSome_eq_countP]
  exact countP_set_add_one Option.isSome u i none hi (by rw [e]; rfl) rfl

theorem countSome_set_some (u : List (Option α)) (i : Nat) (w : α) (h : u[i]? = some none) :
    countSome (u.set i (some w)) = countSome u + 1 := by
  obtain ⟨hi, e⟩ := List.getElem?_eq_some_iff.mp h
  rw [countSome_set u i (some w) hi, e]
  rfl

end Count

namespace C18

section Rows
variable {α : Type}

/-- `u` with the entries at `picks` set to NaN (what `utilities[idx] = np.nan` does step by step). -/
def setNones (u : List (Option α)) (picks : List Nat) : List (Option α) :=
  picks.foldl (fun w j => w.set j none) u

theorem setNones_nil (u : List (Option α)) : setNones u [] = u := rfl

theorem setNones_cons (u : List (Option α)) (p : Nat) (ps : List Nat) :
    setNones u (p :: ps) = setNones (u.set p none) ps := rfl

theorem getElem?_setNones (u : List (Option α)) (picks : List Nat) (j : Nat) :
    (setNones u picks)[j]? = if j ∈ picks ∧ j < u.length then some none else u[j]? :=
  getElem?_foldl_set (fun _ => none) picks u j

theorem setNones_length (u : List (Option α)) (picks : List Nat) :
    (setNones u picks).length = u.length :=
  foldl_set_length (fun _ => none) picks u

end Rows

end C18

section Batch
variable {α : Type}

theorem nodupB_iff (l : List Nat) : nodupB l = true ↔ l.Nodup := by
  induction l with
  | nil => simp [nodupB]
  | cons x xs ih => simp [nodupB, ih]

theorem hasInf_eq_false (isInf : α → Bool) (u : List (Option α))
    (hfin : ∀ v, some v ∈ u → isInf v = false) : hasInf isInf u = false := by
  rw [hasInf, List.any_eq_false]
  intro x hx
  cases x with
  | none => simp
  | some v => simp [hfin v hx]

theorem propRows_fst (u : List (Option α)) (c : List Nat) : (propRows u c).map Prod.fst = c := by
  induction c generalizing u with
  | nil => rfl
  | cons x xs ih => rw [propRows, List.map_cons, ih]

theorem propRows_rows (u : List (Option α)) (c : List Nat) (k : Nat) (hk : k < (propRows u c).length) :
    (propRows u c)[k].2 = C18.setNones u (c.take k) := by
  induction c generalizing u k with
  | nil => cases hk
  | cons x xs ih =>
    cases k with
    | zero => rfl
    | succ k =>
      rw [List.take_succ_cons, C18.setNones_cons]
      exact ih (u.set x none) k (Nat.lt_of_succ_lt_succ hk)

variable [LinearOrder α]
variable {β : Type} [LinearOrder β] [Zero β]

theorem posW_eq_true [Zero α] {s : α} {x : Option α} (h : posW s x = true) : ∃ v, x = some v ∧ v ≠ 0 := by
  cases x with
  | none => cases h
  | some v =>
    refine ⟨v, rfl, ?_⟩
    rintro rfl
    -- `0 < 0` fails
    simp [posW] at h

theorem simpleBatch_max_eq [Zero α] [Add α] (isInf : α → Bool) (u : List (Option α)) (b : Nat)
    (noises : List (List β)) (choice : List Nat) (hinf : hasInf isInf u = false) (hb : 1 ≤ b) :
    simpleBatch isInf u b .max noises choice = .ok (simpleBatchMaxLoop (min b (countSome u)) u noises) := by
  rw [simpleBatch, hinf, if_neg Bool.false_ne_true, if_neg (Nat.not_lt.2 hb)]

/-- The proportional branch returns exactly when both validations pass, numpy's `choice` has no reason to
raise, and the supplied `choice` obeys numpy's contract (right size, distinct, positive weights only). -/
theorem simpleBatch_prop_ok_iff [Zero α] [Add α] (isInf : α → Bool) (u : List (Option α)) (b : Nat)
    (noises : List (List β)) (choice : List Nat) (rs : List (Nat × List (Option α))) :
    simpleBatch isInf u b .proportional noises choice = .ok rs ↔
      hasInf isInf u = false ∧ 1 ≤ b ∧ (0 < nansum u ∨ nansum u < 0) ∧ u.any (negW (nansum u)) = false ∧
      min b (countSome u) ≤ (u.filter (posW (nansum u))).length ∧
      (choice.length = min b (countSome u) ∧ choice.Nodup ∧
        ∀ c ∈ choice, posW (nansum u) (u.getD c none) = true) ∧
      propRows u choice = rs := by
  -- the guards of the definition, in its order
  simp only [simpleBatch, ite_error_eq_ok_iff, ite_ok_eq_ok_iff, Bool.not_eq_true, Nat.not_lt, Bool.and_eq_true,
    Bool.not_eq_true', decide_eq_false_iff_not, decide_eq_true_eq, not_and_or, not_not, nodupB_iff,
    List.all_eq_true, and_assoc]

end Batch

namespace C18

variable {α : Type} [LinearOrder α]
variable {β : Type} [LinearOrder β] [Zero β]

/-- Strictly positive noise everywhere leaves out a 2⁻⁵³-probability corner of every draw. -/
theorem randArgmax_is_max_of_pos (a : List (Option α)) (noise : List β)
    (hlen : noise.length = a.length) (hp : ∀ n ∈ noise, 0 < n) (hsome : 0 < countSome a) :
    ∃ m, nanmax a = some m ∧ a[randArgmax a noise]? = some (some m) ∧ ∀ v, some v ∈ a → v ≤ m := by
  obtain ⟨v, hv⟩ := (countSome_pos_iff a).mp hsome
  rcases nanmax_cases a with ⟨-, hn⟩ | ⟨m, hm, hmem, hge⟩
  · exact nomatch hn _ hv
  · obtain ⟨i, hi, hai⟩ := List.getElem_of_mem hmem
    refine ⟨m, hm, ?_, hge⟩
    rw [randArgmax, hm]
    exact getElem?_argmax_masked a noise m hlen ⟨i, hi, hai, hp _ (List.getElem_mem _)⟩

theorem randArgmin_is_min_of_pos (a : List (Option α)) (noise : List β)
    (hlen : noise.length = a.length) (hp : ∀ n ∈ noise, 0 < n) (hsome : 0 < countSome a) :
    ∃ m, nanmin a = some m ∧ a[randArgmin a noise]? = some (some m) ∧ ∀ v, some v ∈ a → m ≤ v := by
  obtain ⟨v, hv⟩ := (countSome_pos_iff a).mp hsome
  rcases nanmin_cases a with ⟨-, hn⟩ | ⟨m, hm, hmem, hge⟩
  · exact nomatch hn _ hv
  · obtain ⟨i, hi, hai⟩ := List.getElem_of_mem hmem
    refine ⟨m, hm, ?_, hge⟩
    rw [randArgmin, hm]
    exact getElem?_argmax_masked a noise m hlen ⟨i, hi, hai, hp _ (List.getElem_mem _)⟩

/-- On a row without NaN, strictly positive noise makes `rand_argmax` return the position of a maximal entry. -/
theorem randArgmax_map_some (row : List α) (nz : List β) (hl : nz.length = row.length) (hp : ∀ x ∈ nz, 0 < x)
    (hne : row ≠ []) : ∃ m, row[randArgmax (row.map some) nz]? = some m ∧ ∀ v ∈ row, v ≤ m := by
  obtain ⟨x, hx⟩ := List.exists_mem_of_ne_nil row hne
  obtain ⟨m, -, hget, hmax⟩ := randArgmax_is_max_of_pos (row.map some) nz (by rw [hl, List.length_map]) hp
    ((countSome_pos_iff _).mpr ⟨x, List.mem_map_of_mem hx⟩)
  rw [List.getElem?_map, Option.map_eq_some_iff] at hget
  obtain ⟨m', hm', hmm⟩ := hget
  exact ⟨m, Option.some.inj hmm ▸ hm', fun v hv => hmax v (List.mem_map_of_mem hv)⟩

theorem randArgmin_map_some (row : List α) (nz : List β) (hl : nz.length = row.length) (hp : ∀ x ∈ nz, 0 < x)
    (hne : row ≠ []) : ∃ m, row[randArgmin (row.map some) nz]? = some m ∧ ∀ v ∈ row, m ≤ v := by
  obtain ⟨x, hx⟩ := List.exists_mem_of_ne_nil row hne
  obtain ⟨m, -, hget, hmin⟩ := randArgmin_is_min_of_pos (row.map some) nz (by rw [hl, List.length_map]) hp
    ((countSome_pos_iff _).mpr ⟨x, List.mem_map_of_mem hx⟩)
  rw [List.getElem?_map, Option.map_eq_some_iff] at hget
  obtain ⟨m', hm', hmm⟩ := hget
  exact ⟨m, Option.some.inj hmm ▸ hm', fun v hv => hmin v (List.mem_map_of_mem hv)⟩

/-- The per-step contract of a maximising batch: the row recorded at each step is the current utility
vector, the pick attains its `nanmax`, and the pick is NaN afterwards. -/
def StepMax : List (Option α) → List (Nat × List (Option α)) → Prop
  | _, [] => True
  | u, (i, row) :: rest =>
    row = u ∧ (∃ m, nanmax u = some m ∧ u[i]? = some (some m)) ∧ StepMax (u.set i none) rest

theorem stepMax_rows_max (u : List (Option α)) (rs : List (Nat × List (Option α))) (h : StepMax u rs) :
    ∀ k, ∀ hk : k < rs.length, ∃ m, nanmax rs[k].2 = some m ∧ rs[k].2[rs[k].1]? = some (some m) := by
  induction rs generalizing u with
  | nil => exact fun k hk => absurd hk (Nat.not_lt_zero k)
  | cons r rest ih =>
    obtain ⟨i, row⟩ := r
    obtain ⟨hrow, hmax, hrest⟩ := h
    intro k hk
    cases k with
    | zero => exact hrow ▸ hmax
    | succ k => exact ih (u.set i none) hrest k (Nat.lt_of_succ_lt_succ hk)

/-- All noise vectors have the right length and strictly positive entries. -/
def PosNoise (n : Nat) (noises : List (List β)) : Prop :=
  ∀ nz ∈ noises, nz.length = n ∧ ∀ x ∈ nz, 0 < x

theorem posNoise_cons {n : Nat} {nz : List β} {ns : List (List β)} :
    PosNoise n (nz :: ns) ↔ (nz.length = n ∧ ∀ x ∈ nz, 0 < x) ∧ PosNoise n ns :=
  List.forall_mem_cons

end C18

end Ska
