import SkaModel.Core.Effects

/-! GENERATED by `harness/translate` from the current source tree — do not edit.
Property C05; one summary per class and public method, one `decide`d obligation each. -/

namespace Ska.Gen.C05
open Ska.Effects

/-! ### RandomSampling  (skactiveml/pool/_random_sampling.py)
attributes: 0=missing_label 1=random_state 2=random_state_ 3=missing_label_ 4=n_features_in_
keys: 0=* -/
-- RandomSampling.query: locals 0=utilities 1=$ret13 2=random_state@check_random_state3 3=seed@check_random_state3 4=check_candidates_dict@_validate_data2 5=check_X_dict@_validate_data2
def RandomSampling_query_b0 : Prog :=
  .seq (.bind 0 (.fresh [])) .skip
def RandomSampling_query_b1 : Prog :=
  .seq (.bind 0 (.fresh [])) (.seq (.mutate (.loc 0) []) .skip)
def RandomSampling_query_b2 : Prog :=
  .ite RandomSampling_query_b0 RandomSampling_query_b1 (.seq (.readAttr 2) .skip)
def RandomSampling_query_b3 : Prog :=
  .seq (.readAttr 3) .skip
def RandomSampling_query_b4 : Prog :=
  .ite RandomSampling_query_b3 .skip RandomSampling_query_b2
def RandomSampling_query_b5 : Prog :=
  .seq (.readAttr 3) .skip
def RandomSampling_query_b6 : Prog :=
  .ite RandomSampling_query_b5 .skip RandomSampling_query_b4
def RandomSampling_query_b7 : Prog :=
  .seq (.bind 1 (.alias (.loc 2))) .skip
def RandomSampling_query_b8 : Prog :=
  .seq (.bind 2 (.deep (.loc 2))) (.seq (.bind 2 (.alias (.loc 2))) (.seq (.bind 3 (.fresh [])) (.seq (.bind 1 (.fresh [(.loc 3)])) .skip)))
def RandomSampling_query_b9 : Prog :=
  .ite RandomSampling_query_b7 RandomSampling_query_b8 (.seq (.writeAttr 2 (.alias (.loc 1))) RandomSampling_query_b6)
def RandomSampling_query_b10 : Prog :=
  .seq (.bind 4 (.deep (.loc 5))) (.seq (.mutate (.loc 4) []) (.seq (.readAttr 4) .skip))
def RandomSampling_query_b11 : Prog :=
  .ite .skip RandomSampling_query_b10 .skip
def RandomSampling_query_b12 : Prog :=
  .ite RandomSampling_query_b11 .skip (.seq (.bind 2 (.alias (.attr 1))) RandomSampling_query_b9)
def RandomSampling_query_b13 : Prog :=
  .seq (.bind 5 (.fresh [])) (.seq (.bind 4 (.fresh [])) (.seq (.bind 2 (.fresh [])) (.seq (.bind 3 (.fresh [])) (.seq (.bind 0 (.fresh [])) (.seq (.bind 5 (.fresh [])) (.seq (.bind 5 (.fresh [])) (.seq (.writeAttr 4 (.fresh [])) (.seq (.writeAttr 3 (.alias (.attr 0))) (.seq (.readAttr 3) RandomSampling_query_b12)))))))))
def RandomSampling_query_b14 : Prog :=
  .seq (.bind 1 (.fresh [])) RandomSampling_query_b13
def summary_RandomSampling_query : Summary :=
  { params := [0, 1], closedAttrs := [4], safeAttrs := [], body := RandomSampling_query_b14 }
theorem effects_RandomSampling_query : FrameOK summary_RandomSampling_query = true := by decide +kernel
theorem query_RandomSampling_historyFree : HistoryFree summary_RandomSampling_query = true := by decide +kernel

/-! ### ProbabilisticAL  (skactiveml/pool/_probabilistic_al.py)
attributes: 0=prior 1=m_max 2=missing_label 3=metric 4=metric_dict 5=random_state 6=random_state_ 7=missing_label_ 8=n_features_in_
keys: 0=* 1=missing_label 2=classes -/
-- ProbabilisticAL.query: locals 0=utilities 1=utility_weight 2=utilities_cand 3=$ret19 4=gains@cost_reduction5 5=$t36 6=$t34 7=$t32 8=$t31 9=$t29 10=$t28 11=$t26 12=$t25 13=$t23 14=$t22 15=pwc 16=metric_dict 17=clf 18=$t17 19=$t18 20=$ret13 21=random_state@check_random_state3 22=seed@check_random_state3 23=check_candidates_dict@_validate_data2 24=check_X_dict@_validate_data2
def ProbabilisticAL_query_b0 : Prog :=
  .seq (.bind 0 (.alias (.loc 2))) .skip
def ProbabilisticAL_query_b1 : Prog :=
  .seq (.bind 0 (.fresh [])) (.seq (.mutate (.loc 0) []) .skip)
def ProbabilisticAL_query_b2 : Prog :=
  .ite ProbabilisticAL_query_b0 ProbabilisticAL_query_b1 (.seq (.mutate (.loc 0) [(.loc 1)]) (.seq (.readAttr 6) .skip))
def ProbabilisticAL_query_b3 : Prog :=
  .seq (.bind 5 (.fresh [])) (.seq (.mutate (.loc 5) []) .skip)
def ProbabilisticAL_query_b4 : Prog :=
  .ite ProbabilisticAL_query_b3 .skip .skip
def ProbabilisticAL_query_b5 : Prog :=
  .seq (.bind 6 (.fresh [])) (.seq (.mutate (.loc 6) []) ProbabilisticAL_query_b4)
def ProbabilisticAL_query_b6 : Prog :=
  .ite ProbabilisticAL_query_b5 .skip .skip
def ProbabilisticAL_query_b7 : Prog :=
  .seq (.bind 7 (.fresh [])) (.seq (.mutate (.loc 7) []) .skip)
def ProbabilisticAL_query_b8 : Prog :=
  .ite ProbabilisticAL_query_b7 .skip .skip
def ProbabilisticAL_query_b9 : Prog :=
  .seq (.bind 8 (.fresh [])) (.seq (.mutate (.loc 8) []) ProbabilisticAL_query_b8)
def ProbabilisticAL_query_b10 : Prog :=
  .ite ProbabilisticAL_query_b9 .skip .skip
def ProbabilisticAL_query_b11 : Prog :=
  .ite ProbabilisticAL_query_b10 .skip .skip
def ProbabilisticAL_query_b12 : Prog :=
  .seq (.bind 9 (.fresh [])) (.seq (.mutate (.loc 9) []) .skip)
def ProbabilisticAL_query_b13 : Prog :=
  .ite ProbabilisticAL_query_b12 .skip .skip
def ProbabilisticAL_query_b14 : Prog :=
  .seq (.bind 10 (.fresh [])) (.seq (.mutate (.loc 10) []) ProbabilisticAL_query_b13)
def ProbabilisticAL_query_b15 : Prog :=
  .ite ProbabilisticAL_query_b14 .skip ProbabilisticAL_query_b11
def ProbabilisticAL_query_b16 : Prog :=
  .ite ProbabilisticAL_query_b15 .skip .skip
def ProbabilisticAL_query_b17 : Prog :=
  .ite ProbabilisticAL_query_b16 .skip .skip
def ProbabilisticAL_query_b18 : Prog :=
  .seq (.bind 11 (.fresh [])) (.seq (.mutate (.loc 11) []) .skip)
def ProbabilisticAL_query_b19 : Prog :=
  .ite ProbabilisticAL_query_b18 .skip .skip
def ProbabilisticAL_query_b20 : Prog :=
  .seq (.bind 12 (.fresh [])) (.seq (.mutate (.loc 12) []) ProbabilisticAL_query_b19)
def ProbabilisticAL_query_b21 : Prog :=
  .ite ProbabilisticAL_query_b20 .skip .skip
def ProbabilisticAL_query_b22 : Prog :=
  .ite ProbabilisticAL_query_b21 .skip .skip
def ProbabilisticAL_query_b23 : Prog :=
  .seq (.bind 13 (.fresh [])) (.seq (.mutate (.loc 13) []) .skip)
def ProbabilisticAL_query_b24 : Prog :=
  .ite ProbabilisticAL_query_b23 .skip .skip
def ProbabilisticAL_query_b25 : Prog :=
  .seq (.bind 14 (.fresh [])) (.seq (.mutate (.loc 14) []) ProbabilisticAL_query_b24)
def ProbabilisticAL_query_b26 : Prog :=
  .ite ProbabilisticAL_query_b25 .skip ProbabilisticAL_query_b22
def ProbabilisticAL_query_b27 : Prog :=
  .ite ProbabilisticAL_query_b26 .skip ProbabilisticAL_query_b17
def ProbabilisticAL_query_b28 : Prog :=
  .ite ProbabilisticAL_query_b27 .skip ProbabilisticAL_query_b6
def ProbabilisticAL_query_b29 : Prog :=
  .ite ProbabilisticAL_query_b28 .skip (.seq (.bind 4 (.fresh [])) (.seq (.mutate (.loc 4) []) (.seq (.mutate (.loc 4) []) (.seq (.bind 3 (.fresh [])) (.seq (.bind 2 (.alias (.loc 3))) ProbabilisticAL_query_b2)))))
def ProbabilisticAL_query_b30 : Prog :=
  .seq (.bind 16 (.fresh [])) .skip
def ProbabilisticAL_query_b31 : Prog :=
  .ite ProbabilisticAL_query_b30 .skip (.seq (.bind 15 (.fresh [(.attr 3), (.loc 16), (.sub (.loc 17) 1), (.sub (.loc 17) 2)])) (.seq (.callFit (.loc 15)) .skip))
def ProbabilisticAL_query_b32 : Prog :=
  .seq (.bind 16 (.alias (.attr 4))) ProbabilisticAL_query_b31
def ProbabilisticAL_query_b33 : Prog :=
  .ite ProbabilisticAL_query_b32 .skip ProbabilisticAL_query_b29
def ProbabilisticAL_query_b34 : Prog :=
  .seq (.bind 18 (.deep (.loc 17))) (.seq (.callFit (.loc 18)) (.seq (.bind 17 (.alias (.loc 18))) .skip))
def ProbabilisticAL_query_b35 : Prog :=
  .seq (.bind 19 (.deep (.loc 17))) (.seq (.callFit (.loc 19)) (.seq (.bind 17 (.alias (.loc 19))) .skip))
def ProbabilisticAL_query_b36 : Prog :=
  .ite ProbabilisticAL_query_b34 ProbabilisticAL_query_b35 .skip
def ProbabilisticAL_query_b37 : Prog :=
  .ite ProbabilisticAL_query_b36 .skip ProbabilisticAL_query_b33
def ProbabilisticAL_query_b38 : Prog :=
  .ite .abort ProbabilisticAL_query_b37 .skip
def ProbabilisticAL_query_b39 : Prog :=
  .ite .abort ProbabilisticAL_query_b38 .skip
def ProbabilisticAL_query_b40 : Prog :=
  .ite .abort ProbabilisticAL_query_b39 .skip
def ProbabilisticAL_query_b41 : Prog :=
  .seq (.bind 1 (.fresh [])) .skip
def ProbabilisticAL_query_b42 : Prog :=
  .seq (.bind 1 (.fresh [])) .skip
def ProbabilisticAL_query_b43 : Prog :=
  .ite ProbabilisticAL_query_b41 ProbabilisticAL_query_b42 .skip
def ProbabilisticAL_query_b44 : Prog :=
  .ite ProbabilisticAL_query_b43 .skip (.seq (.bind 1 (.alias (.loc 1))) ProbabilisticAL_query_b40)
def ProbabilisticAL_query_b45 : Prog :=
  .seq (.readAttr 7) .skip
def ProbabilisticAL_query_b46 : Prog :=
  .ite ProbabilisticAL_query_b45 .skip (.seq (.readAttr 7) ProbabilisticAL_query_b44)
def ProbabilisticAL_query_b47 : Prog :=
  .seq (.readAttr 7) .skip
def ProbabilisticAL_query_b48 : Prog :=
  .ite ProbabilisticAL_query_b47 .skip ProbabilisticAL_query_b46
def ProbabilisticAL_query_b49 : Prog :=
  .seq (.bind 20 (.alias (.loc 21))) .skip
def ProbabilisticAL_query_b50 : Prog :=
  .seq (.bind 21 (.deep (.loc 21))) (.seq (.bind 21 (.alias (.loc 21))) (.seq (.bind 22 (.fresh [])) (.seq (.bind 20 (.fresh [(.loc 22)])) .skip)))
def ProbabilisticAL_query_b51 : Prog :=
  .ite ProbabilisticAL_query_b49 ProbabilisticAL_query_b50 (.seq (.writeAttr 6 (.alias (.loc 20))) ProbabilisticAL_query_b48)
def ProbabilisticAL_query_b52 : Prog :=
  .seq (.bind 23 (.deep (.loc 24))) (.seq (.mutate (.loc 23) []) (.seq (.readAttr 8) .skip))
def ProbabilisticAL_query_b53 : Prog :=
  .ite .skip ProbabilisticAL_query_b52 .skip
def ProbabilisticAL_query_b54 : Prog :=
  .ite ProbabilisticAL_query_b53 .skip (.seq (.bind 21 (.alias (.attr 5))) ProbabilisticAL_query_b51)
def ProbabilisticAL_query_b55 : Prog :=
  .seq (.bind 15 (.fresh [])) (.seq (.bind 21 (.fresh [])) (.seq (.bind 22 (.fresh [])) (.seq (.bind 0 (.fresh [])) (.seq (.bind 2 (.fresh [])) (.seq (.bind 24 (.fresh [])) (.seq (.bind 24 (.fresh [])) (.seq (.writeAttr 8 (.fresh [])) (.seq (.writeAttr 7 (.alias (.attr 2))) (.seq (.readAttr 7) ProbabilisticAL_query_b54)))))))))
def ProbabilisticAL_query_b56 : Prog :=
  .seq (.bind 10 (.fresh [])) (.seq (.bind 9 (.fresh [])) (.seq (.bind 8 (.fresh [])) (.seq (.bind 7 (.fresh [])) (.seq (.bind 6 (.fresh [])) (.seq (.bind 5 (.fresh [])) (.seq (.bind 24 (.fresh [])) (.seq (.bind 23 (.fresh [])) (.seq (.bind 4 (.fresh [])) (.seq (.bind 16 (.fresh [])) ProbabilisticAL_query_b55)))))))))
def ProbabilisticAL_query_b57 : Prog :=
  .seq (.bind 20 (.fresh [])) (.seq (.bind 3 (.fresh [])) (.seq (.bind 18 (.fresh [])) (.seq (.bind 19 (.fresh [])) (.seq (.bind 14 (.fresh [])) (.seq (.bind 13 (.fresh [])) (.seq (.bind 12 (.fresh [])) (.seq (.bind 11 (.fresh [])) ProbabilisticAL_query_b56)))))))
def summary_ProbabilisticAL_query : Summary :=
  { params := [0, 1, 2, 3, 4, 5], closedAttrs := [], safeAttrs := [8], body := ProbabilisticAL_query_b57 }
theorem effects_ProbabilisticAL_query : FrameOK summary_ProbabilisticAL_query = true := by decide +kernel
theorem query_ProbabilisticAL_historyFree : HistoryFree summary_ProbabilisticAL_query = true := by decide +kernel

/-! ### UncertaintySampling  (skactiveml/pool/_uncertainty_sampling.py)
attributes: 0=method 1=cost_matrix 2=missing_label 3=random_state 4=random_state_ 5=missing_label_ 6=n_features_in_
keys: 0=* -/
-- UncertaintySampling.query: locals 0=utilities 1=utility_weight 2=utilities_cand 3=$ret19 4=costs@uncertainty_scores5 5=$t20 6=$t21 7=$ret22 8=score@expected_average_precision6 9=f_arr@expected_average_precision6 10=g_arr@expected_average_precision6 11=clf 12=$t17 13=$t18 14=$ret13 15=random_state@check_random_state3 16=seed@check_random_state3 17=check_candidates_dict@_validate_data2 18=check_X_dict@_validate_data2
def UncertaintySampling_query_b0 : Prog :=
  .seq (.bind 0 (.alias (.loc 2))) .skip
def UncertaintySampling_query_b1 : Prog :=
  .seq (.bind 0 (.fresh [])) (.seq (.mutate (.loc 0) []) .skip)
def UncertaintySampling_query_b2 : Prog :=
  .ite UncertaintySampling_query_b0 UncertaintySampling_query_b1 (.seq (.mutate (.loc 0) [(.loc 1)]) (.seq (.readAttr 4) .skip))
def UncertaintySampling_query_b3 : Prog :=
  .seq (.bind 3 (.fresh [])) .skip
def UncertaintySampling_query_b4 : Prog :=
  .seq (.bind 4 (.fresh [])) (.seq (.bind 5 (.fresh [(.loc 4)])) (.seq (.bind 4 (.alias (.sub (.loc 5) 0))) (.seq (.bind 3 (.alias (.sub (.loc 4) 0))) .skip)))
def UncertaintySampling_query_b5 : Prog :=
  .ite UncertaintySampling_query_b3 UncertaintySampling_query_b4 .skip
def UncertaintySampling_query_b6 : Prog :=
  .seq (.bind 3 (.fresh [])) .skip
def UncertaintySampling_query_b7 : Prog :=
  .seq (.bind 4 (.fresh [])) (.seq (.bind 6 (.fresh [(.loc 4)])) (.seq (.bind 4 (.alias (.sub (.loc 6) 0))) (.seq (.bind 3 (.fresh [])) .skip)))
def UncertaintySampling_query_b8 : Prog :=
  .ite UncertaintySampling_query_b6 UncertaintySampling_query_b7 .skip
def UncertaintySampling_query_b9 : Prog :=
  .seq (.bind 3 (.fresh [])) .skip
def UncertaintySampling_query_b10 : Prog :=
  .ite UncertaintySampling_query_b9 .abort .skip
def UncertaintySampling_query_b11 : Prog :=
  .ite UncertaintySampling_query_b10 .abort .skip
def UncertaintySampling_query_b12 : Prog :=
  .ite UncertaintySampling_query_b8 UncertaintySampling_query_b11 .skip
def UncertaintySampling_query_b13 : Prog :=
  .ite UncertaintySampling_query_b5 UncertaintySampling_query_b12 .skip
def UncertaintySampling_query_b14 : Prog :=
  .ite .abort UncertaintySampling_query_b13 (.seq (.bind 2 (.alias (.loc 3))) .skip)
def UncertaintySampling_query_b15 : Prog :=
  .seq (.mutate (.loc 8) []) .skip
def UncertaintySampling_query_b16 : Prog :=
  .ite UncertaintySampling_query_b15 .skip .skip
def UncertaintySampling_query_b17 : Prog :=
  .seq (.mutate (.loc 8) []) UncertaintySampling_query_b16
def UncertaintySampling_query_b18 : Prog :=
  .ite UncertaintySampling_query_b17 .skip .skip
def UncertaintySampling_query_b19 : Prog :=
  .seq (.mutate (.loc 9) []) .skip
def UncertaintySampling_query_b20 : Prog :=
  .ite UncertaintySampling_query_b19 .skip .skip
def UncertaintySampling_query_b21 : Prog :=
  .seq (.mutate (.loc 9) []) UncertaintySampling_query_b20
def UncertaintySampling_query_b22 : Prog :=
  .ite UncertaintySampling_query_b21 .skip .skip
def UncertaintySampling_query_b23 : Prog :=
  .ite UncertaintySampling_query_b22 .skip .skip
def UncertaintySampling_query_b24 : Prog :=
  .seq (.mutate (.loc 9) []) .skip
def UncertaintySampling_query_b25 : Prog :=
  .ite UncertaintySampling_query_b24 .skip .skip
def UncertaintySampling_query_b26 : Prog :=
  .seq (.mutate (.loc 9) []) UncertaintySampling_query_b25
def UncertaintySampling_query_b27 : Prog :=
  .ite UncertaintySampling_query_b26 .skip UncertaintySampling_query_b23
def UncertaintySampling_query_b28 : Prog :=
  .ite UncertaintySampling_query_b27 .skip UncertaintySampling_query_b18
def UncertaintySampling_query_b29 : Prog :=
  .seq (.mutate (.loc 10) []) .skip
def UncertaintySampling_query_b30 : Prog :=
  .ite UncertaintySampling_query_b29 .skip .skip
def UncertaintySampling_query_b31 : Prog :=
  .seq (.mutate (.loc 10) []) UncertaintySampling_query_b30
def UncertaintySampling_query_b32 : Prog :=
  .ite UncertaintySampling_query_b31 .skip .skip
def UncertaintySampling_query_b33 : Prog :=
  .ite UncertaintySampling_query_b32 .skip .skip
def UncertaintySampling_query_b34 : Prog :=
  .seq (.mutate (.loc 10) []) .skip
def UncertaintySampling_query_b35 : Prog :=
  .ite UncertaintySampling_query_b34 .skip .skip
def UncertaintySampling_query_b36 : Prog :=
  .seq (.mutate (.loc 10) []) UncertaintySampling_query_b35
def UncertaintySampling_query_b37 : Prog :=
  .ite UncertaintySampling_query_b36 .skip UncertaintySampling_query_b33
def UncertaintySampling_query_b38 : Prog :=
  .ite UncertaintySampling_query_b37 .skip (.seq (.bind 9 (.fresh [])) UncertaintySampling_query_b28)
def UncertaintySampling_query_b39 : Prog :=
  .seq (.bind 10 (.fresh [])) UncertaintySampling_query_b38
def UncertaintySampling_query_b40 : Prog :=
  .ite UncertaintySampling_query_b39 .skip .skip
def UncertaintySampling_query_b41 : Prog :=
  .seq (.mutate (.loc 8) []) .skip
def UncertaintySampling_query_b42 : Prog :=
  .ite UncertaintySampling_query_b41 .skip .skip
def UncertaintySampling_query_b43 : Prog :=
  .seq (.mutate (.loc 8) []) UncertaintySampling_query_b42
def UncertaintySampling_query_b44 : Prog :=
  .ite UncertaintySampling_query_b43 .skip UncertaintySampling_query_b40
def UncertaintySampling_query_b45 : Prog :=
  .seq (.mutate (.loc 9) []) .skip
def UncertaintySampling_query_b46 : Prog :=
  .ite UncertaintySampling_query_b45 .skip .skip
def UncertaintySampling_query_b47 : Prog :=
  .seq (.mutate (.loc 9) []) UncertaintySampling_query_b46
def UncertaintySampling_query_b48 : Prog :=
  .ite UncertaintySampling_query_b47 .skip .skip
def UncertaintySampling_query_b49 : Prog :=
  .ite UncertaintySampling_query_b48 .skip .skip
def UncertaintySampling_query_b50 : Prog :=
  .seq (.mutate (.loc 9) []) .skip
def UncertaintySampling_query_b51 : Prog :=
  .ite UncertaintySampling_query_b50 .skip .skip
def UncertaintySampling_query_b52 : Prog :=
  .seq (.mutate (.loc 9) []) UncertaintySampling_query_b51
def UncertaintySampling_query_b53 : Prog :=
  .ite UncertaintySampling_query_b52 .skip UncertaintySampling_query_b49
def UncertaintySampling_query_b54 : Prog :=
  .ite UncertaintySampling_query_b53 .skip UncertaintySampling_query_b44
def UncertaintySampling_query_b55 : Prog :=
  .seq (.mutate (.loc 10) []) .skip
def UncertaintySampling_query_b56 : Prog :=
  .ite UncertaintySampling_query_b55 .skip .skip
def UncertaintySampling_query_b57 : Prog :=
  .seq (.mutate (.loc 10) []) UncertaintySampling_query_b56
def UncertaintySampling_query_b58 : Prog :=
  .ite UncertaintySampling_query_b57 .skip .skip
def UncertaintySampling_query_b59 : Prog :=
  .ite UncertaintySampling_query_b58 .skip .skip
def UncertaintySampling_query_b60 : Prog :=
  .seq (.mutate (.loc 10) []) .skip
def UncertaintySampling_query_b61 : Prog :=
  .ite UncertaintySampling_query_b60 .skip .skip
def UncertaintySampling_query_b62 : Prog :=
  .seq (.mutate (.loc 10) []) UncertaintySampling_query_b61
def UncertaintySampling_query_b63 : Prog :=
  .ite UncertaintySampling_query_b62 .skip UncertaintySampling_query_b59
def UncertaintySampling_query_b64 : Prog :=
  .ite UncertaintySampling_query_b63 .skip (.seq (.bind 9 (.fresh [])) UncertaintySampling_query_b54)
def UncertaintySampling_query_b65 : Prog :=
  .seq (.bind 10 (.fresh [])) UncertaintySampling_query_b64
def UncertaintySampling_query_b66 : Prog :=
  .ite UncertaintySampling_query_b65 .skip .skip
def UncertaintySampling_query_b67 : Prog :=
  .ite UncertaintySampling_query_b66 .skip .skip
def UncertaintySampling_query_b68 : Prog :=
  .seq (.mutate (.loc 8) []) .skip
def UncertaintySampling_query_b69 : Prog :=
  .ite UncertaintySampling_query_b68 .skip .skip
def UncertaintySampling_query_b70 : Prog :=
  .seq (.mutate (.loc 8) []) UncertaintySampling_query_b69
def UncertaintySampling_query_b71 : Prog :=
  .ite UncertaintySampling_query_b70 .skip .skip
def UncertaintySampling_query_b72 : Prog :=
  .seq (.mutate (.loc 9) []) .skip
def UncertaintySampling_query_b73 : Prog :=
  .ite UncertaintySampling_query_b72 .skip .skip
def UncertaintySampling_query_b74 : Prog :=
  .seq (.mutate (.loc 9) []) UncertaintySampling_query_b73
def UncertaintySampling_query_b75 : Prog :=
  .ite UncertaintySampling_query_b74 .skip .skip
def UncertaintySampling_query_b76 : Prog :=
  .ite UncertaintySampling_query_b75 .skip .skip
def UncertaintySampling_query_b77 : Prog :=
  .seq (.mutate (.loc 9) []) .skip
def UncertaintySampling_query_b78 : Prog :=
  .ite UncertaintySampling_query_b77 .skip .skip
def UncertaintySampling_query_b79 : Prog :=
  .seq (.mutate (.loc 9) []) UncertaintySampling_query_b78
def UncertaintySampling_query_b80 : Prog :=
  .ite UncertaintySampling_query_b79 .skip UncertaintySampling_query_b76
def UncertaintySampling_query_b81 : Prog :=
  .ite UncertaintySampling_query_b80 .skip UncertaintySampling_query_b71
def UncertaintySampling_query_b82 : Prog :=
  .seq (.mutate (.loc 10) []) .skip
def UncertaintySampling_query_b83 : Prog :=
  .ite UncertaintySampling_query_b82 .skip .skip
def UncertaintySampling_query_b84 : Prog :=
  .seq (.mutate (.loc 10) []) UncertaintySampling_query_b83
def UncertaintySampling_query_b85 : Prog :=
  .ite UncertaintySampling_query_b84 .skip .skip
def UncertaintySampling_query_b86 : Prog :=
  .ite UncertaintySampling_query_b85 .skip .skip
def UncertaintySampling_query_b87 : Prog :=
  .seq (.mutate (.loc 10) []) .skip
def UncertaintySampling_query_b88 : Prog :=
  .ite UncertaintySampling_query_b87 .skip .skip
def UncertaintySampling_query_b89 : Prog :=
  .seq (.mutate (.loc 10) []) UncertaintySampling_query_b88
def UncertaintySampling_query_b90 : Prog :=
  .ite UncertaintySampling_query_b89 .skip UncertaintySampling_query_b86
def UncertaintySampling_query_b91 : Prog :=
  .ite UncertaintySampling_query_b90 .skip (.seq (.bind 9 (.fresh [])) UncertaintySampling_query_b81)
def UncertaintySampling_query_b92 : Prog :=
  .seq (.bind 10 (.fresh [])) UncertaintySampling_query_b91
def UncertaintySampling_query_b93 : Prog :=
  .ite UncertaintySampling_query_b92 .skip .skip
def UncertaintySampling_query_b94 : Prog :=
  .seq (.mutate (.loc 8) []) .skip
def UncertaintySampling_query_b95 : Prog :=
  .ite UncertaintySampling_query_b94 .skip .skip
def UncertaintySampling_query_b96 : Prog :=
  .seq (.mutate (.loc 8) []) UncertaintySampling_query_b95
def UncertaintySampling_query_b97 : Prog :=
  .ite UncertaintySampling_query_b96 .skip UncertaintySampling_query_b93
def UncertaintySampling_query_b98 : Prog :=
  .seq (.mutate (.loc 9) []) .skip
def UncertaintySampling_query_b99 : Prog :=
  .ite UncertaintySampling_query_b98 .skip .skip
def UncertaintySampling_query_b100 : Prog :=
  .seq (.mutate (.loc 9) []) UncertaintySampling_query_b99
def UncertaintySampling_query_b101 : Prog :=
  .ite UncertaintySampling_query_b100 .skip .skip
def UncertaintySampling_query_b102 : Prog :=
  .ite UncertaintySampling_query_b101 .skip .skip
def UncertaintySampling_query_b103 : Prog :=
  .seq (.mutate (.loc 9) []) .skip
def UncertaintySampling_query_b104 : Prog :=
  .ite UncertaintySampling_query_b103 .skip .skip
def UncertaintySampling_query_b105 : Prog :=
  .seq (.mutate (.loc 9) []) UncertaintySampling_query_b104
def UncertaintySampling_query_b106 : Prog :=
  .ite UncertaintySampling_query_b105 .skip UncertaintySampling_query_b102
def UncertaintySampling_query_b107 : Prog :=
  .ite UncertaintySampling_query_b106 .skip UncertaintySampling_query_b97
def UncertaintySampling_query_b108 : Prog :=
  .seq (.mutate (.loc 10) []) .skip
def UncertaintySampling_query_b109 : Prog :=
  .ite UncertaintySampling_query_b108 .skip .skip
def UncertaintySampling_query_b110 : Prog :=
  .seq (.mutate (.loc 10) []) UncertaintySampling_query_b109
def UncertaintySampling_query_b111 : Prog :=
  .ite UncertaintySampling_query_b110 .skip .skip
def UncertaintySampling_query_b112 : Prog :=
  .ite UncertaintySampling_query_b111 .skip .skip
def UncertaintySampling_query_b113 : Prog :=
  .seq (.mutate (.loc 10) []) .skip
def UncertaintySampling_query_b114 : Prog :=
  .ite UncertaintySampling_query_b113 .skip .skip
def UncertaintySampling_query_b115 : Prog :=
  .seq (.mutate (.loc 10) []) UncertaintySampling_query_b114
def UncertaintySampling_query_b116 : Prog :=
  .ite UncertaintySampling_query_b115 .skip UncertaintySampling_query_b112
def UncertaintySampling_query_b117 : Prog :=
  .ite UncertaintySampling_query_b116 .skip (.seq (.bind 9 (.fresh [])) UncertaintySampling_query_b107)
def UncertaintySampling_query_b118 : Prog :=
  .seq (.bind 10 (.fresh [])) UncertaintySampling_query_b117
def UncertaintySampling_query_b119 : Prog :=
  .ite UncertaintySampling_query_b118 .skip UncertaintySampling_query_b67
def UncertaintySampling_query_b120 : Prog :=
  .ite UncertaintySampling_query_b119 .skip (.seq (.bind 7 (.alias (.loc 8))) .skip)
def UncertaintySampling_query_b121 : Prog :=
  .seq (.bind 8 (.fresh [])) UncertaintySampling_query_b120
def UncertaintySampling_query_b122 : Prog :=
  .ite .abort UncertaintySampling_query_b121 .skip
def UncertaintySampling_query_b123 : Prog :=
  .ite .abort UncertaintySampling_query_b122 .skip
def UncertaintySampling_query_b124 : Prog :=
  .ite .abort UncertaintySampling_query_b123 (.seq (.bind 2 (.alias (.loc 7))) .skip)
def UncertaintySampling_query_b125 : Prog :=
  .ite UncertaintySampling_query_b124 .abort .skip
def UncertaintySampling_query_b126 : Prog :=
  .ite UncertaintySampling_query_b14 UncertaintySampling_query_b125 UncertaintySampling_query_b2
def UncertaintySampling_query_b127 : Prog :=
  .seq (.bind 12 (.deep (.loc 11))) (.seq (.callFit (.loc 12)) (.seq (.bind 11 (.alias (.loc 12))) .skip))
def UncertaintySampling_query_b128 : Prog :=
  .seq (.bind 13 (.deep (.loc 11))) (.seq (.callFit (.loc 13)) (.seq (.bind 11 (.alias (.loc 13))) .skip))
def UncertaintySampling_query_b129 : Prog :=
  .ite UncertaintySampling_query_b127 UncertaintySampling_query_b128 .skip
def UncertaintySampling_query_b130 : Prog :=
  .ite UncertaintySampling_query_b129 .skip UncertaintySampling_query_b126
def UncertaintySampling_query_b131 : Prog :=
  .ite .abort UncertaintySampling_query_b130 .skip
def UncertaintySampling_query_b132 : Prog :=
  .ite .abort UncertaintySampling_query_b131 .skip
def UncertaintySampling_query_b133 : Prog :=
  .ite .abort UncertaintySampling_query_b132 .skip
def UncertaintySampling_query_b134 : Prog :=
  .seq (.bind 1 (.fresh [])) .skip
def UncertaintySampling_query_b135 : Prog :=
  .seq (.bind 1 (.fresh [])) .skip
def UncertaintySampling_query_b136 : Prog :=
  .ite UncertaintySampling_query_b134 UncertaintySampling_query_b135 .skip
def UncertaintySampling_query_b137 : Prog :=
  .ite UncertaintySampling_query_b136 .skip (.seq (.bind 1 (.alias (.loc 1))) UncertaintySampling_query_b133)
def UncertaintySampling_query_b138 : Prog :=
  .seq (.readAttr 5) .skip
def UncertaintySampling_query_b139 : Prog :=
  .ite UncertaintySampling_query_b138 .skip (.seq (.readAttr 5) UncertaintySampling_query_b137)
def UncertaintySampling_query_b140 : Prog :=
  .seq (.readAttr 5) .skip
def UncertaintySampling_query_b141 : Prog :=
  .ite UncertaintySampling_query_b140 .skip UncertaintySampling_query_b139
def UncertaintySampling_query_b142 : Prog :=
  .seq (.bind 14 (.alias (.loc 15))) .skip
def UncertaintySampling_query_b143 : Prog :=
  .seq (.bind 15 (.deep (.loc 15))) (.seq (.bind 15 (.alias (.loc 15))) (.seq (.bind 16 (.fresh [])) (.seq (.bind 14 (.fresh [(.loc 16)])) .skip)))
def UncertaintySampling_query_b144 : Prog :=
  .ite UncertaintySampling_query_b142 UncertaintySampling_query_b143 (.seq (.writeAttr 4 (.alias (.loc 14))) UncertaintySampling_query_b141)
def UncertaintySampling_query_b145 : Prog :=
  .seq (.bind 17 (.deep (.loc 18))) (.seq (.mutate (.loc 17) []) (.seq (.readAttr 6) .skip))
def UncertaintySampling_query_b146 : Prog :=
  .ite .skip UncertaintySampling_query_b145 .skip
def UncertaintySampling_query_b147 : Prog :=
  .ite UncertaintySampling_query_b146 .skip (.seq (.bind 15 (.alias (.attr 3))) UncertaintySampling_query_b144)
def UncertaintySampling_query_b148 : Prog :=
  .seq (.bind 15 (.fresh [])) (.seq (.bind 8 (.fresh [])) (.seq (.bind 16 (.fresh [])) (.seq (.bind 0 (.fresh [])) (.seq (.bind 2 (.fresh [])) (.seq (.bind 18 (.fresh [])) (.seq (.bind 18 (.fresh [])) (.seq (.writeAttr 6 (.fresh [])) (.seq (.writeAttr 5 (.alias (.attr 2))) (.seq (.readAttr 5) UncertaintySampling_query_b147)))))))))
def UncertaintySampling_query_b149 : Prog :=
  .seq (.bind 7 (.fresh [])) (.seq (.bind 12 (.fresh [])) (.seq (.bind 13 (.fresh [])) (.seq (.bind 5 (.fresh [])) (.seq (.bind 6 (.fresh [])) (.seq (.bind 18 (.fresh [])) (.seq (.bind 17 (.fresh [])) (.seq (.bind 4 (.fresh [])) (.seq (.bind 9 (.fresh [])) (.seq (.bind 10 (.fresh [])) UncertaintySampling_query_b148)))))))))
def UncertaintySampling_query_b150 : Prog :=
  .seq (.bind 14 (.fresh [])) (.seq (.bind 3 (.fresh [])) UncertaintySampling_query_b149)
def summary_UncertaintySampling_query : Summary :=
  { params := [0, 1, 2, 3], closedAttrs := [], safeAttrs := [6], body := UncertaintySampling_query_b150 }
theorem effects_UncertaintySampling_query : FrameOK summary_UncertaintySampling_query = true := by decide +kernel
theorem query_UncertaintySampling_historyFree : HistoryFree summary_UncertaintySampling_query = true := by decide +kernel

/-! ### EpistemicUncertaintySampling  (skactiveml/pool/_epistemic_uncertainty_sampling.py)
attributes: 0=precompute 1=missing_label 2=random_state 3=random_state_ 4=_precompute_array 5=missing_label_ 6=n_features_in_
keys: 0=* -/
-- EpistemicUncertaintySampling.query: locals 0=utilities 1=utilities_cand 2=$ret21 3=$ret20 4=precompute_array@_epistemic_uncertainty_pwc5 5=utilities@_epistemic_uncertainty_pwc5 6=$ret30 7=points@_interpolate6 8=freq@_interpolate6 9=freq@_epistemic_uncertainty_pwc5 10=freq 11=$ret35 12=utilities@_epistemic_uncertainty_logreg7 13=pi0@_epistemic_uncertainty_logreg7 14=out@_logistic_loss49 15=pi1@_epistemic_uncertainty_logreg7 16=out@_logistic_loss44 17=out@_logistic_loss39 18=out@_logistic_loss34 19=out@_logistic_loss29 20=out@_logistic_loss24 21=out@_logistic_loss19 22=out@_logistic_loss14 23=out@_logistic_loss9 24=clf 25=$t17 26=$ret13 27=random_state@check_random_state3 28=seed@check_random_state3 29=check_candidates_dict@_validate_data2 30=check_X_dict@_validate_data2
def EpistemicUncertaintySampling_query_b0 : Prog :=
  .seq (.bind 0 (.alias (.loc 1))) .skip
def EpistemicUncertaintySampling_query_b1 : Prog :=
  .seq (.bind 0 (.fresh [])) (.seq (.mutate (.loc 0) []) .skip)
def EpistemicUncertaintySampling_query_b2 : Prog :=
  .ite EpistemicUncertaintySampling_query_b0 EpistemicUncertaintySampling_query_b1 (.seq (.readAttr 3) .skip)
def EpistemicUncertaintySampling_query_b3 : Prog :=
  .seq (.mutate (.loc 7) []) .skip
def EpistemicUncertaintySampling_query_b4 : Prog :=
  .ite EpistemicUncertaintySampling_query_b3 .skip .skip
def EpistemicUncertaintySampling_query_b5 : Prog :=
  .seq (.mutate (.loc 7) []) EpistemicUncertaintySampling_query_b4
def EpistemicUncertaintySampling_query_b6 : Prog :=
  .ite EpistemicUncertaintySampling_query_b5 .skip .skip
def EpistemicUncertaintySampling_query_b7 : Prog :=
  .ite EpistemicUncertaintySampling_query_b6 .skip .skip
def EpistemicUncertaintySampling_query_b8 : Prog :=
  .seq (.mutate (.loc 7) []) .skip
def EpistemicUncertaintySampling_query_b9 : Prog :=
  .ite EpistemicUncertaintySampling_query_b8 .skip .skip
def EpistemicUncertaintySampling_query_b10 : Prog :=
  .seq (.mutate (.loc 7) []) EpistemicUncertaintySampling_query_b9
def EpistemicUncertaintySampling_query_b11 : Prog :=
  .ite EpistemicUncertaintySampling_query_b10 .skip EpistemicUncertaintySampling_query_b7
def EpistemicUncertaintySampling_query_b12 : Prog :=
  .ite EpistemicUncertaintySampling_query_b11 .skip (.seq (.bind 6 (.fresh [(.loc 7), (.loc 8)])) (.seq (.bind 5 (.alias (.loc 6))) .skip))
def EpistemicUncertaintySampling_query_b13 : Prog :=
  .seq (.mutate (.loc 4) []) .skip
def EpistemicUncertaintySampling_query_b14 : Prog :=
  .ite EpistemicUncertaintySampling_query_b13 .skip .skip
def EpistemicUncertaintySampling_query_b15 : Prog :=
  .ite EpistemicUncertaintySampling_query_b14 .skip .skip
def EpistemicUncertaintySampling_query_b16 : Prog :=
  .seq (.mutate (.loc 4) []) .skip
def EpistemicUncertaintySampling_query_b17 : Prog :=
  .ite EpistemicUncertaintySampling_query_b16 .skip EpistemicUncertaintySampling_query_b15
def EpistemicUncertaintySampling_query_b18 : Prog :=
  .ite EpistemicUncertaintySampling_query_b17 .skip .skip
def EpistemicUncertaintySampling_query_b19 : Prog :=
  .ite EpistemicUncertaintySampling_query_b18 .skip .skip
def EpistemicUncertaintySampling_query_b20 : Prog :=
  .seq (.mutate (.loc 4) []) .skip
def EpistemicUncertaintySampling_query_b21 : Prog :=
  .ite EpistemicUncertaintySampling_query_b20 .skip .skip
def EpistemicUncertaintySampling_query_b22 : Prog :=
  .ite EpistemicUncertaintySampling_query_b21 .skip .skip
def EpistemicUncertaintySampling_query_b23 : Prog :=
  .seq (.mutate (.loc 4) []) .skip
def EpistemicUncertaintySampling_query_b24 : Prog :=
  .ite EpistemicUncertaintySampling_query_b23 .skip EpistemicUncertaintySampling_query_b22
def EpistemicUncertaintySampling_query_b25 : Prog :=
  .ite EpistemicUncertaintySampling_query_b24 .skip EpistemicUncertaintySampling_query_b19
def EpistemicUncertaintySampling_query_b26 : Prog :=
  .ite EpistemicUncertaintySampling_query_b25 .skip (.seq (.bind 8 (.alias (.loc 9))) (.seq (.bind 7 (.fresh [])) EpistemicUncertaintySampling_query_b12))
def EpistemicUncertaintySampling_query_b27 : Prog :=
  .seq (.bind 4 (.fresh [])) .skip
def EpistemicUncertaintySampling_query_b28 : Prog :=
  .ite EpistemicUncertaintySampling_query_b27 .skip EpistemicUncertaintySampling_query_b26
def EpistemicUncertaintySampling_query_b29 : Prog :=
  .seq (.bind 4 (.fresh [])) .skip
def EpistemicUncertaintySampling_query_b30 : Prog :=
  .ite EpistemicUncertaintySampling_query_b29 .skip EpistemicUncertaintySampling_query_b28
def EpistemicUncertaintySampling_query_b31 : Prog :=
  .seq (.mutate (.loc 5) []) .skip
def EpistemicUncertaintySampling_query_b32 : Prog :=
  .ite EpistemicUncertaintySampling_query_b31 .skip .skip
def EpistemicUncertaintySampling_query_b33 : Prog :=
  .seq (.mutate (.loc 5) []) EpistemicUncertaintySampling_query_b32
def EpistemicUncertaintySampling_query_b34 : Prog :=
  .ite EpistemicUncertaintySampling_query_b33 .skip .skip
def EpistemicUncertaintySampling_query_b35 : Prog :=
  .ite EpistemicUncertaintySampling_query_b30 EpistemicUncertaintySampling_query_b34 (.seq (.bind 3 (.alias (.loc 5))) (.seq (.bind 2 (.alias (.loc 4))) .skip))
def EpistemicUncertaintySampling_query_b36 : Prog :=
  .seq (.bind 5 (.fresh [])) EpistemicUncertaintySampling_query_b35
def EpistemicUncertaintySampling_query_b37 : Prog :=
  .ite .abort EpistemicUncertaintySampling_query_b36 (.seq (.bind 1 (.alias (.loc 3))) (.seq (.writeAttr 4 (.alias (.loc 2))) .skip))
def EpistemicUncertaintySampling_query_b38 : Prog :=
  .seq (.writeAttr 4 (.fresh [])) .skip
def EpistemicUncertaintySampling_query_b39 : Prog :=
  .ite EpistemicUncertaintySampling_query_b38 .skip (.seq (.bind 10 (.fresh [])) (.seq (.readAttr 4) (.seq (.bind 9 (.alias (.loc 10))) (.seq (.bind 4 (.alias (.attr 4))) EpistemicUncertaintySampling_query_b37))))
def EpistemicUncertaintySampling_query_b40 : Prog :=
  .seq (.readAttr 4) EpistemicUncertaintySampling_query_b39
def EpistemicUncertaintySampling_query_b41 : Prog :=
  .ite .abort EpistemicUncertaintySampling_query_b40 .skip
def EpistemicUncertaintySampling_query_b42 : Prog :=
  .seq (.writeAttr 4 (.fresh [])) .skip
def EpistemicUncertaintySampling_query_b43 : Prog :=
  .ite EpistemicUncertaintySampling_query_b42 .skip EpistemicUncertaintySampling_query_b41
def EpistemicUncertaintySampling_query_b44 : Prog :=
  .seq (.bind 14 (.fresh [])) (.seq (.mutate (.loc 14) []) .skip)
def EpistemicUncertaintySampling_query_b45 : Prog :=
  .ite .skip EpistemicUncertaintySampling_query_b44 (.seq (.mutate (.loc 13) []) .skip)
def EpistemicUncertaintySampling_query_b46 : Prog :=
  .ite EpistemicUncertaintySampling_query_b45 .skip .skip
def EpistemicUncertaintySampling_query_b47 : Prog :=
  .seq (.bind 16 (.fresh [])) (.seq (.mutate (.loc 16) []) .skip)
def EpistemicUncertaintySampling_query_b48 : Prog :=
  .ite .skip EpistemicUncertaintySampling_query_b47 (.seq (.mutate (.loc 15) []) .skip)
def EpistemicUncertaintySampling_query_b49 : Prog :=
  .ite EpistemicUncertaintySampling_query_b48 .skip EpistemicUncertaintySampling_query_b46
def EpistemicUncertaintySampling_query_b50 : Prog :=
  .ite EpistemicUncertaintySampling_query_b49 .skip .skip
def EpistemicUncertaintySampling_query_b51 : Prog :=
  .seq (.bind 17 (.fresh [])) (.seq (.mutate (.loc 17) []) .skip)
def EpistemicUncertaintySampling_query_b52 : Prog :=
  .ite .skip EpistemicUncertaintySampling_query_b51 (.seq (.mutate (.loc 13) []) .skip)
def EpistemicUncertaintySampling_query_b53 : Prog :=
  .ite EpistemicUncertaintySampling_query_b52 .skip EpistemicUncertaintySampling_query_b50
def EpistemicUncertaintySampling_query_b54 : Prog :=
  .seq (.bind 18 (.fresh [])) (.seq (.mutate (.loc 18) []) .skip)
def EpistemicUncertaintySampling_query_b55 : Prog :=
  .ite .skip EpistemicUncertaintySampling_query_b54 (.seq (.mutate (.loc 15) []) .skip)
def EpistemicUncertaintySampling_query_b56 : Prog :=
  .ite EpistemicUncertaintySampling_query_b55 .skip EpistemicUncertaintySampling_query_b53
def EpistemicUncertaintySampling_query_b57 : Prog :=
  .ite EpistemicUncertaintySampling_query_b56 .skip .skip
def EpistemicUncertaintySampling_query_b58 : Prog :=
  .ite EpistemicUncertaintySampling_query_b57 .skip .skip
def EpistemicUncertaintySampling_query_b59 : Prog :=
  .seq (.bind 19 (.fresh [])) (.seq (.mutate (.loc 19) []) .skip)
def EpistemicUncertaintySampling_query_b60 : Prog :=
  .ite .skip EpistemicUncertaintySampling_query_b59 (.seq (.mutate (.loc 13) []) .skip)
def EpistemicUncertaintySampling_query_b61 : Prog :=
  .ite EpistemicUncertaintySampling_query_b60 .skip .skip
def EpistemicUncertaintySampling_query_b62 : Prog :=
  .seq (.bind 20 (.fresh [])) (.seq (.mutate (.loc 20) []) .skip)
def EpistemicUncertaintySampling_query_b63 : Prog :=
  .ite .skip EpistemicUncertaintySampling_query_b62 (.seq (.mutate (.loc 15) []) .skip)
def EpistemicUncertaintySampling_query_b64 : Prog :=
  .ite EpistemicUncertaintySampling_query_b63 .skip EpistemicUncertaintySampling_query_b61
def EpistemicUncertaintySampling_query_b65 : Prog :=
  .ite EpistemicUncertaintySampling_query_b64 .skip .skip
def EpistemicUncertaintySampling_query_b66 : Prog :=
  .seq (.bind 21 (.fresh [])) (.seq (.mutate (.loc 21) []) .skip)
def EpistemicUncertaintySampling_query_b67 : Prog :=
  .ite .skip EpistemicUncertaintySampling_query_b66 (.seq (.mutate (.loc 13) []) .skip)
def EpistemicUncertaintySampling_query_b68 : Prog :=
  .ite EpistemicUncertaintySampling_query_b67 .skip EpistemicUncertaintySampling_query_b65
def EpistemicUncertaintySampling_query_b69 : Prog :=
  .seq (.bind 22 (.fresh [])) (.seq (.mutate (.loc 22) []) .skip)
def EpistemicUncertaintySampling_query_b70 : Prog :=
  .ite .skip EpistemicUncertaintySampling_query_b69 (.seq (.mutate (.loc 15) []) .skip)
def EpistemicUncertaintySampling_query_b71 : Prog :=
  .ite EpistemicUncertaintySampling_query_b70 .skip EpistemicUncertaintySampling_query_b68
def EpistemicUncertaintySampling_query_b72 : Prog :=
  .ite EpistemicUncertaintySampling_query_b71 .skip EpistemicUncertaintySampling_query_b58
def EpistemicUncertaintySampling_query_b73 : Prog :=
  .ite EpistemicUncertaintySampling_query_b72 .skip (.seq (.bind 12 (.fresh [])) (.seq (.bind 11 (.alias (.loc 12))) .skip))
def EpistemicUncertaintySampling_query_b74 : Prog :=
  .seq (.bind 23 (.fresh [])) (.seq (.mutate (.loc 23) []) .skip)
def EpistemicUncertaintySampling_query_b75 : Prog :=
  .ite .skip EpistemicUncertaintySampling_query_b74 (.seq (.bind 15 (.fresh [])) (.seq (.bind 13 (.fresh [])) EpistemicUncertaintySampling_query_b73))
def EpistemicUncertaintySampling_query_b76 : Prog :=
  .ite .abort EpistemicUncertaintySampling_query_b75 .skip
def EpistemicUncertaintySampling_query_b77 : Prog :=
  .ite .abort EpistemicUncertaintySampling_query_b76 (.seq (.bind 1 (.alias (.loc 11))) .skip)
def EpistemicUncertaintySampling_query_b78 : Prog :=
  .seq (.readAttr 5) EpistemicUncertaintySampling_query_b77
def EpistemicUncertaintySampling_query_b79 : Prog :=
  .ite EpistemicUncertaintySampling_query_b78 .abort .skip
def EpistemicUncertaintySampling_query_b80 : Prog :=
  .seq (.bind 24 (.fresh [])) EpistemicUncertaintySampling_query_b79
def EpistemicUncertaintySampling_query_b81 : Prog :=
  .ite EpistemicUncertaintySampling_query_b43 EpistemicUncertaintySampling_query_b80 EpistemicUncertaintySampling_query_b2
def EpistemicUncertaintySampling_query_b82 : Prog :=
  .seq (.bind 25 (.deep (.loc 24))) (.seq (.callFit (.loc 25)) (.seq (.bind 24 (.alias (.loc 25))) .skip))
def EpistemicUncertaintySampling_query_b83 : Prog :=
  .ite EpistemicUncertaintySampling_query_b82 .skip EpistemicUncertaintySampling_query_b81
def EpistemicUncertaintySampling_query_b84 : Prog :=
  .seq (.readAttr 5) .skip
def EpistemicUncertaintySampling_query_b85 : Prog :=
  .ite EpistemicUncertaintySampling_query_b84 .skip (.seq (.readAttr 5) EpistemicUncertaintySampling_query_b83)
def EpistemicUncertaintySampling_query_b86 : Prog :=
  .seq (.readAttr 5) .skip
def EpistemicUncertaintySampling_query_b87 : Prog :=
  .ite EpistemicUncertaintySampling_query_b86 .skip EpistemicUncertaintySampling_query_b85
def EpistemicUncertaintySampling_query_b88 : Prog :=
  .seq (.bind 26 (.alias (.loc 27))) .skip
def EpistemicUncertaintySampling_query_b89 : Prog :=
  .seq (.bind 27 (.deep (.loc 27))) (.seq (.bind 27 (.alias (.loc 27))) (.seq (.bind 28 (.fresh [])) (.seq (.bind 26 (.fresh [(.loc 28)])) .skip)))
def EpistemicUncertaintySampling_query_b90 : Prog :=
  .ite EpistemicUncertaintySampling_query_b88 EpistemicUncertaintySampling_query_b89 (.seq (.writeAttr 3 (.alias (.loc 26))) EpistemicUncertaintySampling_query_b87)
def EpistemicUncertaintySampling_query_b91 : Prog :=
  .seq (.bind 29 (.deep (.loc 30))) (.seq (.mutate (.loc 29) []) (.seq (.readAttr 6) .skip))
def EpistemicUncertaintySampling_query_b92 : Prog :=
  .ite .skip EpistemicUncertaintySampling_query_b91 .skip
def EpistemicUncertaintySampling_query_b93 : Prog :=
  .ite EpistemicUncertaintySampling_query_b92 .skip (.seq (.bind 27 (.alias (.attr 2))) EpistemicUncertaintySampling_query_b90)
def EpistemicUncertaintySampling_query_b94 : Prog :=
  .seq (.bind 28 (.fresh [])) (.seq (.bind 0 (.fresh [])) (.seq (.bind 12 (.fresh [])) (.seq (.bind 5 (.fresh [])) (.seq (.bind 1 (.fresh [])) (.seq (.bind 30 (.fresh [])) (.seq (.bind 30 (.fresh [])) (.seq (.writeAttr 6 (.fresh [])) (.seq (.writeAttr 5 (.alias (.attr 1))) (.seq (.readAttr 5) EpistemicUncertaintySampling_query_b93)))))))))
def EpistemicUncertaintySampling_query_b95 : Prog :=
  .seq (.bind 18 (.fresh [])) (.seq (.bind 17 (.fresh [])) (.seq (.bind 16 (.fresh [])) (.seq (.bind 14 (.fresh [])) (.seq (.bind 23 (.fresh [])) (.seq (.bind 13 (.fresh [])) (.seq (.bind 15 (.fresh [])) (.seq (.bind 7 (.fresh [])) (.seq (.bind 4 (.fresh [])) (.seq (.bind 27 (.fresh [])) EpistemicUncertaintySampling_query_b94)))))))))
def EpistemicUncertaintySampling_query_b96 : Prog :=
  .seq (.bind 25 (.fresh [])) (.seq (.bind 30 (.fresh [])) (.seq (.bind 29 (.fresh [])) (.seq (.bind 10 (.fresh [])) (.seq (.bind 9 (.fresh [])) (.seq (.bind 8 (.fresh [])) (.seq (.bind 22 (.fresh [])) (.seq (.bind 21 (.fresh [])) (.seq (.bind 20 (.fresh [])) (.seq (.bind 19 (.fresh [])) EpistemicUncertaintySampling_query_b95)))))))))
def EpistemicUncertaintySampling_query_b97 : Prog :=
  .seq (.bind 26 (.fresh [])) (.seq (.bind 3 (.fresh [])) (.seq (.bind 2 (.fresh [])) (.seq (.bind 6 (.fresh [])) (.seq (.bind 11 (.fresh [])) EpistemicUncertaintySampling_query_b96))))
def summary_EpistemicUncertaintySampling_query : Summary :=
  { params := [0, 1, 2], closedAttrs := [4, 6], safeAttrs := [], body := EpistemicUncertaintySampling_query_b97 }
theorem effects_EpistemicUncertaintySampling_query : FrameOK summary_EpistemicUncertaintySampling_query = true := by decide +kernel
-- lead: read-before-write _precompute_array  skactiveml/pool/_epistemic_uncertainty_sampling.py:159  self._precompute_array
-- lead: read-before-write _precompute_array  skactiveml/pool/_epistemic_uncertainty_sampling.py:166  self._precompute_array
-- lead: read-before-write _precompute_array  skactiveml/pool/_epistemic_uncertainty_sampling.py:166  precompute_array := <argument of _epistemic_uncertainty_pwc>
-- lead: conditional-write _precompute_array  skactiveml/pool/_epistemic_uncertainty_sampling.py:160  self._precompute_array = np.full((2, 2), np.nan)
theorem query_EpistemicUncertaintySampling_historyFree : HistoryFree summary_EpistemicUncertaintySampling_query = false := by decide +kernel

/-! ### MonteCarloEER  (skactiveml/pool/_expected_error_reduction.py)
attributes: 0=method 1=cost_matrix 2=subtract_current 3=missing_label 4=random_state 5=enforce_mapping 6=random_state_ 7=cost_matrix_ 8=missing_label_ 9=n_features_in_
keys: 0=* -/
-- MonteCarloEER.query: locals 0=utilities 1=utilities_cand 2=errors 3=id_clf@_estimate_error_for_candidate27 4=id_clf 5=id_clf@_estimate_error_for_candidate24 6=id_clf@_estimate_error_for_candidate21 7=id_clf@_estimate_error_for_candidate18 8=$ret40 9=id_clf@_precompute_and_fit_clf11 10=$ret41 11=id_clf@_precompute_and_fit_clf12 12=X_full 13=y_full 14=w_full 15=ignore_partial_fit 16=$ret33 17=$ret32 18=$ret31 19=w_full@_concatenate_samples8 20=y_full@_concatenate_samples8 21=X_full@_concatenate_samples8 22=w_eval@_concatenate_samples8 23=sample_weight@_concatenate_samples8 24=y@_concatenate_samples8 25=X@_concatenate_samples8 26=sample_weight 27=y 28=X 29=$ret4 30=$ret3 31=$ret2 32=sample_weight@_validate_data1 33=y@_validate_data1 34=X@_validate_data1 35=$ret14 36=$ret13 37=y@_validate_data2 38=X@_validate_data2 39=$ret20 40=$ret19 41=y@_validate_data3 42=X@_validate_data3 43=$ret24 44=random_state@check_random_state4 45=seed@check_random_state4 46=check_candidates_dict@_validate_data3 47=check_X_dict@_validate_data3
def MonteCarloEER_query_b0 : Prog :=
  .seq (.bind 0 (.copy (.loc 1))) .skip
def MonteCarloEER_query_b1 : Prog :=
  .seq (.bind 0 (.fresh [])) (.seq (.mutate (.loc 0) []) .skip)
def MonteCarloEER_query_b2 : Prog :=
  .ite MonteCarloEER_query_b0 MonteCarloEER_query_b1 (.seq (.readAttr 6) .skip)
def MonteCarloEER_query_b3 : Prog :=
  .seq (.readAttr 7) (.seq (.readAttr 7) .skip)
def MonteCarloEER_query_b4 : Prog :=
  .ite MonteCarloEER_query_b3 .skip (.seq (.mutate (.loc 2) []) .skip)
def MonteCarloEER_query_b5 : Prog :=
  .seq (.bind 3 (.alias (.loc 4))) (.seq (.callFit (.loc 3)) MonteCarloEER_query_b4)
def MonteCarloEER_query_b6 : Prog :=
  .ite MonteCarloEER_query_b5 .skip .skip
def MonteCarloEER_query_b7 : Prog :=
  .seq (.readAttr 7) (.seq (.readAttr 7) .skip)
def MonteCarloEER_query_b8 : Prog :=
  .ite MonteCarloEER_query_b7 .skip (.seq (.mutate (.loc 2) []) MonteCarloEER_query_b6)
def MonteCarloEER_query_b9 : Prog :=
  .seq (.bind 5 (.alias (.loc 4))) (.seq (.callFit (.loc 5)) MonteCarloEER_query_b8)
def MonteCarloEER_query_b10 : Prog :=
  .ite MonteCarloEER_query_b9 .skip .skip
def MonteCarloEER_query_b11 : Prog :=
  .ite MonteCarloEER_query_b10 .skip .skip
def MonteCarloEER_query_b12 : Prog :=
  .seq (.readAttr 7) (.seq (.readAttr 7) .skip)
def MonteCarloEER_query_b13 : Prog :=
  .ite MonteCarloEER_query_b12 .skip (.seq (.mutate (.loc 2) []) .skip)
def MonteCarloEER_query_b14 : Prog :=
  .seq (.bind 6 (.alias (.loc 4))) (.seq (.callFit (.loc 6)) MonteCarloEER_query_b13)
def MonteCarloEER_query_b15 : Prog :=
  .ite MonteCarloEER_query_b14 .skip .skip
def MonteCarloEER_query_b16 : Prog :=
  .seq (.readAttr 7) (.seq (.readAttr 7) .skip)
def MonteCarloEER_query_b17 : Prog :=
  .ite MonteCarloEER_query_b16 .skip (.seq (.mutate (.loc 2) []) MonteCarloEER_query_b15)
def MonteCarloEER_query_b18 : Prog :=
  .seq (.bind 7 (.alias (.loc 4))) (.seq (.callFit (.loc 7)) MonteCarloEER_query_b17)
def MonteCarloEER_query_b19 : Prog :=
  .ite MonteCarloEER_query_b18 .skip MonteCarloEER_query_b11
def MonteCarloEER_query_b20 : Prog :=
  .ite MonteCarloEER_query_b19 .skip (.seq (.bind 1 (.fresh [])) MonteCarloEER_query_b2)
def MonteCarloEER_query_b21 : Prog :=
  .seq (.readAttr 7) (.seq (.readAttr 7) .skip)
def MonteCarloEER_query_b22 : Prog :=
  .ite MonteCarloEER_query_b21 .skip .skip
def MonteCarloEER_query_b23 : Prog :=
  .ite MonteCarloEER_query_b22 .skip (.seq (.bind 2 (.fresh [])) MonteCarloEER_query_b20)
def MonteCarloEER_query_b24 : Prog :=
  .seq (.callFit (.loc 11)) .skip
def MonteCarloEER_query_b25 : Prog :=
  .ite MonteCarloEER_query_b24 .skip (.seq (.bind 10 (.alias (.loc 11))) (.seq (.bind 9 (.alias (.loc 10))) (.seq (.bind 8 (.alias (.loc 9))) (.seq (.bind 4 (.alias (.loc 8))) (.seq (.writeAttr 7 (.fresh [])) MonteCarloEER_query_b23)))))
def MonteCarloEER_query_b26 : Prog :=
  .seq (.bind 22 (.fresh [])) .skip
def MonteCarloEER_query_b27 : Prog :=
  .seq (.bind 22 (.fresh [])) (.seq (.mutate (.loc 22) []) .skip)
def MonteCarloEER_query_b28 : Prog :=
  .ite .abort MonteCarloEER_query_b27 .skip
def MonteCarloEER_query_b29 : Prog :=
  .ite MonteCarloEER_query_b26 MonteCarloEER_query_b28 .skip
def MonteCarloEER_query_b30 : Prog :=
  .seq (.bind 19 (.fresh [])) .skip
def MonteCarloEER_query_b31 : Prog :=
  .ite MonteCarloEER_query_b30 .skip .skip
def MonteCarloEER_query_b32 : Prog :=
  .seq (.mutate (.loc 22) []) .skip
def MonteCarloEER_query_b33 : Prog :=
  .ite .abort MonteCarloEER_query_b32 .skip
def MonteCarloEER_query_b34 : Prog :=
  .ite MonteCarloEER_query_b33 .skip MonteCarloEER_query_b31
def MonteCarloEER_query_b35 : Prog :=
  .seq (.bind 21 (.fresh [])) (.seq (.readAttr 8) (.seq (.readAttr 8) (.seq (.bind 20 (.fresh [])) (.seq (.bind 22 (.fresh [])) MonteCarloEER_query_b34))))
def MonteCarloEER_query_b36 : Prog :=
  .ite MonteCarloEER_query_b29 MonteCarloEER_query_b35 (.seq (.bind 18 (.alias (.loc 21))) (.seq (.bind 17 (.alias (.loc 20))) (.seq (.bind 16 (.alias (.loc 19))) .skip)))
def MonteCarloEER_query_b37 : Prog :=
  .seq (.bind 19 (.fresh [])) .skip
def MonteCarloEER_query_b38 : Prog :=
  .ite MonteCarloEER_query_b37 .skip (.seq (.bind 19 (.fresh [])) .skip)
def MonteCarloEER_query_b39 : Prog :=
  .ite MonteCarloEER_query_b38 .skip .skip
def MonteCarloEER_query_b40 : Prog :=
  .seq (.bind 21 (.fresh [])) (.seq (.readAttr 8) (.seq (.readAttr 8) (.seq (.bind 20 (.fresh [])) MonteCarloEER_query_b39)))
def MonteCarloEER_query_b41 : Prog :=
  .ite .skip MonteCarloEER_query_b40 .skip
def MonteCarloEER_query_b42 : Prog :=
  .ite .skip MonteCarloEER_query_b41 MonteCarloEER_query_b36
def MonteCarloEER_query_b43 : Prog :=
  .seq (.bind 21 (.alias (.loc 25))) (.seq (.bind 20 (.alias (.loc 24))) (.seq (.bind 19 (.alias (.loc 23))) (.seq (.readAttr 8) MonteCarloEER_query_b42)))
def MonteCarloEER_query_b44 : Prog :=
  .ite .abort MonteCarloEER_query_b43 .skip
def MonteCarloEER_query_b45 : Prog :=
  .ite .abort MonteCarloEER_query_b44 .skip
def MonteCarloEER_query_b46 : Prog :=
  .ite .abort MonteCarloEER_query_b45 (.seq (.bind 12 (.alias (.loc 18))) (.seq (.bind 13 (.alias (.loc 17))) (.seq (.bind 14 (.alias (.loc 16))) (.seq (.readAttr 8) (.seq (.bind 4 (.fresh [(.loc 12), (.loc 13), (.loc 14), (.loc 15), (.attr 8)])) (.seq (.bind 9 (.alias (.loc 4))) (.seq (.bind 11 (.alias (.loc 9))) MonteCarloEER_query_b25)))))))
def MonteCarloEER_query_b47 : Prog :=
  .seq (.readAttr 8) .skip
def MonteCarloEER_query_b48 : Prog :=
  .ite .abort .skip .skip
def MonteCarloEER_query_b49 : Prog :=
  .ite .skip MonteCarloEER_query_b48 .skip
def MonteCarloEER_query_b50 : Prog :=
  .ite MonteCarloEER_query_b47 MonteCarloEER_query_b49 (.seq (.bind 25 (.alias (.loc 28))) (.seq (.bind 24 (.alias (.loc 27))) (.seq (.bind 23 (.alias (.loc 26))) MonteCarloEER_query_b46)))
def MonteCarloEER_query_b51 : Prog :=
  .ite .abort .skip .skip
def MonteCarloEER_query_b52 : Prog :=
  .ite .abort MonteCarloEER_query_b51 .skip
def MonteCarloEER_query_b53 : Prog :=
  .ite .abort MonteCarloEER_query_b52 (.seq (.bind 31 (.alias (.loc 34))) (.seq (.bind 30 (.alias (.loc 33))) (.seq (.bind 29 (.alias (.loc 32))) (.seq (.bind 28 (.alias (.loc 31))) (.seq (.bind 27 (.alias (.loc 30))) (.seq (.bind 26 (.alias (.loc 29))) MonteCarloEER_query_b50))))))
def MonteCarloEER_query_b54 : Prog :=
  .seq (.readAttr 8) .skip
def MonteCarloEER_query_b55 : Prog :=
  .ite MonteCarloEER_query_b54 .skip (.seq (.bind 36 (.alias (.loc 38))) (.seq (.bind 35 (.alias (.loc 37))) (.seq (.bind 34 (.alias (.loc 36))) (.seq (.bind 33 (.alias (.loc 35))) (.seq (.readAttr 8) MonteCarloEER_query_b53)))))
def MonteCarloEER_query_b56 : Prog :=
  .seq (.bind 43 (.alias (.loc 44))) .skip
def MonteCarloEER_query_b57 : Prog :=
  .seq (.bind 44 (.deep (.loc 44))) (.seq (.bind 44 (.alias (.loc 44))) (.seq (.bind 45 (.fresh [])) (.seq (.bind 43 (.fresh [(.loc 45)])) .skip)))
def MonteCarloEER_query_b58 : Prog :=
  .ite MonteCarloEER_query_b56 MonteCarloEER_query_b57 (.seq (.writeAttr 6 (.alias (.loc 43))) (.seq (.bind 40 (.alias (.loc 42))) (.seq (.bind 39 (.alias (.loc 41))) (.seq (.bind 38 (.alias (.loc 40))) (.seq (.bind 37 (.alias (.loc 39))) (.seq (.bind 37 (.alias (.loc 37))) MonteCarloEER_query_b55))))))
def MonteCarloEER_query_b59 : Prog :=
  .seq (.bind 46 (.deep (.loc 47))) (.seq (.mutate (.loc 46) []) (.seq (.readAttr 9) .skip))
def MonteCarloEER_query_b60 : Prog :=
  .ite .skip MonteCarloEER_query_b59 .skip
def MonteCarloEER_query_b61 : Prog :=
  .ite MonteCarloEER_query_b60 .skip (.seq (.bind 44 (.alias (.attr 4))) MonteCarloEER_query_b58)
def MonteCarloEER_query_b62 : Prog :=
  .seq (.bind 37 (.alias (.loc 33))) (.seq (.bind 42 (.alias (.loc 38))) (.seq (.bind 41 (.alias (.loc 37))) (.seq (.bind 47 (.fresh [])) (.seq (.bind 47 (.fresh [])) (.seq (.bind 42 (.alias (.loc 42))) (.seq (.writeAttr 9 (.fresh [])) (.seq (.bind 41 (.alias (.loc 41))) (.seq (.writeAttr 8 (.alias (.attr 3))) (.seq (.readAttr 8) MonteCarloEER_query_b61)))))))))
def MonteCarloEER_query_b63 : Prog :=
  .seq (.bind 24 (.fresh [])) (.seq (.bind 33 (.fresh [])) (.seq (.bind 37 (.fresh [])) (.seq (.bind 41 (.fresh [])) (.seq (.bind 13 (.fresh [])) (.seq (.bind 20 (.fresh [])) (.seq (.bind 34 (.alias (.loc 28))) (.seq (.bind 33 (.alias (.loc 27))) (.seq (.bind 32 (.alias (.loc 26))) (.seq (.bind 38 (.alias (.loc 34))) MonteCarloEER_query_b62)))))))))
def MonteCarloEER_query_b64 : Prog :=
  .seq (.bind 11 (.fresh [])) (.seq (.bind 44 (.fresh [])) (.seq (.bind 23 (.fresh [])) (.seq (.bind 32 (.fresh [])) (.seq (.bind 45 (.fresh [])) (.seq (.bind 0 (.fresh [])) (.seq (.bind 1 (.fresh [])) (.seq (.bind 22 (.fresh [])) (.seq (.bind 14 (.fresh [])) (.seq (.bind 19 (.fresh [])) MonteCarloEER_query_b63)))))))))
def MonteCarloEER_query_b65 : Prog :=
  .seq (.bind 21 (.fresh [])) (.seq (.bind 47 (.fresh [])) (.seq (.bind 46 (.fresh [])) (.seq (.bind 2 (.fresh [])) (.seq (.bind 4 (.fresh [])) (.seq (.bind 7 (.fresh [])) (.seq (.bind 6 (.fresh [])) (.seq (.bind 5 (.fresh [])) (.seq (.bind 3 (.fresh [])) (.seq (.bind 9 (.fresh [])) MonteCarloEER_query_b64)))))))))
def MonteCarloEER_query_b66 : Prog :=
  .seq (.bind 17 (.fresh [])) (.seq (.bind 16 (.fresh [])) (.seq (.bind 29 (.fresh [])) (.seq (.bind 8 (.fresh [])) (.seq (.bind 10 (.fresh [])) (.seq (.bind 25 (.fresh [])) (.seq (.bind 34 (.fresh [])) (.seq (.bind 38 (.fresh [])) (.seq (.bind 42 (.fresh [])) (.seq (.bind 12 (.fresh [])) MonteCarloEER_query_b65)))))))))
def MonteCarloEER_query_b67 : Prog :=
  .seq (.bind 36 (.fresh [])) (.seq (.bind 35 (.fresh [])) (.seq (.bind 40 (.fresh [])) (.seq (.bind 31 (.fresh [])) (.seq (.bind 39 (.fresh [])) (.seq (.bind 43 (.fresh [])) (.seq (.bind 30 (.fresh [])) (.seq (.bind 18 (.fresh [])) MonteCarloEER_query_b66)))))))
def summary_MonteCarloEER_query : Summary :=
  { params := [0, 1, 2, 3, 4, 5], closedAttrs := [7, 9], safeAttrs := [], body := MonteCarloEER_query_b67 }
theorem effects_MonteCarloEER_query : FrameOK summary_MonteCarloEER_query = true := by decide +kernel
theorem query_MonteCarloEER_historyFree : HistoryFree summary_MonteCarloEER_query = true := by decide +kernel

/-! ### ValueOfInformationEER  (skactiveml/pool/_expected_error_reduction.py)
attributes: 0=cost_matrix 1=consider_unlabeled 2=consider_labeled 3=candidate_to_labeled 4=subtract_current 5=normalize 6=missing_label 7=random_state 8=enforce_mapping 9=random_state_ 10=cost_matrix_ 11=missing_label_ 12=n_features_in_
keys: 0=* -/
-- ValueOfInformationEER.query: locals 0=utilities@query1 1=utilities_cand@query1 2=errors@query1 3=id_clf@_estimate_error_for_candidate28 4=id_clf@query1 5=id_clf@_estimate_error_for_candidate25 6=id_clf@_estimate_error_for_candidate22 7=id_clf@_estimate_error_for_candidate19 8=$ret41 9=id_clf@_precompute_and_fit_clf12 10=$ret42 11=id_clf@_precompute_and_fit_clf13 12=X_full@query1 13=y_full@query1 14=w_full@query1 15=ignore_partial_fit@query1 16=$ret34 17=$ret33 18=$ret32 19=w_full@_concatenate_samples9 20=y_full@_concatenate_samples9 21=X_full@_concatenate_samples9 22=w_eval@_concatenate_samples9 23=sample_weight@_concatenate_samples9 24=y@_concatenate_samples9 25=X@_concatenate_samples9 26=sample_weight@query1 27=y@query1 28=X@query1 29=$ret5 30=$ret4 31=$ret3 32=sample_weight@_validate_data2 33=y@_validate_data2 34=X@_validate_data2 35=$ret15 36=$ret14 37=y@_validate_data3 38=X@_validate_data3 39=$ret21 40=$ret20 41=y@_validate_data4 42=X@_validate_data4 43=$ret25 44=random_state@check_random_state5 45=seed@check_random_state5 46=check_candidates_dict@_validate_data4 47=check_X_dict@_validate_data4 48=sample_weight 49=ignore_partial_fit 50=y 51=X
def ValueOfInformationEER_query_b0 : Prog :=
  .seq (.bind 0 (.copy (.loc 1))) .skip
def ValueOfInformationEER_query_b1 : Prog :=
  .seq (.bind 0 (.fresh [])) (.seq (.mutate (.loc 0) []) .skip)
def ValueOfInformationEER_query_b2 : Prog :=
  .ite ValueOfInformationEER_query_b0 ValueOfInformationEER_query_b1 (.seq (.readAttr 9) .skip)
def ValueOfInformationEER_query_b3 : Prog :=
  .seq (.readAttr 10) .skip
def ValueOfInformationEER_query_b4 : Prog :=
  .ite ValueOfInformationEER_query_b3 .skip (.seq (.mutate (.loc 2) []) .skip)
def ValueOfInformationEER_query_b5 : Prog :=
  .seq (.readAttr 10) .skip
def ValueOfInformationEER_query_b6 : Prog :=
  .ite ValueOfInformationEER_query_b5 .skip ValueOfInformationEER_query_b4
def ValueOfInformationEER_query_b7 : Prog :=
  .seq (.bind 3 (.alias (.loc 4))) (.seq (.callFit (.loc 3)) (.seq (.readAttr 11) (.seq (.readAttr 11) ValueOfInformationEER_query_b6)))
def ValueOfInformationEER_query_b8 : Prog :=
  .ite ValueOfInformationEER_query_b7 .skip .skip
def ValueOfInformationEER_query_b9 : Prog :=
  .seq (.readAttr 10) .skip
def ValueOfInformationEER_query_b10 : Prog :=
  .ite ValueOfInformationEER_query_b9 .skip (.seq (.mutate (.loc 2) []) ValueOfInformationEER_query_b8)
def ValueOfInformationEER_query_b11 : Prog :=
  .seq (.readAttr 10) .skip
def ValueOfInformationEER_query_b12 : Prog :=
  .ite ValueOfInformationEER_query_b11 .skip ValueOfInformationEER_query_b10
def ValueOfInformationEER_query_b13 : Prog :=
  .seq (.bind 5 (.alias (.loc 4))) (.seq (.callFit (.loc 5)) (.seq (.readAttr 11) (.seq (.readAttr 11) ValueOfInformationEER_query_b12)))
def ValueOfInformationEER_query_b14 : Prog :=
  .ite ValueOfInformationEER_query_b13 .skip .skip
def ValueOfInformationEER_query_b15 : Prog :=
  .ite ValueOfInformationEER_query_b14 .skip .skip
def ValueOfInformationEER_query_b16 : Prog :=
  .seq (.readAttr 10) .skip
def ValueOfInformationEER_query_b17 : Prog :=
  .ite ValueOfInformationEER_query_b16 .skip (.seq (.mutate (.loc 2) []) .skip)
def ValueOfInformationEER_query_b18 : Prog :=
  .seq (.readAttr 10) .skip
def ValueOfInformationEER_query_b19 : Prog :=
  .ite ValueOfInformationEER_query_b18 .skip ValueOfInformationEER_query_b17
def ValueOfInformationEER_query_b20 : Prog :=
  .seq (.bind 6 (.alias (.loc 4))) (.seq (.callFit (.loc 6)) (.seq (.readAttr 11) (.seq (.readAttr 11) ValueOfInformationEER_query_b19)))
def ValueOfInformationEER_query_b21 : Prog :=
  .ite ValueOfInformationEER_query_b20 .skip .skip
def ValueOfInformationEER_query_b22 : Prog :=
  .seq (.readAttr 10) .skip
def ValueOfInformationEER_query_b23 : Prog :=
  .ite ValueOfInformationEER_query_b22 .skip (.seq (.mutate (.loc 2) []) ValueOfInformationEER_query_b21)
def ValueOfInformationEER_query_b24 : Prog :=
  .seq (.readAttr 10) .skip
def ValueOfInformationEER_query_b25 : Prog :=
  .ite ValueOfInformationEER_query_b24 .skip ValueOfInformationEER_query_b23
def ValueOfInformationEER_query_b26 : Prog :=
  .seq (.bind 7 (.alias (.loc 4))) (.seq (.callFit (.loc 7)) (.seq (.readAttr 11) (.seq (.readAttr 11) ValueOfInformationEER_query_b25)))
def ValueOfInformationEER_query_b27 : Prog :=
  .ite ValueOfInformationEER_query_b26 .skip ValueOfInformationEER_query_b15
def ValueOfInformationEER_query_b28 : Prog :=
  .ite ValueOfInformationEER_query_b27 .skip (.seq (.bind 1 (.fresh [])) ValueOfInformationEER_query_b2)
def ValueOfInformationEER_query_b29 : Prog :=
  .seq (.readAttr 10) .skip
def ValueOfInformationEER_query_b30 : Prog :=
  .ite ValueOfInformationEER_query_b29 .skip .skip
def ValueOfInformationEER_query_b31 : Prog :=
  .seq (.readAttr 10) .skip
def ValueOfInformationEER_query_b32 : Prog :=
  .ite ValueOfInformationEER_query_b31 .skip ValueOfInformationEER_query_b30
def ValueOfInformationEER_query_b33 : Prog :=
  .seq (.readAttr 11) (.seq (.readAttr 11) ValueOfInformationEER_query_b32)
def ValueOfInformationEER_query_b34 : Prog :=
  .ite ValueOfInformationEER_query_b33 .skip (.seq (.bind 2 (.fresh [])) ValueOfInformationEER_query_b28)
def ValueOfInformationEER_query_b35 : Prog :=
  .seq (.callFit (.loc 11)) .skip
def ValueOfInformationEER_query_b36 : Prog :=
  .ite ValueOfInformationEER_query_b35 .skip (.seq (.bind 10 (.alias (.loc 11))) (.seq (.bind 9 (.alias (.loc 10))) (.seq (.bind 8 (.alias (.loc 9))) (.seq (.bind 4 (.alias (.loc 8))) (.seq (.writeAttr 10 (.fresh [])) ValueOfInformationEER_query_b34)))))
def ValueOfInformationEER_query_b37 : Prog :=
  .seq (.bind 22 (.fresh [])) .skip
def ValueOfInformationEER_query_b38 : Prog :=
  .seq (.bind 22 (.fresh [])) (.seq (.mutate (.loc 22) []) .skip)
def ValueOfInformationEER_query_b39 : Prog :=
  .ite .abort ValueOfInformationEER_query_b38 .skip
def ValueOfInformationEER_query_b40 : Prog :=
  .ite ValueOfInformationEER_query_b37 ValueOfInformationEER_query_b39 .skip
def ValueOfInformationEER_query_b41 : Prog :=
  .seq (.bind 19 (.fresh [])) .skip
def ValueOfInformationEER_query_b42 : Prog :=
  .ite ValueOfInformationEER_query_b41 .skip .skip
def ValueOfInformationEER_query_b43 : Prog :=
  .seq (.mutate (.loc 22) []) .skip
def ValueOfInformationEER_query_b44 : Prog :=
  .ite .abort ValueOfInformationEER_query_b43 .skip
def ValueOfInformationEER_query_b45 : Prog :=
  .ite ValueOfInformationEER_query_b44 .skip ValueOfInformationEER_query_b42
def ValueOfInformationEER_query_b46 : Prog :=
  .seq (.bind 21 (.fresh [])) (.seq (.readAttr 11) (.seq (.readAttr 11) (.seq (.bind 20 (.fresh [])) (.seq (.bind 22 (.fresh [])) ValueOfInformationEER_query_b45))))
def ValueOfInformationEER_query_b47 : Prog :=
  .ite ValueOfInformationEER_query_b40 ValueOfInformationEER_query_b46 (.seq (.bind 18 (.alias (.loc 21))) (.seq (.bind 17 (.alias (.loc 20))) (.seq (.bind 16 (.alias (.loc 19))) .skip)))
def ValueOfInformationEER_query_b48 : Prog :=
  .seq (.bind 19 (.fresh [])) .skip
def ValueOfInformationEER_query_b49 : Prog :=
  .ite ValueOfInformationEER_query_b48 .skip (.seq (.bind 19 (.fresh [])) .skip)
def ValueOfInformationEER_query_b50 : Prog :=
  .ite ValueOfInformationEER_query_b49 .skip .skip
def ValueOfInformationEER_query_b51 : Prog :=
  .seq (.bind 21 (.fresh [])) (.seq (.readAttr 11) (.seq (.readAttr 11) (.seq (.bind 20 (.fresh [])) ValueOfInformationEER_query_b50)))
def ValueOfInformationEER_query_b52 : Prog :=
  .ite .skip ValueOfInformationEER_query_b51 .skip
def ValueOfInformationEER_query_b53 : Prog :=
  .ite .skip ValueOfInformationEER_query_b52 ValueOfInformationEER_query_b47
def ValueOfInformationEER_query_b54 : Prog :=
  .seq (.bind 21 (.alias (.loc 25))) (.seq (.bind 20 (.alias (.loc 24))) (.seq (.bind 19 (.alias (.loc 23))) (.seq (.readAttr 11) ValueOfInformationEER_query_b53)))
def ValueOfInformationEER_query_b55 : Prog :=
  .ite .abort ValueOfInformationEER_query_b54 .skip
def ValueOfInformationEER_query_b56 : Prog :=
  .ite .abort ValueOfInformationEER_query_b55 .skip
def ValueOfInformationEER_query_b57 : Prog :=
  .ite .abort ValueOfInformationEER_query_b56 (.seq (.bind 12 (.alias (.loc 18))) (.seq (.bind 13 (.alias (.loc 17))) (.seq (.bind 14 (.alias (.loc 16))) (.seq (.readAttr 11) (.seq (.bind 4 (.fresh [(.loc 12), (.loc 13), (.loc 14), (.loc 15), (.attr 11)])) (.seq (.bind 9 (.alias (.loc 4))) (.seq (.bind 11 (.alias (.loc 9))) ValueOfInformationEER_query_b36)))))))
def ValueOfInformationEER_query_b58 : Prog :=
  .seq (.readAttr 11) .skip
def ValueOfInformationEER_query_b59 : Prog :=
  .ite .abort .skip .skip
def ValueOfInformationEER_query_b60 : Prog :=
  .ite .skip ValueOfInformationEER_query_b59 .skip
def ValueOfInformationEER_query_b61 : Prog :=
  .ite ValueOfInformationEER_query_b58 ValueOfInformationEER_query_b60 (.seq (.bind 25 (.alias (.loc 28))) (.seq (.bind 24 (.alias (.loc 27))) (.seq (.bind 23 (.alias (.loc 26))) ValueOfInformationEER_query_b57)))
def ValueOfInformationEER_query_b62 : Prog :=
  .seq (.bind 35 (.alias (.loc 37))) (.seq (.bind 34 (.alias (.loc 36))) (.seq (.bind 33 (.alias (.loc 35))) (.seq (.readAttr 11) (.seq (.bind 31 (.alias (.loc 34))) (.seq (.bind 30 (.alias (.loc 33))) (.seq (.bind 29 (.alias (.loc 32))) (.seq (.bind 28 (.alias (.loc 31))) (.seq (.bind 27 (.alias (.loc 30))) (.seq (.bind 26 (.alias (.loc 29))) ValueOfInformationEER_query_b61)))))))))
def ValueOfInformationEER_query_b63 : Prog :=
  .seq (.readAttr 11) .skip
def ValueOfInformationEER_query_b64 : Prog :=
  .ite ValueOfInformationEER_query_b63 .skip (.seq (.bind 36 (.alias (.loc 38))) ValueOfInformationEER_query_b62)
def ValueOfInformationEER_query_b65 : Prog :=
  .seq (.bind 43 (.alias (.loc 44))) .skip
def ValueOfInformationEER_query_b66 : Prog :=
  .seq (.bind 44 (.deep (.loc 44))) (.seq (.bind 44 (.alias (.loc 44))) (.seq (.bind 45 (.fresh [])) (.seq (.bind 43 (.fresh [(.loc 45)])) .skip)))
def ValueOfInformationEER_query_b67 : Prog :=
  .ite ValueOfInformationEER_query_b65 ValueOfInformationEER_query_b66 (.seq (.writeAttr 9 (.alias (.loc 43))) (.seq (.bind 40 (.alias (.loc 42))) (.seq (.bind 39 (.alias (.loc 41))) (.seq (.bind 38 (.alias (.loc 40))) (.seq (.bind 37 (.alias (.loc 39))) (.seq (.bind 37 (.alias (.loc 37))) ValueOfInformationEER_query_b64))))))
def ValueOfInformationEER_query_b68 : Prog :=
  .seq (.bind 46 (.deep (.loc 47))) (.seq (.mutate (.loc 46) []) (.seq (.readAttr 12) .skip))
def ValueOfInformationEER_query_b69 : Prog :=
  .ite .skip ValueOfInformationEER_query_b68 .skip
def ValueOfInformationEER_query_b70 : Prog :=
  .ite ValueOfInformationEER_query_b69 .skip (.seq (.bind 44 (.alias (.attr 7))) ValueOfInformationEER_query_b67)
def ValueOfInformationEER_query_b71 : Prog :=
  .seq (.bind 37 (.alias (.loc 33))) (.seq (.bind 42 (.alias (.loc 38))) (.seq (.bind 41 (.alias (.loc 37))) (.seq (.bind 47 (.fresh [])) (.seq (.bind 47 (.fresh [])) (.seq (.bind 42 (.alias (.loc 42))) (.seq (.writeAttr 12 (.fresh [])) (.seq (.bind 41 (.alias (.loc 41))) (.seq (.writeAttr 11 (.alias (.attr 6))) (.seq (.readAttr 11) ValueOfInformationEER_query_b70)))))))))
def ValueOfInformationEER_query_b72 : Prog :=
  .seq (.bind 20 (.fresh [])) (.seq (.bind 13 (.fresh [])) (.seq (.bind 28 (.alias (.loc 51))) (.seq (.bind 27 (.alias (.loc 50))) (.seq (.bind 15 (.alias (.loc 49))) (.seq (.bind 26 (.alias (.loc 48))) (.seq (.bind 34 (.alias (.loc 28))) (.seq (.bind 33 (.alias (.loc 27))) (.seq (.bind 32 (.alias (.loc 26))) (.seq (.bind 38 (.alias (.loc 34))) ValueOfInformationEER_query_b71)))))))))
def ValueOfInformationEER_query_b73 : Prog :=
  .seq (.bind 0 (.fresh [])) (.seq (.bind 1 (.fresh [])) (.seq (.bind 22 (.fresh [])) (.seq (.bind 19 (.fresh [])) (.seq (.bind 14 (.fresh [])) (.seq (.bind 24 (.fresh [])) (.seq (.bind 33 (.fresh [])) (.seq (.bind 37 (.fresh [])) (.seq (.bind 41 (.fresh [])) (.seq (.bind 27 (.fresh [])) ValueOfInformationEER_query_b72)))))))))
def ValueOfInformationEER_query_b74 : Prog :=
  .seq (.bind 3 (.fresh [])) (.seq (.bind 9 (.fresh [])) (.seq (.bind 11 (.fresh [])) (.seq (.bind 4 (.fresh [])) (.seq (.bind 15 (.fresh [])) (.seq (.bind 44 (.fresh [])) (.seq (.bind 23 (.fresh [])) (.seq (.bind 32 (.fresh [])) (.seq (.bind 26 (.fresh [])) (.seq (.bind 45 (.fresh [])) ValueOfInformationEER_query_b73)))))))))
def ValueOfInformationEER_query_b75 : Prog :=
  .seq (.bind 42 (.fresh [])) (.seq (.bind 28 (.fresh [])) (.seq (.bind 21 (.fresh [])) (.seq (.bind 12 (.fresh [])) (.seq (.bind 47 (.fresh [])) (.seq (.bind 46 (.fresh [])) (.seq (.bind 2 (.fresh [])) (.seq (.bind 7 (.fresh [])) (.seq (.bind 6 (.fresh [])) (.seq (.bind 5 (.fresh [])) ValueOfInformationEER_query_b74)))))))))
def ValueOfInformationEER_query_b76 : Prog :=
  .seq (.bind 18 (.fresh [])) (.seq (.bind 17 (.fresh [])) (.seq (.bind 16 (.fresh [])) (.seq (.bind 30 (.fresh [])) (.seq (.bind 8 (.fresh [])) (.seq (.bind 10 (.fresh [])) (.seq (.bind 29 (.fresh [])) (.seq (.bind 25 (.fresh [])) (.seq (.bind 34 (.fresh [])) (.seq (.bind 38 (.fresh [])) ValueOfInformationEER_query_b75)))))))))
def ValueOfInformationEER_query_b77 : Prog :=
  .seq (.bind 36 (.fresh [])) (.seq (.bind 35 (.fresh [])) (.seq (.bind 40 (.fresh [])) (.seq (.bind 39 (.fresh [])) (.seq (.bind 43 (.fresh [])) (.seq (.bind 31 (.fresh [])) ValueOfInformationEER_query_b76)))))
def summary_ValueOfInformationEER_query : Summary :=
  { params := [0, 1, 2, 3, 4, 5, 6, 7, 8], closedAttrs := [10, 12], safeAttrs := [], body := ValueOfInformationEER_query_b77 }
theorem effects_ValueOfInformationEER_query : FrameOK summary_ValueOfInformationEER_query = true := by decide +kernel
theorem query_ValueOfInformationEER_historyFree : HistoryFree summary_ValueOfInformationEER_query = true := by decide +kernel

/-! ### QueryByCommittee  (skactiveml/pool/_query_by_committee.py)
attributes: 0=method 1=eps 2=sample_predictions_method_name 3=sample_predictions_dict 4=missing_label 5=random_state 6=random_state_ 7=missing_label_ 8=n_features_in_
keys: 0=* 1=estimators_ -/
-- QueryByCommittee.query: locals 0=$ret22 1=sample_predictions_dict@_check_ensemble5 2=$ret18 3=ensemble@_check_ensemble5 4=est_arr@_check_ensemble5 5=$t27 6=$t28 7=$t24 8=$t25 9=ensemble 10=X_cand 11=$ret15 12=X@_transform_candidates4 13=candidates@_transform_candidates4 14=X 15=candidates 16=$ret4 17=$ret2 18=candidates@_validate_data1 19=X@_validate_data1 20=$ret10 21=$ret8 22=candidates@_validate_data2 23=X@_validate_data2 24=$ret13 25=random_state@check_random_state3 26=seed@check_random_state3 27=check_candidates_dict@_validate_data2 28=check_X_dict@_validate_data2 29=utilities_cand 30=utilities 31=scores@vote_entropy8 32=scores@variation_ratios9 33=scores@average_kl_divergence7 34=sample_dict 35=results 36=probas@average_kl_divergence7 37=probas@_aggregate_predict_probas6 38=probas 39=$t37 40=$ret35 41=$ret34 42=$ret31 43=$ret29 44=$comp36
def QueryByCommittee_query_b0 : Prog :=
  .seq (.bind 4 (.fresh [])) .skip
def QueryByCommittee_query_b1 : Prog :=
  .seq (.bind 4 (.alias (.sub (.loc 3) 1))) .skip
def QueryByCommittee_query_b2 : Prog :=
  .seq (.bind 4 (.fresh [])) .skip
def QueryByCommittee_query_b3 : Prog :=
  .seq (.bind 4 (.fresh [])) .skip
def QueryByCommittee_query_b4 : Prog :=
  .ite QueryByCommittee_query_b3 .abort .skip
def QueryByCommittee_query_b5 : Prog :=
  .ite QueryByCommittee_query_b2 QueryByCommittee_query_b4 .skip
def QueryByCommittee_query_b6 : Prog :=
  .ite QueryByCommittee_query_b1 QueryByCommittee_query_b5 .skip
def QueryByCommittee_query_b7 : Prog :=
  .ite QueryByCommittee_query_b0 QueryByCommittee_query_b6 (.seq (.bind 2 (.alias (.loc 3))) (.seq (.bind 0 (.alias (.loc 1))) .skip))
def QueryByCommittee_query_b8 : Prog :=
  .seq (.bind 1 (.fresh [])) .abort
def QueryByCommittee_query_b9 : Prog :=
  .seq (.bind 1 (.copy (.loc 1))) .skip
def QueryByCommittee_query_b10 : Prog :=
  .ite QueryByCommittee_query_b9 .skip .skip
def QueryByCommittee_query_b11 : Prog :=
  .ite QueryByCommittee_query_b8 QueryByCommittee_query_b10 .skip
def QueryByCommittee_query_b12 : Prog :=
  .seq (.bind 1 (.fresh [])) .skip
def QueryByCommittee_query_b13 : Prog :=
  .ite QueryByCommittee_query_b12 .skip QueryByCommittee_query_b11
def QueryByCommittee_query_b14 : Prog :=
  .ite .abort QueryByCommittee_query_b13 .skip
def QueryByCommittee_query_b15 : Prog :=
  .ite .abort .skip .skip
def QueryByCommittee_query_b16 : Prog :=
  .ite QueryByCommittee_query_b14 QueryByCommittee_query_b15 QueryByCommittee_query_b7
def QueryByCommittee_query_b17 : Prog :=
  .seq (.bind 5 (.deep (.loc 3))) (.seq (.callFit (.loc 5)) (.seq (.bind 3 (.alias (.loc 5))) .skip))
def QueryByCommittee_query_b18 : Prog :=
  .seq (.bind 6 (.deep (.loc 3))) (.seq (.callFit (.loc 6)) (.seq (.bind 3 (.alias (.loc 6))) .skip))
def QueryByCommittee_query_b19 : Prog :=
  .ite QueryByCommittee_query_b17 QueryByCommittee_query_b18 .skip
def QueryByCommittee_query_b20 : Prog :=
  .ite QueryByCommittee_query_b19 .skip QueryByCommittee_query_b16
def QueryByCommittee_query_b21 : Prog :=
  .seq (.callFit (.sub (.loc 4) 0)) (.seq (.mutate (.loc 4) [(.sub (.loc 4) 0)]) .skip)
def QueryByCommittee_query_b22 : Prog :=
  .seq (.callFit (.sub (.loc 4) 0)) (.seq (.mutate (.loc 4) [(.sub (.loc 4) 0)]) .skip)
def QueryByCommittee_query_b23 : Prog :=
  .ite QueryByCommittee_query_b21 QueryByCommittee_query_b22 .skip
def QueryByCommittee_query_b24 : Prog :=
  .ite QueryByCommittee_query_b23 .skip .skip
def QueryByCommittee_query_b25 : Prog :=
  .ite QueryByCommittee_query_b24 .skip .skip
def QueryByCommittee_query_b26 : Prog :=
  .seq (.callFit (.sub (.loc 4) 0)) (.seq (.mutate (.loc 4) [(.sub (.loc 4) 0)]) .skip)
def QueryByCommittee_query_b27 : Prog :=
  .seq (.callFit (.sub (.loc 4) 0)) (.seq (.mutate (.loc 4) [(.sub (.loc 4) 0)]) .skip)
def QueryByCommittee_query_b28 : Prog :=
  .ite QueryByCommittee_query_b26 QueryByCommittee_query_b27 .skip
def QueryByCommittee_query_b29 : Prog :=
  .ite QueryByCommittee_query_b28 .skip QueryByCommittee_query_b25
def QueryByCommittee_query_b30 : Prog :=
  .ite QueryByCommittee_query_b29 .skip (.seq (.bind 2 (.alias (.loc 3))) (.seq (.bind 0 (.fresh [])) .skip))
def QueryByCommittee_query_b31 : Prog :=
  .seq (.bind 4 (.deep (.loc 3))) QueryByCommittee_query_b30
def QueryByCommittee_query_b32 : Prog :=
  .ite .abort QueryByCommittee_query_b31 .skip
def QueryByCommittee_query_b33 : Prog :=
  .ite QueryByCommittee_query_b32 .skip .skip
def QueryByCommittee_query_b34 : Prog :=
  .seq (.bind 3 (.fresh [])) QueryByCommittee_query_b33
def QueryByCommittee_query_b35 : Prog :=
  .ite QueryByCommittee_query_b20 QueryByCommittee_query_b34 .skip
def QueryByCommittee_query_b36 : Prog :=
  .ite QueryByCommittee_query_b35 .skip .skip
def QueryByCommittee_query_b37 : Prog :=
  .seq (.bind 4 (.fresh [])) .skip
def QueryByCommittee_query_b38 : Prog :=
  .seq (.bind 4 (.alias (.sub (.loc 3) 1))) .skip
def QueryByCommittee_query_b39 : Prog :=
  .seq (.bind 4 (.fresh [])) .skip
def QueryByCommittee_query_b40 : Prog :=
  .seq (.bind 4 (.fresh [])) .skip
def QueryByCommittee_query_b41 : Prog :=
  .ite QueryByCommittee_query_b40 .abort .skip
def QueryByCommittee_query_b42 : Prog :=
  .ite QueryByCommittee_query_b39 QueryByCommittee_query_b41 .skip
def QueryByCommittee_query_b43 : Prog :=
  .ite QueryByCommittee_query_b38 QueryByCommittee_query_b42 .skip
def QueryByCommittee_query_b44 : Prog :=
  .ite QueryByCommittee_query_b37 QueryByCommittee_query_b43 (.seq (.bind 2 (.alias (.loc 3))) (.seq (.bind 0 (.alias (.loc 1))) .skip))
def QueryByCommittee_query_b45 : Prog :=
  .seq (.bind 1 (.fresh [])) .abort
def QueryByCommittee_query_b46 : Prog :=
  .seq (.bind 1 (.copy (.loc 1))) .skip
def QueryByCommittee_query_b47 : Prog :=
  .ite QueryByCommittee_query_b46 .skip .skip
def QueryByCommittee_query_b48 : Prog :=
  .ite QueryByCommittee_query_b45 QueryByCommittee_query_b47 .skip
def QueryByCommittee_query_b49 : Prog :=
  .seq (.bind 1 (.fresh [])) .skip
def QueryByCommittee_query_b50 : Prog :=
  .ite QueryByCommittee_query_b49 .skip QueryByCommittee_query_b48
def QueryByCommittee_query_b51 : Prog :=
  .ite .abort QueryByCommittee_query_b50 .skip
def QueryByCommittee_query_b52 : Prog :=
  .ite .abort .skip .skip
def QueryByCommittee_query_b53 : Prog :=
  .ite QueryByCommittee_query_b51 QueryByCommittee_query_b52 QueryByCommittee_query_b44
def QueryByCommittee_query_b54 : Prog :=
  .seq (.bind 7 (.deep (.loc 3))) (.seq (.callFit (.loc 7)) (.seq (.bind 3 (.alias (.loc 7))) .skip))
def QueryByCommittee_query_b55 : Prog :=
  .seq (.bind 8 (.deep (.loc 3))) (.seq (.callFit (.loc 8)) (.seq (.bind 3 (.alias (.loc 8))) .skip))
def QueryByCommittee_query_b56 : Prog :=
  .ite QueryByCommittee_query_b54 QueryByCommittee_query_b55 .skip
def QueryByCommittee_query_b57 : Prog :=
  .ite QueryByCommittee_query_b56 .skip QueryByCommittee_query_b53
def QueryByCommittee_query_b58 : Prog :=
  .seq (.callFit (.sub (.loc 4) 0)) (.seq (.mutate (.loc 4) [(.sub (.loc 4) 0)]) .skip)
def QueryByCommittee_query_b59 : Prog :=
  .seq (.callFit (.sub (.loc 4) 0)) (.seq (.mutate (.loc 4) [(.sub (.loc 4) 0)]) .skip)
def QueryByCommittee_query_b60 : Prog :=
  .ite QueryByCommittee_query_b58 QueryByCommittee_query_b59 .skip
def QueryByCommittee_query_b61 : Prog :=
  .ite QueryByCommittee_query_b60 .skip .skip
def QueryByCommittee_query_b62 : Prog :=
  .ite QueryByCommittee_query_b61 .skip .skip
def QueryByCommittee_query_b63 : Prog :=
  .seq (.callFit (.sub (.loc 4) 0)) (.seq (.mutate (.loc 4) [(.sub (.loc 4) 0)]) .skip)
def QueryByCommittee_query_b64 : Prog :=
  .seq (.callFit (.sub (.loc 4) 0)) (.seq (.mutate (.loc 4) [(.sub (.loc 4) 0)]) .skip)
def QueryByCommittee_query_b65 : Prog :=
  .ite QueryByCommittee_query_b63 QueryByCommittee_query_b64 .skip
def QueryByCommittee_query_b66 : Prog :=
  .ite QueryByCommittee_query_b65 .skip QueryByCommittee_query_b62
def QueryByCommittee_query_b67 : Prog :=
  .ite QueryByCommittee_query_b66 .skip (.seq (.bind 2 (.alias (.loc 3))) (.seq (.bind 0 (.fresh [])) .skip))
def QueryByCommittee_query_b68 : Prog :=
  .seq (.bind 4 (.deep (.loc 3))) QueryByCommittee_query_b67
def QueryByCommittee_query_b69 : Prog :=
  .ite .abort QueryByCommittee_query_b68 .skip
def QueryByCommittee_query_b70 : Prog :=
  .ite QueryByCommittee_query_b69 .skip .skip
def QueryByCommittee_query_b71 : Prog :=
  .seq (.bind 3 (.fresh [])) QueryByCommittee_query_b70
def QueryByCommittee_query_b72 : Prog :=
  .ite QueryByCommittee_query_b57 QueryByCommittee_query_b71 QueryByCommittee_query_b36
def QueryByCommittee_query_b73 : Prog :=
  .ite QueryByCommittee_query_b72 .skip .abort
def QueryByCommittee_query_b74 : Prog :=
  .seq (.readAttr 7) (.seq (.bind 11 (.alias (.sub (.loc 12) 0))) .skip)
def QueryByCommittee_query_b75 : Prog :=
  .seq (.bind 11 (.alias (.sub (.loc 12) 0))) .skip
def QueryByCommittee_query_b76 : Prog :=
  .seq (.bind 11 (.alias (.loc 13))) .skip
def QueryByCommittee_query_b77 : Prog :=
  .ite QueryByCommittee_query_b75 QueryByCommittee_query_b76 .skip
def QueryByCommittee_query_b78 : Prog :=
  .ite QueryByCommittee_query_b74 QueryByCommittee_query_b77 (.seq (.bind 10 (.alias (.loc 11))) (.seq (.readAttr 7) (.seq (.readAttr 6) (.seq (.bind 3 (.alias (.loc 9))) (.seq (.bind 1 (.alias (.attr 3))) QueryByCommittee_query_b73)))))
def QueryByCommittee_query_b79 : Prog :=
  .seq (.readAttr 7) .skip
def QueryByCommittee_query_b80 : Prog :=
  .ite QueryByCommittee_query_b79 .skip (.seq (.bind 17 (.alias (.loc 19))) (.seq (.bind 16 (.alias (.loc 18))) (.seq (.bind 14 (.alias (.loc 17))) (.seq (.bind 15 (.alias (.loc 16))) (.seq (.bind 13 (.alias (.loc 15))) (.seq (.bind 12 (.alias (.loc 14))) QueryByCommittee_query_b78))))))
def QueryByCommittee_query_b81 : Prog :=
  .seq (.bind 24 (.alias (.loc 25))) .skip
def QueryByCommittee_query_b82 : Prog :=
  .seq (.bind 25 (.deep (.loc 25))) (.seq (.bind 25 (.alias (.loc 25))) (.seq (.bind 26 (.fresh [])) (.seq (.bind 24 (.fresh [(.loc 26)])) .skip)))
def QueryByCommittee_query_b83 : Prog :=
  .ite QueryByCommittee_query_b81 QueryByCommittee_query_b82 (.seq (.writeAttr 6 (.alias (.loc 24))) (.seq (.bind 21 (.alias (.loc 23))) (.seq (.bind 20 (.alias (.loc 22))) (.seq (.bind 19 (.alias (.loc 21))) (.seq (.bind 18 (.alias (.loc 20))) QueryByCommittee_query_b80)))))
def QueryByCommittee_query_b84 : Prog :=
  .seq (.bind 22 (.fresh [])) .skip
def QueryByCommittee_query_b85 : Prog :=
  .seq (.bind 27 (.deep (.loc 28))) (.seq (.mutate (.loc 27) []) (.seq (.bind 22 (.alias (.loc 22))) (.seq (.readAttr 8) .skip)))
def QueryByCommittee_query_b86 : Prog :=
  .ite QueryByCommittee_query_b84 QueryByCommittee_query_b85 .skip
def QueryByCommittee_query_b87 : Prog :=
  .seq (.bind 22 (.copy (.loc 22))) QueryByCommittee_query_b86
def QueryByCommittee_query_b88 : Prog :=
  .ite QueryByCommittee_query_b87 .skip (.seq (.bind 25 (.alias (.attr 5))) QueryByCommittee_query_b83)
def QueryByCommittee_query_b89 : Prog :=
  .seq (.bind 19 (.alias (.loc 14))) (.seq (.bind 18 (.alias (.loc 15))) (.seq (.bind 23 (.alias (.loc 19))) (.seq (.bind 22 (.alias (.loc 18))) (.seq (.bind 28 (.fresh [])) (.seq (.bind 28 (.fresh [])) (.seq (.bind 23 (.alias (.loc 23))) (.seq (.writeAttr 8 (.fresh [])) (.seq (.writeAttr 7 (.alias (.attr 4))) (.seq (.readAttr 7) QueryByCommittee_query_b88)))))))))
def QueryByCommittee_query_b90 : Prog :=
  .seq (.bind 25 (.fresh [])) (.seq (.bind 35 (.fresh [])) (.seq (.bind 34 (.fresh [])) (.seq (.bind 1 (.fresh [])) (.seq (.bind 33 (.fresh [])) (.seq (.bind 32 (.fresh [])) (.seq (.bind 31 (.fresh [])) (.seq (.bind 26 (.fresh [])) (.seq (.bind 30 (.fresh [])) (.seq (.bind 29 (.fresh [])) QueryByCommittee_query_b89)))))))))
def QueryByCommittee_query_b91 : Prog :=
  .seq (.bind 13 (.fresh [])) (.seq (.bind 18 (.fresh [])) (.seq (.bind 22 (.fresh [])) (.seq (.bind 28 (.fresh [])) (.seq (.bind 27 (.fresh [])) (.seq (.bind 3 (.fresh [])) (.seq (.bind 4 (.fresh [])) (.seq (.bind 38 (.fresh [])) (.seq (.bind 37 (.fresh [])) (.seq (.bind 36 (.fresh [])) QueryByCommittee_query_b90)))))))))
def QueryByCommittee_query_b92 : Prog :=
  .seq (.bind 21 (.fresh [])) (.seq (.bind 7 (.fresh [])) (.seq (.bind 8 (.fresh [])) (.seq (.bind 5 (.fresh [])) (.seq (.bind 6 (.fresh [])) (.seq (.bind 39 (.fresh [])) (.seq (.bind 12 (.fresh [])) (.seq (.bind 19 (.fresh [])) (.seq (.bind 23 (.fresh [])) (.seq (.bind 10 (.fresh [])) QueryByCommittee_query_b91)))))))))
def QueryByCommittee_query_b93 : Prog :=
  .seq (.bind 24 (.fresh [])) (.seq (.bind 11 (.fresh [])) (.seq (.bind 2 (.fresh [])) (.seq (.bind 17 (.fresh [])) (.seq (.bind 0 (.fresh [])) (.seq (.bind 43 (.fresh [])) (.seq (.bind 42 (.fresh [])) (.seq (.bind 41 (.fresh [])) (.seq (.bind 40 (.fresh [])) (.seq (.bind 16 (.fresh [])) QueryByCommittee_query_b92)))))))))
def QueryByCommittee_query_b94 : Prog :=
  .seq (.bind 44 (.fresh [])) (.seq (.bind 20 (.fresh [])) QueryByCommittee_query_b93)
def summary_QueryByCommittee_query : Summary :=
  { params := [0, 1, 2, 3, 4, 5], closedAttrs := [8], safeAttrs := [], body := QueryByCommittee_query_b94 }
theorem effects_QueryByCommittee_query : FrameOK summary_QueryByCommittee_query = true := by decide +kernel
theorem query_QueryByCommittee_historyFree : HistoryFree summary_QueryByCommittee_query = true := by decide +kernel

/-! ### Quire  (skactiveml/pool/_quire.py)
attributes: 0=classes 1=lmbda 2=metric 3=metric_dict 4=missing_label 5=random_state 6=metric_dict_ 7=random_state_ 8=missing_label_ 9=n_features_in_
keys: 0=* -/
-- Quire.query: locals 0=utilities_cand 1=mask_u 2=mask_a 3=y_ovr@_one_versus_rest_transform6 4=L_aa_inv@_L_aa_inv5 5=$c17 6=le 7=$ret13 8=random_state@check_random_state3 9=seed@check_random_state3 10=check_candidates_dict@_validate_data2 11=check_X_dict@_validate_data2
def Quire_query_b0 : Prog :=
  .seq (.writeAttr 6 (.fresh [])) .abort
def Quire_query_b1 : Prog :=
  .seq (.bind 1 (.copy (.loc 2))) (.seq (.mutate (.loc 1) []) (.seq (.mutate (.loc 0) []) .skip))
def Quire_query_b2 : Prog :=
  .ite Quire_query_b1 .skip .skip
def Quire_query_b3 : Prog :=
  .seq (.bind 1 (.copy (.loc 2))) (.seq (.mutate (.loc 1) []) (.seq (.mutate (.loc 0) []) Quire_query_b2))
def Quire_query_b4 : Prog :=
  .ite Quire_query_b3 .skip (.seq (.readAttr 7) .skip)
def Quire_query_b5 : Prog :=
  .seq (.mutate (.loc 3) []) (.seq (.mutate (.loc 3) []) .skip)
def Quire_query_b6 : Prog :=
  .ite Quire_query_b5 .skip .skip
def Quire_query_b7 : Prog :=
  .seq (.mutate (.loc 3) []) (.seq (.mutate (.loc 3) []) Quire_query_b6)
def Quire_query_b8 : Prog :=
  .ite Quire_query_b7 .skip Quire_query_b4
def Quire_query_b9 : Prog :=
  .ite .abort .skip .skip
def Quire_query_b10 : Prog :=
  .seq (.readAttr 6) .skip
def Quire_query_b11 : Prog :=
  .ite Quire_query_b9 Quire_query_b10 (.seq (.bind 4 (.fresh [])) (.seq (.mutate (.loc 4) []) (.seq (.bind 0 (.fresh [])) (.seq (.bind 3 (.fresh [])) Quire_query_b8))))
def Quire_query_b12 : Prog :=
  .ite Quire_query_b0 Quire_query_b11 .skip
def Quire_query_b13 : Prog :=
  .seq (.bind 5 (.alias (.attr 3))) .skip
def Quire_query_b14 : Prog :=
  .seq (.bind 5 (.fresh [])) .skip
def Quire_query_b15 : Prog :=
  .ite Quire_query_b13 Quire_query_b14 (.seq (.writeAttr 6 (.alias (.loc 5))) (.seq (.readAttr 6) Quire_query_b12))
def Quire_query_b16 : Prog :=
  .ite .abort Quire_query_b15 .skip
def Quire_query_b17 : Prog :=
  .seq (.readAttr 8) .skip
def Quire_query_b18 : Prog :=
  .ite .skip .abort .skip
def Quire_query_b19 : Prog :=
  .ite Quire_query_b17 Quire_query_b18 (.seq (.bind 2 (.fresh [])) (.seq (.bind 6 (.fresh [(.attr 0), (.attr 4)])) (.seq (.callFit (.loc 6)) Quire_query_b16)))
def Quire_query_b20 : Prog :=
  .seq (.readAttr 8) .skip
def Quire_query_b21 : Prog :=
  .ite Quire_query_b20 .skip Quire_query_b19
def Quire_query_b22 : Prog :=
  .seq (.bind 7 (.alias (.loc 8))) .skip
def Quire_query_b23 : Prog :=
  .seq (.bind 8 (.deep (.loc 8))) (.seq (.bind 8 (.alias (.loc 8))) (.seq (.bind 9 (.fresh [])) (.seq (.bind 7 (.fresh [(.loc 9)])) .skip)))
def Quire_query_b24 : Prog :=
  .ite Quire_query_b22 Quire_query_b23 (.seq (.writeAttr 7 (.alias (.loc 7))) Quire_query_b21)
def Quire_query_b25 : Prog :=
  .seq (.bind 10 (.deep (.loc 11))) (.seq (.mutate (.loc 10) []) (.seq (.readAttr 9) .skip))
def Quire_query_b26 : Prog :=
  .ite .skip Quire_query_b25 .skip
def Quire_query_b27 : Prog :=
  .ite Quire_query_b26 .skip (.seq (.bind 8 (.alias (.attr 5))) Quire_query_b24)
def Quire_query_b28 : Prog :=
  .seq (.bind 1 (.fresh [])) (.seq (.bind 8 (.fresh [])) (.seq (.bind 9 (.fresh [])) (.seq (.bind 0 (.fresh [])) (.seq (.bind 3 (.fresh [])) (.seq (.bind 11 (.fresh [])) (.seq (.bind 11 (.fresh [])) (.seq (.writeAttr 9 (.fresh [])) (.seq (.writeAttr 8 (.alias (.attr 4))) (.seq (.readAttr 8) Quire_query_b27)))))))))
def Quire_query_b29 : Prog :=
  .seq (.bind 5 (.fresh [])) (.seq (.bind 7 (.fresh [])) (.seq (.bind 4 (.fresh [])) (.seq (.bind 11 (.fresh [])) (.seq (.bind 10 (.fresh [])) (.seq (.bind 6 (.fresh [])) (.seq (.bind 2 (.fresh [])) Quire_query_b28))))))
def summary_Quire_query : Summary :=
  { params := [0, 1, 2, 3, 4, 5], closedAttrs := [9], safeAttrs := [], body := Quire_query_b29 }
theorem effects_Quire_query : FrameOK summary_Quire_query = true := by decide +kernel
theorem query_Quire_historyFree : HistoryFree summary_Quire_query = true := by decide +kernel

/-! ### FourDs  (skactiveml/pool/_four_ds.py)
attributes: 0=lmbda 1=missing_label 2=random_state 3=random_state_ 4=missing_label_ 5=n_features_in_
keys: 0=* -/
-- FourDs.query: locals 0=utilities 1=utilities_cand 2=is_selected 3=query_indices_cand 4=clf 5=$t17 6=$ret13 7=random_state@check_random_state3 8=seed@check_random_state3 9=check_candidates_dict@_validate_data2 10=check_X_dict@_validate_data2
def FourDs_query_b0 : Prog :=
  .seq (.bind 0 (.fresh [])) (.seq (.mutate (.loc 0) []) .skip)
def FourDs_query_b1 : Prog :=
  .ite FourDs_query_b0 .skip .skip
def FourDs_query_b2 : Prog :=
  .seq (.bind 0 (.alias (.loc 1))) .skip
def FourDs_query_b3 : Prog :=
  .ite FourDs_query_b2 .skip FourDs_query_b1
def FourDs_query_b4 : Prog :=
  .seq (.mutate (.loc 1) []) (.seq (.mutate (.loc 1) []) (.seq (.readAttr 3) (.seq (.mutate (.loc 3) []) (.seq (.mutate (.loc 2) []) .skip))))
def FourDs_query_b5 : Prog :=
  .ite FourDs_query_b4 .skip .skip
def FourDs_query_b6 : Prog :=
  .seq (.mutate (.loc 1) []) (.seq (.mutate (.loc 1) []) (.seq (.readAttr 3) (.seq (.mutate (.loc 3) []) (.seq (.mutate (.loc 2) []) FourDs_query_b5))))
def FourDs_query_b7 : Prog :=
  .ite FourDs_query_b6 .skip .skip
def FourDs_query_b8 : Prog :=
  .ite FourDs_query_b7 .skip FourDs_query_b3
def FourDs_query_b9 : Prog :=
  .seq (.bind 5 (.deep (.loc 4))) (.seq (.callFit (.loc 5)) (.seq (.bind 4 (.alias (.loc 5))) .skip))
def FourDs_query_b10 : Prog :=
  .ite FourDs_query_b9 .skip (.seq (.bind 1 (.fresh [])) (.seq (.mutate (.loc 1) []) (.seq (.readAttr 3) (.seq (.mutate (.loc 3) []) (.seq (.bind 2 (.fresh [])) (.seq (.mutate (.loc 2) []) FourDs_query_b8))))))
def FourDs_query_b11 : Prog :=
  .seq (.readAttr 4) .skip
def FourDs_query_b12 : Prog :=
  .ite FourDs_query_b11 .skip (.seq (.bind 3 (.fresh [])) FourDs_query_b10)
def FourDs_query_b13 : Prog :=
  .seq (.readAttr 4) .skip
def FourDs_query_b14 : Prog :=
  .ite FourDs_query_b13 .skip (.seq (.readAttr 4) FourDs_query_b12)
def FourDs_query_b15 : Prog :=
  .seq (.bind 6 (.alias (.loc 7))) .skip
def FourDs_query_b16 : Prog :=
  .seq (.bind 7 (.deep (.loc 7))) (.seq (.bind 7 (.alias (.loc 7))) (.seq (.bind 8 (.fresh [])) (.seq (.bind 6 (.fresh [(.loc 8)])) .skip)))
def FourDs_query_b17 : Prog :=
  .ite FourDs_query_b15 FourDs_query_b16 (.seq (.writeAttr 3 (.alias (.loc 6))) FourDs_query_b14)
def FourDs_query_b18 : Prog :=
  .seq (.bind 9 (.deep (.loc 10))) (.seq (.mutate (.loc 9) []) (.seq (.readAttr 5) .skip))
def FourDs_query_b19 : Prog :=
  .ite .skip FourDs_query_b18 .skip
def FourDs_query_b20 : Prog :=
  .ite FourDs_query_b19 .skip (.seq (.bind 7 (.alias (.attr 2))) FourDs_query_b17)
def FourDs_query_b21 : Prog :=
  .seq (.bind 3 (.fresh [])) (.seq (.bind 7 (.fresh [])) (.seq (.bind 8 (.fresh [])) (.seq (.bind 0 (.fresh [])) (.seq (.bind 1 (.fresh [])) (.seq (.bind 10 (.fresh [])) (.seq (.bind 10 (.fresh [])) (.seq (.writeAttr 5 (.fresh [])) (.seq (.writeAttr 4 (.alias (.attr 1))) (.seq (.readAttr 4) FourDs_query_b20)))))))))
def FourDs_query_b22 : Prog :=
  .seq (.bind 6 (.fresh [])) (.seq (.bind 5 (.fresh [])) (.seq (.bind 10 (.fresh [])) (.seq (.bind 9 (.fresh [])) (.seq (.bind 2 (.fresh [])) FourDs_query_b21))))
def summary_FourDs_query : Summary :=
  { params := [0, 1, 2], closedAttrs := [5], safeAttrs := [], body := FourDs_query_b22 }
theorem effects_FourDs_query : FrameOK summary_FourDs_query = true := by decide +kernel
theorem query_FourDs_historyFree : HistoryFree summary_FourDs_query = true := by decide +kernel

/-! ### CostEmbeddingAL  (skactiveml/pool/_cost_embedding_al.py)
attributes: 0=classes 1=base_regressor 2=cost_matrix 3=embed_dim 4=mds_params 5=nn_params 6=missing_label 7=random_state 8=random_state_ 9=missing_label_ 10=n_features_in_
keys: 0=* -/
-- CostEmbeddingAL.query: locals 0=utilities 1=util_cand 2=$ret17 3=base_regressor@_alce5 4=utilities@_alce5 5=dist@_alce5 6=pred_embed@_alce5 7=regressors@_alce5 8=nn@_alce5 9=nn_params@_alce5 10=mds@_alce5 11=mds_params@_alce5 12=W@_alce5 13=dissimilarities@_alce5 14=$comp21 15=$t22 16=$c20 17=mds_params_default@_alce5 18=embed_dim@_alce5 19=random_state@_alce5 20=$c19 21=$t18 22=classes@_alce5 23=missing_label@_alce5 24=$ret13 25=random_state@check_random_state3 26=seed@check_random_state3 27=check_candidates_dict@_validate_data2 28=check_X_dict@_validate_data2
def CostEmbeddingAL_query_b0 : Prog :=
  .seq (.bind 0 (.alias (.loc 1))) .skip
def CostEmbeddingAL_query_b1 : Prog :=
  .seq (.bind 0 (.fresh [])) (.seq (.mutate (.loc 0) []) .skip)
def CostEmbeddingAL_query_b2 : Prog :=
  .ite CostEmbeddingAL_query_b0 CostEmbeddingAL_query_b1 (.seq (.readAttr 8) .skip)
def CostEmbeddingAL_query_b3 : Prog :=
  .seq (.bind 3 (.fresh [])) .abort
def CostEmbeddingAL_query_b4 : Prog :=
  .seq (.bind 2 (.fresh [])) .skip
def CostEmbeddingAL_query_b5 : Prog :=
  .seq (.callFit (.sub (.loc 7) 0)) (.seq (.mutate (.loc 6) []) .skip)
def CostEmbeddingAL_query_b6 : Prog :=
  .ite CostEmbeddingAL_query_b5 .skip .skip
def CostEmbeddingAL_query_b7 : Prog :=
  .seq (.callFit (.sub (.loc 7) 0)) (.seq (.mutate (.loc 6) []) CostEmbeddingAL_query_b6)
def CostEmbeddingAL_query_b8 : Prog :=
  .ite CostEmbeddingAL_query_b7 .skip (.seq (.bind 5 (.fresh [])) (.seq (.bind 4 (.alias (.sub (.loc 5) 0))) (.seq (.bind 2 (.alias (.loc 4))) .skip)))
def CostEmbeddingAL_query_b9 : Prog :=
  .seq (.mutate (.loc 13) []) (.seq (.mutate (.loc 13) []) (.seq (.bind 12 (.fresh [])) (.seq (.mutate (.loc 12) []) (.seq (.mutate (.loc 12) []) (.seq (.bind 10 (.fresh [(.sub (.loc 11) 0)])) (.seq (.callFit (.loc 10)) (.seq (.bind 8 (.fresh [(.sub (.loc 9) 0)])) (.seq (.callFit (.loc 8)) (.seq (.bind 6 (.fresh [])) CostEmbeddingAL_query_b8)))))))))
def CostEmbeddingAL_query_b10 : Prog :=
  .seq (.bind 15 (.deep (.loc 3))) (.seq (.bind 14 (.fresh [(.loc 15)])) .skip)
def CostEmbeddingAL_query_b11 : Prog :=
  .ite CostEmbeddingAL_query_b10 .skip (.seq (.bind 7 (.alias (.loc 14))) (.seq (.bind 13 (.fresh [])) CostEmbeddingAL_query_b9))
def CostEmbeddingAL_query_b12 : Prog :=
  .seq (.bind 14 (.fresh [])) CostEmbeddingAL_query_b11
def CostEmbeddingAL_query_b13 : Prog :=
  .ite .abort CostEmbeddingAL_query_b12 .skip
def CostEmbeddingAL_query_b14 : Prog :=
  .seq (.bind 16 (.fresh [])) .skip
def CostEmbeddingAL_query_b15 : Prog :=
  .seq (.bind 16 (.alias (.loc 9))) .skip
def CostEmbeddingAL_query_b16 : Prog :=
  .ite CostEmbeddingAL_query_b14 CostEmbeddingAL_query_b15 (.seq (.bind 9 (.alias (.loc 16))) CostEmbeddingAL_query_b13)
def CostEmbeddingAL_query_b17 : Prog :=
  .seq (.callFit (.loc 17)) .skip
def CostEmbeddingAL_query_b18 : Prog :=
  .ite .abort CostEmbeddingAL_query_b17 .skip
def CostEmbeddingAL_query_b19 : Prog :=
  .ite CostEmbeddingAL_query_b18 .skip (.seq (.bind 11 (.alias (.loc 17))) CostEmbeddingAL_query_b16)
def CostEmbeddingAL_query_b20 : Prog :=
  .seq (.bind 20 (.fresh [])) .skip
def CostEmbeddingAL_query_b21 : Prog :=
  .seq (.bind 20 (.alias (.loc 18))) .skip
def CostEmbeddingAL_query_b22 : Prog :=
  .ite CostEmbeddingAL_query_b20 CostEmbeddingAL_query_b21 (.seq (.bind 18 (.alias (.loc 20))) (.seq (.bind 17 (.fresh [(.loc 18), (.loc 19)])) CostEmbeddingAL_query_b19))
def CostEmbeddingAL_query_b23 : Prog :=
  .ite CostEmbeddingAL_query_b4 CostEmbeddingAL_query_b22 .skip
def CostEmbeddingAL_query_b24 : Prog :=
  .seq (.bind 21 (.fresh [(.loc 22), (.loc 23)])) (.seq (.callFit (.loc 21)) CostEmbeddingAL_query_b23)
def CostEmbeddingAL_query_b25 : Prog :=
  .ite .abort CostEmbeddingAL_query_b24 .skip
def CostEmbeddingAL_query_b26 : Prog :=
  .ite CostEmbeddingAL_query_b3 CostEmbeddingAL_query_b25 (.seq (.bind 1 (.alias (.loc 2))) CostEmbeddingAL_query_b2)
def CostEmbeddingAL_query_b27 : Prog :=
  .seq (.bind 3 (.fresh [])) .skip
def CostEmbeddingAL_query_b28 : Prog :=
  .ite CostEmbeddingAL_query_b27 .skip CostEmbeddingAL_query_b26
def CostEmbeddingAL_query_b29 : Prog :=
  .seq (.readAttr 9) .skip
def CostEmbeddingAL_query_b30 : Prog :=
  .ite CostEmbeddingAL_query_b29 .skip (.seq (.readAttr 8) (.seq (.bind 3 (.alias (.attr 1))) (.seq (.bind 22 (.alias (.attr 0))) (.seq (.bind 18 (.alias (.attr 3))) (.seq (.bind 23 (.alias (.attr 6))) (.seq (.bind 19 (.alias (.attr 8))) (.seq (.bind 11 (.alias (.attr 4))) (.seq (.bind 9 (.alias (.attr 5))) CostEmbeddingAL_query_b28))))))))
def CostEmbeddingAL_query_b31 : Prog :=
  .seq (.readAttr 9) .skip
def CostEmbeddingAL_query_b32 : Prog :=
  .ite CostEmbeddingAL_query_b31 .skip CostEmbeddingAL_query_b30
def CostEmbeddingAL_query_b33 : Prog :=
  .seq (.bind 24 (.alias (.loc 25))) .skip
def CostEmbeddingAL_query_b34 : Prog :=
  .seq (.bind 25 (.deep (.loc 25))) (.seq (.bind 25 (.alias (.loc 25))) (.seq (.bind 26 (.fresh [])) (.seq (.bind 24 (.fresh [(.loc 26)])) .skip)))
def CostEmbeddingAL_query_b35 : Prog :=
  .ite CostEmbeddingAL_query_b33 CostEmbeddingAL_query_b34 (.seq (.writeAttr 8 (.alias (.loc 24))) CostEmbeddingAL_query_b32)
def CostEmbeddingAL_query_b36 : Prog :=
  .seq (.bind 27 (.deep (.loc 28))) (.seq (.mutate (.loc 27) []) (.seq (.readAttr 10) .skip))
def CostEmbeddingAL_query_b37 : Prog :=
  .ite .skip CostEmbeddingAL_query_b36 .skip
def CostEmbeddingAL_query_b38 : Prog :=
  .ite CostEmbeddingAL_query_b37 .skip (.seq (.bind 25 (.alias (.attr 7))) CostEmbeddingAL_query_b35)
def CostEmbeddingAL_query_b39 : Prog :=
  .seq (.bind 7 (.fresh [])) (.seq (.bind 26 (.fresh [])) (.seq (.bind 1 (.fresh [])) (.seq (.bind 0 (.fresh [])) (.seq (.bind 4 (.fresh [])) (.seq (.bind 28 (.fresh [])) (.seq (.bind 28 (.fresh [])) (.seq (.writeAttr 10 (.fresh [])) (.seq (.writeAttr 9 (.alias (.attr 6))) (.seq (.readAttr 9) CostEmbeddingAL_query_b38)))))))))
def CostEmbeddingAL_query_b40 : Prog :=
  .seq (.bind 18 (.fresh [])) (.seq (.bind 10 (.fresh [])) (.seq (.bind 11 (.fresh [])) (.seq (.bind 17 (.fresh [])) (.seq (.bind 23 (.fresh [])) (.seq (.bind 8 (.fresh [])) (.seq (.bind 9 (.fresh [])) (.seq (.bind 6 (.fresh [])) (.seq (.bind 19 (.fresh [])) (.seq (.bind 25 (.fresh [])) CostEmbeddingAL_query_b39)))))))))
def CostEmbeddingAL_query_b41 : Prog :=
  .seq (.bind 2 (.fresh [])) (.seq (.bind 21 (.fresh [])) (.seq (.bind 15 (.fresh [])) (.seq (.bind 12 (.fresh [])) (.seq (.bind 3 (.fresh [])) (.seq (.bind 28 (.fresh [])) (.seq (.bind 27 (.fresh [])) (.seq (.bind 22 (.fresh [])) (.seq (.bind 13 (.fresh [])) (.seq (.bind 5 (.fresh [])) CostEmbeddingAL_query_b40)))))))))
def CostEmbeddingAL_query_b42 : Prog :=
  .seq (.bind 20 (.fresh [])) (.seq (.bind 16 (.fresh [])) (.seq (.bind 14 (.fresh [])) (.seq (.bind 24 (.fresh [])) CostEmbeddingAL_query_b41)))
def summary_CostEmbeddingAL_query : Summary :=
  { params := [0, 1, 2, 3, 4, 5, 6, 7], closedAttrs := [10], safeAttrs := [], body := CostEmbeddingAL_query_b42 }
theorem effects_CostEmbeddingAL_query : FrameOK summary_CostEmbeddingAL_query = true := by decide +kernel
theorem query_CostEmbeddingAL_historyFree : HistoryFree summary_CostEmbeddingAL_query = true := by decide +kernel

/-! ### ExpectedModelChangeMaximization  (skactiveml/pool/_expected_model_change_maximization.py)
attributes: 0=bootstrap_size 1=n_train 2=ord 3=feature_map 4=missing_label 5=random_state 6=random_state_ 7=missing_label_ 8=n_features_in_
keys: 0=* -/
-- ExpectedModelChangeMaximization.query: locals 0=utilities 1=utilities_cand 2=est_b@_bootstrap_estimators5 3=bootstrap_est@_bootstrap_estimators5 4=$comp21 5=$t22 6=est@_bootstrap_estimators5 7=reg 8=$t14 9=$t15 10=$ret13 11=random_state@check_random_state3 12=seed@check_random_state3 13=check_candidates_dict@_validate_data2 14=check_X_dict@_validate_data2
def ExpectedModelChangeMaximization_query_b0 : Prog :=
  .seq (.bind 0 (.alias (.loc 1))) .skip
def ExpectedModelChangeMaximization_query_b1 : Prog :=
  .seq (.bind 0 (.fresh [])) (.seq (.mutate (.loc 0) []) .skip)
def ExpectedModelChangeMaximization_query_b2 : Prog :=
  .ite ExpectedModelChangeMaximization_query_b0 ExpectedModelChangeMaximization_query_b1 (.seq (.readAttr 6) .skip)
def ExpectedModelChangeMaximization_query_b3 : Prog :=
  .seq (.callFit (.loc 2)) .skip
def ExpectedModelChangeMaximization_query_b4 : Prog :=
  .seq (.callFit (.loc 2)) .skip
def ExpectedModelChangeMaximization_query_b5 : Prog :=
  .ite ExpectedModelChangeMaximization_query_b3 ExpectedModelChangeMaximization_query_b4 .skip
def ExpectedModelChangeMaximization_query_b6 : Prog :=
  .seq (.bind 2 (.alias (.sub (.loc 3) 0))) ExpectedModelChangeMaximization_query_b5
def ExpectedModelChangeMaximization_query_b7 : Prog :=
  .ite ExpectedModelChangeMaximization_query_b6 .skip .skip
def ExpectedModelChangeMaximization_query_b8 : Prog :=
  .seq (.callFit (.loc 2)) .skip
def ExpectedModelChangeMaximization_query_b9 : Prog :=
  .seq (.callFit (.loc 2)) .skip
def ExpectedModelChangeMaximization_query_b10 : Prog :=
  .ite ExpectedModelChangeMaximization_query_b8 ExpectedModelChangeMaximization_query_b9 ExpectedModelChangeMaximization_query_b7
def ExpectedModelChangeMaximization_query_b11 : Prog :=
  .seq (.bind 2 (.alias (.sub (.loc 3) 0))) ExpectedModelChangeMaximization_query_b10
def ExpectedModelChangeMaximization_query_b12 : Prog :=
  .ite ExpectedModelChangeMaximization_query_b11 .skip .skip
def ExpectedModelChangeMaximization_query_b13 : Prog :=
  .seq (.bind 5 (.deep (.loc 6))) (.seq (.bind 4 (.fresh [(.loc 5)])) .skip)
def ExpectedModelChangeMaximization_query_b14 : Prog :=
  .ite ExpectedModelChangeMaximization_query_b13 .skip (.seq (.bind 3 (.alias (.loc 4))) ExpectedModelChangeMaximization_query_b12)
def ExpectedModelChangeMaximization_query_b15 : Prog :=
  .ite .abort .skip (.seq (.bind 4 (.fresh [])) ExpectedModelChangeMaximization_query_b14)
def ExpectedModelChangeMaximization_query_b16 : Prog :=
  .ite .abort ExpectedModelChangeMaximization_query_b15 (.seq (.bind 1 (.fresh [])) ExpectedModelChangeMaximization_query_b2)
def ExpectedModelChangeMaximization_query_b17 : Prog :=
  .seq (.readAttr 7) .skip
def ExpectedModelChangeMaximization_query_b18 : Prog :=
  .ite ExpectedModelChangeMaximization_query_b17 .skip (.seq (.readAttr 6) (.seq (.bind 6 (.alias (.loc 7))) ExpectedModelChangeMaximization_query_b16))
def ExpectedModelChangeMaximization_query_b19 : Prog :=
  .seq (.bind 8 (.deep (.loc 7))) (.seq (.callFit (.loc 8)) (.seq (.bind 7 (.alias (.loc 8))) .skip))
def ExpectedModelChangeMaximization_query_b20 : Prog :=
  .seq (.bind 9 (.deep (.loc 7))) (.seq (.callFit (.loc 9)) (.seq (.bind 7 (.alias (.loc 9))) .skip))
def ExpectedModelChangeMaximization_query_b21 : Prog :=
  .ite ExpectedModelChangeMaximization_query_b19 ExpectedModelChangeMaximization_query_b20 .skip
def ExpectedModelChangeMaximization_query_b22 : Prog :=
  .ite ExpectedModelChangeMaximization_query_b21 .skip ExpectedModelChangeMaximization_query_b18
def ExpectedModelChangeMaximization_query_b23 : Prog :=
  .seq (.readAttr 7) .skip
def ExpectedModelChangeMaximization_query_b24 : Prog :=
  .ite ExpectedModelChangeMaximization_query_b23 .skip ExpectedModelChangeMaximization_query_b22
def ExpectedModelChangeMaximization_query_b25 : Prog :=
  .seq (.bind 10 (.alias (.loc 11))) .skip
def ExpectedModelChangeMaximization_query_b26 : Prog :=
  .seq (.bind 11 (.deep (.loc 11))) (.seq (.bind 11 (.alias (.loc 11))) (.seq (.bind 12 (.fresh [])) (.seq (.bind 10 (.fresh [(.loc 12)])) .skip)))
def ExpectedModelChangeMaximization_query_b27 : Prog :=
  .ite ExpectedModelChangeMaximization_query_b25 ExpectedModelChangeMaximization_query_b26 (.seq (.writeAttr 6 (.alias (.loc 10))) ExpectedModelChangeMaximization_query_b24)
def ExpectedModelChangeMaximization_query_b28 : Prog :=
  .seq (.bind 13 (.deep (.loc 14))) (.seq (.mutate (.loc 13) []) (.seq (.readAttr 8) .skip))
def ExpectedModelChangeMaximization_query_b29 : Prog :=
  .ite .skip ExpectedModelChangeMaximization_query_b28 .skip
def ExpectedModelChangeMaximization_query_b30 : Prog :=
  .ite ExpectedModelChangeMaximization_query_b29 .skip (.seq (.bind 11 (.alias (.attr 5))) ExpectedModelChangeMaximization_query_b27)
def ExpectedModelChangeMaximization_query_b31 : Prog :=
  .seq (.bind 2 (.fresh [])) (.seq (.bind 11 (.fresh [])) (.seq (.bind 12 (.fresh [])) (.seq (.bind 0 (.fresh [])) (.seq (.bind 1 (.fresh [])) (.seq (.bind 14 (.fresh [])) (.seq (.bind 14 (.fresh [])) (.seq (.writeAttr 8 (.fresh [])) (.seq (.writeAttr 7 (.alias (.attr 4))) (.seq (.readAttr 7) ExpectedModelChangeMaximization_query_b30)))))))))
def ExpectedModelChangeMaximization_query_b32 : Prog :=
  .seq (.bind 4 (.fresh [])) (.seq (.bind 10 (.fresh [])) (.seq (.bind 8 (.fresh [])) (.seq (.bind 9 (.fresh [])) (.seq (.bind 5 (.fresh [])) (.seq (.bind 3 (.fresh [])) (.seq (.bind 14 (.fresh [])) (.seq (.bind 13 (.fresh [])) (.seq (.bind 6 (.fresh [])) ExpectedModelChangeMaximization_query_b31))))))))
def summary_ExpectedModelChangeMaximization_query : Summary :=
  { params := [0, 1, 2, 3, 4, 5], closedAttrs := [8], safeAttrs := [], body := ExpectedModelChangeMaximization_query_b32 }
theorem effects_ExpectedModelChangeMaximization_query : FrameOK summary_ExpectedModelChangeMaximization_query = true := by decide +kernel
theorem query_ExpectedModelChangeMaximization_historyFree : HistoryFree summary_ExpectedModelChangeMaximization_query = true := by decide +kernel

/-! ### ExpectedModelOutputChange  (skactiveml/pool/_expected_model_output_change.py)
attributes: 0=integration_dict 1=loss 2=missing_label 3=random_state 4=random_state_ 5=missing_label_ 6=n_features_in_
keys: 0=* 1=kwds -/
-- ExpectedModelOutputChange.query: locals 0=utilities 1=change 2=$ret29 3=expectation@_conditional_expect9 4=inner_output@evaluate_func12 5=X@_conditional_expect9 6=inner_potential_y@evaluate_func12 7=potential_y@_conditional_expect9 8=output@_conditional_expect9 9=$ret38 10=inner_output@evaluate_func14 11=inner_potential_y@evaluate_func14 12=dist@_reshape_scipy_dist13 13=$t46 14=fixed_quad_function_wrapper@_conditional_expect9 15=n_integration_samples@_conditional_expect9 16=inner_output@evaluate_func17 17=inner_potential_y@fixed_quad_function_wrapper15 18=dist@_reshape_scipy_dist16 19=$ret48 20=inner_output@evaluate_func18 21=inner_potential_y@evaluate_func18 22=inner_output@evaluate_func11 23=inner_potential_y@evaluate_func11 24=$any 25=integration_dict 26=X_cand 27=$t27 28=reg@_update_reg6 29=$t28 30=y_new@_update_X_y7 31=y_update@_update_X_y7 32=y@_update_X_y7 33=y_update@_update_reg6 34=y@_update_reg6 35=y_pot@_model_output_change5 36=y 37=reg 38=$t17 39=$t18 40=$ret15 41=X@_transform_candidates4 42=candidates@_transform_candidates4 43=X 44=candidates 45=$ret4 46=$ret3 47=$ret2 48=candidates@_validate_data1 49=y@_validate_data1 50=X@_validate_data1 51=$ret10 52=$ret9 53=$ret8 54=candidates@_validate_data2 55=y@_validate_data2 56=X@_validate_data2 57=$ret13 58=random_state@check_random_state3 59=seed@check_random_state3 60=check_candidates_dict@_validate_data2 61=check_X_dict@_validate_data2
def ExpectedModelOutputChange_query_b0 : Prog :=
  .seq (.bind 0 (.alias (.loc 1))) .skip
def ExpectedModelOutputChange_query_b1 : Prog :=
  .seq (.bind 0 (.fresh [])) (.seq (.mutate (.loc 0) []) .skip)
def ExpectedModelOutputChange_query_b2 : Prog :=
  .ite ExpectedModelOutputChange_query_b0 ExpectedModelOutputChange_query_b1 (.seq (.readAttr 4) .skip)
def ExpectedModelOutputChange_query_b3 : Prog :=
  .seq (.bind 4 (.fresh [(.loc 5), (.loc 6)])) .skip
def ExpectedModelOutputChange_query_b4 : Prog :=
  .seq (.mutate (.loc 4) []) .skip
def ExpectedModelOutputChange_query_b5 : Prog :=
  .ite ExpectedModelOutputChange_query_b4 .skip .skip
def ExpectedModelOutputChange_query_b6 : Prog :=
  .seq (.mutate (.loc 4) []) ExpectedModelOutputChange_query_b5
def ExpectedModelOutputChange_query_b7 : Prog :=
  .ite ExpectedModelOutputChange_query_b6 .skip .skip
def ExpectedModelOutputChange_query_b8 : Prog :=
  .ite ExpectedModelOutputChange_query_b7 .skip .skip
def ExpectedModelOutputChange_query_b9 : Prog :=
  .seq (.mutate (.loc 4) []) .skip
def ExpectedModelOutputChange_query_b10 : Prog :=
  .ite ExpectedModelOutputChange_query_b9 .skip .skip
def ExpectedModelOutputChange_query_b11 : Prog :=
  .seq (.mutate (.loc 4) []) ExpectedModelOutputChange_query_b10
def ExpectedModelOutputChange_query_b12 : Prog :=
  .ite ExpectedModelOutputChange_query_b11 .skip ExpectedModelOutputChange_query_b8
def ExpectedModelOutputChange_query_b13 : Prog :=
  .ite ExpectedModelOutputChange_query_b12 .skip .skip
def ExpectedModelOutputChange_query_b14 : Prog :=
  .seq (.bind 4 (.fresh [])) ExpectedModelOutputChange_query_b13
def ExpectedModelOutputChange_query_b15 : Prog :=
  .ite ExpectedModelOutputChange_query_b3 ExpectedModelOutputChange_query_b14 (.seq (.bind 3 (.fresh [])) .skip)
def ExpectedModelOutputChange_query_b16 : Prog :=
  .seq (.bind 7 (.fresh [])) .skip
def ExpectedModelOutputChange_query_b17 : Prog :=
  .seq (.bind 7 (.fresh [])) .skip
def ExpectedModelOutputChange_query_b18 : Prog :=
  .ite ExpectedModelOutputChange_query_b16 ExpectedModelOutputChange_query_b17 (.seq (.bind 6 (.alias (.loc 7))) ExpectedModelOutputChange_query_b15)
def ExpectedModelOutputChange_query_b19 : Prog :=
  .seq (.bind 3 (.fresh [(.loc 8)])) .skip
def ExpectedModelOutputChange_query_b20 : Prog :=
  .seq (.bind 3 (.fresh [(.loc 8)])) .skip
def ExpectedModelOutputChange_query_b21 : Prog :=
  .seq (.bind 3 (.fresh [])) .skip
def ExpectedModelOutputChange_query_b22 : Prog :=
  .seq (.bind 3 (.fresh [(.loc 8)])) .skip
def ExpectedModelOutputChange_query_b23 : Prog :=
  .ite ExpectedModelOutputChange_query_b21 ExpectedModelOutputChange_query_b22 .skip
def ExpectedModelOutputChange_query_b24 : Prog :=
  .ite ExpectedModelOutputChange_query_b20 ExpectedModelOutputChange_query_b23 .skip
def ExpectedModelOutputChange_query_b25 : Prog :=
  .ite ExpectedModelOutputChange_query_b19 ExpectedModelOutputChange_query_b24 .skip
def ExpectedModelOutputChange_query_b26 : Prog :=
  .seq (.bind 10 (.fresh [(.loc 5), (.loc 11)])) .skip
def ExpectedModelOutputChange_query_b27 : Prog :=
  .seq (.mutate (.loc 10) []) .skip
def ExpectedModelOutputChange_query_b28 : Prog :=
  .ite ExpectedModelOutputChange_query_b27 .skip .skip
def ExpectedModelOutputChange_query_b29 : Prog :=
  .seq (.mutate (.loc 10) []) ExpectedModelOutputChange_query_b28
def ExpectedModelOutputChange_query_b30 : Prog :=
  .ite ExpectedModelOutputChange_query_b29 .skip .skip
def ExpectedModelOutputChange_query_b31 : Prog :=
  .ite ExpectedModelOutputChange_query_b30 .skip .skip
def ExpectedModelOutputChange_query_b32 : Prog :=
  .seq (.mutate (.loc 10) []) .skip
def ExpectedModelOutputChange_query_b33 : Prog :=
  .ite ExpectedModelOutputChange_query_b32 .skip .skip
def ExpectedModelOutputChange_query_b34 : Prog :=
  .seq (.mutate (.loc 10) []) ExpectedModelOutputChange_query_b33
def ExpectedModelOutputChange_query_b35 : Prog :=
  .ite ExpectedModelOutputChange_query_b34 .skip ExpectedModelOutputChange_query_b31
def ExpectedModelOutputChange_query_b36 : Prog :=
  .ite ExpectedModelOutputChange_query_b35 .skip .skip
def ExpectedModelOutputChange_query_b37 : Prog :=
  .seq (.bind 10 (.fresh [])) ExpectedModelOutputChange_query_b36
def ExpectedModelOutputChange_query_b38 : Prog :=
  .ite ExpectedModelOutputChange_query_b26 ExpectedModelOutputChange_query_b37 (.seq (.bind 9 (.alias (.loc 10))) (.seq (.bind 8 (.alias (.loc 9))) ExpectedModelOutputChange_query_b25))
def ExpectedModelOutputChange_query_b39 : Prog :=
  .seq (.mutate (.sub (.sub (.loc 12) 1) 0) []) .skip
def ExpectedModelOutputChange_query_b40 : Prog :=
  .ite ExpectedModelOutputChange_query_b39 .skip .skip
def ExpectedModelOutputChange_query_b41 : Prog :=
  .ite ExpectedModelOutputChange_query_b40 .skip .skip
def ExpectedModelOutputChange_query_b42 : Prog :=
  .seq (.mutate (.sub (.sub (.loc 12) 1) 0) []) .skip
def ExpectedModelOutputChange_query_b43 : Prog :=
  .ite ExpectedModelOutputChange_query_b42 .skip ExpectedModelOutputChange_query_b41
def ExpectedModelOutputChange_query_b44 : Prog :=
  .ite ExpectedModelOutputChange_query_b43 .skip (.seq (.bind 7 (.fresh [])) (.seq (.bind 11 (.alias (.loc 7))) ExpectedModelOutputChange_query_b38))
def ExpectedModelOutputChange_query_b45 : Prog :=
  .seq (.bind 12 (.fresh [])) ExpectedModelOutputChange_query_b44
def ExpectedModelOutputChange_query_b46 : Prog :=
  .seq (.bind 16 (.fresh [(.loc 5), (.loc 17)])) .skip
def ExpectedModelOutputChange_query_b47 : Prog :=
  .seq (.mutate (.loc 16) []) .skip
def ExpectedModelOutputChange_query_b48 : Prog :=
  .ite ExpectedModelOutputChange_query_b47 .skip .skip
def ExpectedModelOutputChange_query_b49 : Prog :=
  .seq (.mutate (.loc 16) []) ExpectedModelOutputChange_query_b48
def ExpectedModelOutputChange_query_b50 : Prog :=
  .ite ExpectedModelOutputChange_query_b49 .skip .skip
def ExpectedModelOutputChange_query_b51 : Prog :=
  .ite ExpectedModelOutputChange_query_b50 .skip .skip
def ExpectedModelOutputChange_query_b52 : Prog :=
  .seq (.mutate (.loc 16) []) .skip
def ExpectedModelOutputChange_query_b53 : Prog :=
  .ite ExpectedModelOutputChange_query_b52 .skip .skip
def ExpectedModelOutputChange_query_b54 : Prog :=
  .seq (.mutate (.loc 16) []) ExpectedModelOutputChange_query_b53
def ExpectedModelOutputChange_query_b55 : Prog :=
  .ite ExpectedModelOutputChange_query_b54 .skip ExpectedModelOutputChange_query_b51
def ExpectedModelOutputChange_query_b56 : Prog :=
  .ite ExpectedModelOutputChange_query_b55 .skip .skip
def ExpectedModelOutputChange_query_b57 : Prog :=
  .seq (.bind 16 (.fresh [])) ExpectedModelOutputChange_query_b56
def ExpectedModelOutputChange_query_b58 : Prog :=
  .ite ExpectedModelOutputChange_query_b46 ExpectedModelOutputChange_query_b57 .skip
def ExpectedModelOutputChange_query_b59 : Prog :=
  .seq (.mutate (.sub (.sub (.loc 18) 1) 0) []) .skip
def ExpectedModelOutputChange_query_b60 : Prog :=
  .ite ExpectedModelOutputChange_query_b59 .skip .skip
def ExpectedModelOutputChange_query_b61 : Prog :=
  .ite ExpectedModelOutputChange_query_b60 .skip .skip
def ExpectedModelOutputChange_query_b62 : Prog :=
  .seq (.mutate (.sub (.sub (.loc 18) 1) 0) []) .skip
def ExpectedModelOutputChange_query_b63 : Prog :=
  .ite ExpectedModelOutputChange_query_b62 .skip ExpectedModelOutputChange_query_b61
def ExpectedModelOutputChange_query_b64 : Prog :=
  .ite ExpectedModelOutputChange_query_b63 .skip (.seq (.bind 17 (.fresh [])) (.seq (.bind 17 (.alias (.loc 17))) ExpectedModelOutputChange_query_b58))
def ExpectedModelOutputChange_query_b65 : Prog :=
  .seq (.bind 18 (.fresh [])) ExpectedModelOutputChange_query_b64
def ExpectedModelOutputChange_query_b66 : Prog :=
  .ite ExpectedModelOutputChange_query_b65 .skip (.seq (.bind 13 (.fresh [(.loc 14), (.loc 15)])) (.seq (.bind 3 (.alias (.sub (.loc 13) 0))) .skip))
def ExpectedModelOutputChange_query_b67 : Prog :=
  .seq (.bind 14 (.fresh [])) ExpectedModelOutputChange_query_b66
def ExpectedModelOutputChange_query_b68 : Prog :=
  .ite ExpectedModelOutputChange_query_b45 ExpectedModelOutputChange_query_b67 .skip
def ExpectedModelOutputChange_query_b69 : Prog :=
  .seq (.bind 20 (.fresh [(.loc 5), (.loc 21)])) .skip
def ExpectedModelOutputChange_query_b70 : Prog :=
  .seq (.mutate (.loc 20) []) .skip
def ExpectedModelOutputChange_query_b71 : Prog :=
  .ite ExpectedModelOutputChange_query_b70 .skip .skip
def ExpectedModelOutputChange_query_b72 : Prog :=
  .seq (.mutate (.loc 20) []) ExpectedModelOutputChange_query_b71
def ExpectedModelOutputChange_query_b73 : Prog :=
  .ite ExpectedModelOutputChange_query_b72 .skip .skip
def ExpectedModelOutputChange_query_b74 : Prog :=
  .ite ExpectedModelOutputChange_query_b73 .skip .skip
def ExpectedModelOutputChange_query_b75 : Prog :=
  .seq (.mutate (.loc 20) []) .skip
def ExpectedModelOutputChange_query_b76 : Prog :=
  .ite ExpectedModelOutputChange_query_b75 .skip .skip
def ExpectedModelOutputChange_query_b77 : Prog :=
  .seq (.mutate (.loc 20) []) ExpectedModelOutputChange_query_b76
def ExpectedModelOutputChange_query_b78 : Prog :=
  .ite ExpectedModelOutputChange_query_b77 .skip ExpectedModelOutputChange_query_b74
def ExpectedModelOutputChange_query_b79 : Prog :=
  .ite ExpectedModelOutputChange_query_b78 .skip .skip
def ExpectedModelOutputChange_query_b80 : Prog :=
  .seq (.bind 20 (.fresh [])) ExpectedModelOutputChange_query_b79
def ExpectedModelOutputChange_query_b81 : Prog :=
  .ite ExpectedModelOutputChange_query_b69 ExpectedModelOutputChange_query_b80 (.seq (.bind 19 (.alias (.loc 20))) (.seq (.bind 8 (.alias (.loc 19))) (.seq (.bind 3 (.fresh [])) .skip)))
def ExpectedModelOutputChange_query_b82 : Prog :=
  .seq (.bind 7 (.fresh [])) (.seq (.bind 21 (.alias (.loc 7))) ExpectedModelOutputChange_query_b81)
def ExpectedModelOutputChange_query_b83 : Prog :=
  .seq (.mutate (.loc 3) []) .skip
def ExpectedModelOutputChange_query_b84 : Prog :=
  .ite ExpectedModelOutputChange_query_b83 .skip .skip
def ExpectedModelOutputChange_query_b85 : Prog :=
  .seq (.mutate (.loc 3) []) ExpectedModelOutputChange_query_b84
def ExpectedModelOutputChange_query_b86 : Prog :=
  .ite ExpectedModelOutputChange_query_b85 .skip .skip
def ExpectedModelOutputChange_query_b87 : Prog :=
  .ite ExpectedModelOutputChange_query_b82 ExpectedModelOutputChange_query_b86 .skip
def ExpectedModelOutputChange_query_b88 : Prog :=
  .ite ExpectedModelOutputChange_query_b68 ExpectedModelOutputChange_query_b87 .skip
def ExpectedModelOutputChange_query_b89 : Prog :=
  .ite ExpectedModelOutputChange_query_b18 ExpectedModelOutputChange_query_b88 (.seq (.bind 2 (.alias (.loc 3))) (.seq (.bind 1 (.alias (.loc 2))) ExpectedModelOutputChange_query_b2))
def ExpectedModelOutputChange_query_b90 : Prog :=
  .seq (.bind 22 (.fresh [(.loc 5), (.loc 23)])) .skip
def ExpectedModelOutputChange_query_b91 : Prog :=
  .seq (.mutate (.loc 22) []) .skip
def ExpectedModelOutputChange_query_b92 : Prog :=
  .ite ExpectedModelOutputChange_query_b91 .skip .skip
def ExpectedModelOutputChange_query_b93 : Prog :=
  .seq (.mutate (.loc 22) []) ExpectedModelOutputChange_query_b92
def ExpectedModelOutputChange_query_b94 : Prog :=
  .ite ExpectedModelOutputChange_query_b93 .skip .skip
def ExpectedModelOutputChange_query_b95 : Prog :=
  .ite ExpectedModelOutputChange_query_b94 .skip .skip
def ExpectedModelOutputChange_query_b96 : Prog :=
  .seq (.mutate (.loc 22) []) .skip
def ExpectedModelOutputChange_query_b97 : Prog :=
  .ite ExpectedModelOutputChange_query_b96 .skip .skip
def ExpectedModelOutputChange_query_b98 : Prog :=
  .seq (.mutate (.loc 22) []) ExpectedModelOutputChange_query_b97
def ExpectedModelOutputChange_query_b99 : Prog :=
  .ite ExpectedModelOutputChange_query_b98 .skip ExpectedModelOutputChange_query_b95
def ExpectedModelOutputChange_query_b100 : Prog :=
  .ite ExpectedModelOutputChange_query_b99 .skip .skip
def ExpectedModelOutputChange_query_b101 : Prog :=
  .seq (.bind 22 (.fresh [])) ExpectedModelOutputChange_query_b100
def ExpectedModelOutputChange_query_b102 : Prog :=
  .ite ExpectedModelOutputChange_query_b90 ExpectedModelOutputChange_query_b101 .skip
def ExpectedModelOutputChange_query_b103 : Prog :=
  .seq (.bind 23 (.fresh [(.loc 24)])) ExpectedModelOutputChange_query_b102
def ExpectedModelOutputChange_query_b104 : Prog :=
  .ite ExpectedModelOutputChange_query_b103 .skip (.seq (.bind 3 (.fresh [])) ExpectedModelOutputChange_query_b89)
def ExpectedModelOutputChange_query_b105 : Prog :=
  .seq (.bind 15 (.fresh [])) .skip
def ExpectedModelOutputChange_query_b106 : Prog :=
  .ite ExpectedModelOutputChange_query_b105 .skip ExpectedModelOutputChange_query_b104
def ExpectedModelOutputChange_query_b107 : Prog :=
  .seq (.bind 27 (.deep (.loc 28))) (.seq (.callFit (.loc 27)) .skip)
def ExpectedModelOutputChange_query_b108 : Prog :=
  .seq (.bind 29 (.deep (.loc 28))) (.seq (.callFit (.loc 29)) .skip)
def ExpectedModelOutputChange_query_b109 : Prog :=
  .ite ExpectedModelOutputChange_query_b107 ExpectedModelOutputChange_query_b108 .skip
def ExpectedModelOutputChange_query_b110 : Prog :=
  .seq (.bind 30 (.copy (.loc 32))) (.seq (.mutate (.loc 30) [(.loc 31)]) .skip)
def ExpectedModelOutputChange_query_b111 : Prog :=
  .ite ExpectedModelOutputChange_query_b110 .abort .skip
def ExpectedModelOutputChange_query_b112 : Prog :=
  .seq (.bind 31 (.fresh [(.loc 31)])) .skip
def ExpectedModelOutputChange_query_b113 : Prog :=
  .seq (.bind 31 (.fresh [])) (.seq (.bind 31 (.alias (.loc 31))) (.seq (.bind 31 (.alias (.loc 31))) .skip))
def ExpectedModelOutputChange_query_b114 : Prog :=
  .ite ExpectedModelOutputChange_query_b112 ExpectedModelOutputChange_query_b113 ExpectedModelOutputChange_query_b111
def ExpectedModelOutputChange_query_b115 : Prog :=
  .seq (.bind 32 (.alias (.loc 34))) (.seq (.bind 31 (.alias (.loc 33))) (.seq (.bind 32 (.alias (.loc 32))) ExpectedModelOutputChange_query_b114))
def ExpectedModelOutputChange_query_b116 : Prog :=
  .ite .skip .abort .skip
def ExpectedModelOutputChange_query_b117 : Prog :=
  .ite ExpectedModelOutputChange_query_b115 ExpectedModelOutputChange_query_b116 ExpectedModelOutputChange_query_b109
def ExpectedModelOutputChange_query_b118 : Prog :=
  .ite .abort ExpectedModelOutputChange_query_b117 .skip
def ExpectedModelOutputChange_query_b119 : Prog :=
  .seq (.bind 35 (.fresh [(.loc 24)])) (.seq (.bind 28 (.alias (.loc 37))) (.seq (.bind 34 (.alias (.loc 36))) (.seq (.bind 33 (.alias (.loc 35))) ExpectedModelOutputChange_query_b118)))
def ExpectedModelOutputChange_query_b120 : Prog :=
  .ite ExpectedModelOutputChange_query_b119 .skip (.seq (.readAttr 4) (.seq (.bind 5 (.alias (.loc 26))) (.seq (.bind 15 (.fresh [(.sub (.loc 25) 0)])) (.seq (.bind 5 (.alias (.loc 5))) ExpectedModelOutputChange_query_b106))))
def ExpectedModelOutputChange_query_b121 : Prog :=
  .seq (.bind 38 (.deep (.loc 37))) (.seq (.callFit (.loc 38)) (.seq (.bind 37 (.alias (.loc 38))) .skip))
def ExpectedModelOutputChange_query_b122 : Prog :=
  .seq (.bind 39 (.deep (.loc 37))) (.seq (.callFit (.loc 39)) (.seq (.bind 37 (.alias (.loc 39))) .skip))
def ExpectedModelOutputChange_query_b123 : Prog :=
  .ite ExpectedModelOutputChange_query_b121 ExpectedModelOutputChange_query_b122 .skip
def ExpectedModelOutputChange_query_b124 : Prog :=
  .ite ExpectedModelOutputChange_query_b123 .skip ExpectedModelOutputChange_query_b120
def ExpectedModelOutputChange_query_b125 : Prog :=
  .seq (.readAttr 5) (.seq (.bind 40 (.alias (.sub (.loc 41) 0))) .skip)
def ExpectedModelOutputChange_query_b126 : Prog :=
  .seq (.bind 40 (.alias (.sub (.loc 41) 0))) .skip
def ExpectedModelOutputChange_query_b127 : Prog :=
  .seq (.bind 40 (.alias (.loc 42))) .skip
def ExpectedModelOutputChange_query_b128 : Prog :=
  .ite ExpectedModelOutputChange_query_b126 ExpectedModelOutputChange_query_b127 .skip
def ExpectedModelOutputChange_query_b129 : Prog :=
  .ite ExpectedModelOutputChange_query_b125 ExpectedModelOutputChange_query_b128 (.seq (.bind 26 (.alias (.loc 40))) ExpectedModelOutputChange_query_b124)
def ExpectedModelOutputChange_query_b130 : Prog :=
  .ite .abort .skip .skip
def ExpectedModelOutputChange_query_b131 : Prog :=
  .seq (.readAttr 5) ExpectedModelOutputChange_query_b130
def ExpectedModelOutputChange_query_b132 : Prog :=
  .seq (.readAttr 6) .skip
def ExpectedModelOutputChange_query_b133 : Prog :=
  .ite ExpectedModelOutputChange_query_b131 ExpectedModelOutputChange_query_b132 (.seq (.bind 42 (.alias (.loc 44))) (.seq (.bind 41 (.alias (.loc 43))) ExpectedModelOutputChange_query_b129))
def ExpectedModelOutputChange_query_b134 : Prog :=
  .seq (.bind 25 (.fresh [])) .skip
def ExpectedModelOutputChange_query_b135 : Prog :=
  .ite ExpectedModelOutputChange_query_b134 .skip ExpectedModelOutputChange_query_b133
def ExpectedModelOutputChange_query_b136 : Prog :=
  .seq (.readAttr 5) .skip
def ExpectedModelOutputChange_query_b137 : Prog :=
  .ite ExpectedModelOutputChange_query_b136 .skip (.seq (.bind 47 (.alias (.loc 50))) (.seq (.bind 46 (.alias (.loc 49))) (.seq (.bind 45 (.alias (.loc 48))) (.seq (.bind 43 (.alias (.loc 47))) (.seq (.bind 36 (.alias (.loc 46))) (.seq (.bind 44 (.alias (.loc 45))) (.seq (.bind 25 (.alias (.attr 0))) ExpectedModelOutputChange_query_b135)))))))
def ExpectedModelOutputChange_query_b138 : Prog :=
  .seq (.bind 57 (.alias (.loc 58))) .skip
def ExpectedModelOutputChange_query_b139 : Prog :=
  .seq (.bind 58 (.deep (.loc 58))) (.seq (.bind 58 (.alias (.loc 58))) (.seq (.bind 59 (.fresh [])) (.seq (.bind 57 (.fresh [(.loc 59)])) .skip)))
def ExpectedModelOutputChange_query_b140 : Prog :=
  .ite ExpectedModelOutputChange_query_b138 ExpectedModelOutputChange_query_b139 (.seq (.writeAttr 4 (.alias (.loc 57))) (.seq (.bind 53 (.alias (.loc 56))) (.seq (.bind 52 (.alias (.loc 55))) (.seq (.bind 51 (.alias (.loc 54))) (.seq (.bind 50 (.alias (.loc 53))) (.seq (.bind 49 (.alias (.loc 52))) (.seq (.bind 48 (.alias (.loc 51))) (.seq (.bind 49 (.alias (.loc 49))) ExpectedModelOutputChange_query_b137))))))))
def ExpectedModelOutputChange_query_b141 : Prog :=
  .seq (.bind 54 (.fresh [])) .skip
def ExpectedModelOutputChange_query_b142 : Prog :=
  .seq (.bind 60 (.deep (.loc 61))) (.seq (.mutate (.loc 60) []) (.seq (.bind 54 (.alias (.loc 54))) (.seq (.readAttr 6) .skip)))
def ExpectedModelOutputChange_query_b143 : Prog :=
  .ite ExpectedModelOutputChange_query_b141 ExpectedModelOutputChange_query_b142 .skip
def ExpectedModelOutputChange_query_b144 : Prog :=
  .seq (.bind 54 (.copy (.loc 54))) ExpectedModelOutputChange_query_b143
def ExpectedModelOutputChange_query_b145 : Prog :=
  .ite ExpectedModelOutputChange_query_b144 .skip (.seq (.bind 58 (.alias (.attr 3))) ExpectedModelOutputChange_query_b140)
def ExpectedModelOutputChange_query_b146 : Prog :=
  .seq (.bind 56 (.alias (.loc 50))) (.seq (.bind 55 (.alias (.loc 49))) (.seq (.bind 54 (.alias (.loc 48))) (.seq (.bind 61 (.fresh [])) (.seq (.bind 61 (.fresh [])) (.seq (.bind 56 (.alias (.loc 56))) (.seq (.writeAttr 6 (.fresh [])) (.seq (.bind 55 (.alias (.loc 55))) (.seq (.writeAttr 5 (.alias (.attr 2))) (.seq (.readAttr 5) ExpectedModelOutputChange_query_b145)))))))))
def ExpectedModelOutputChange_query_b147 : Prog :=
  .seq (.bind 34 (.fresh [])) (.seq (.bind 49 (.fresh [])) (.seq (.bind 55 (.fresh [])) (.seq (.bind 30 (.fresh [])) (.seq (.bind 35 (.fresh [])) (.seq (.bind 31 (.fresh [])) (.seq (.bind 33 (.fresh [])) (.seq (.bind 50 (.alias (.loc 43))) (.seq (.bind 49 (.alias (.loc 36))) (.seq (.bind 48 (.alias (.loc 44))) ExpectedModelOutputChange_query_b146)))))))))
def ExpectedModelOutputChange_query_b148 : Prog :=
  .seq (.bind 17 (.fresh [])) (.seq (.bind 25 (.fresh [])) (.seq (.bind 15 (.fresh [])) (.seq (.bind 8 (.fresh [])) (.seq (.bind 7 (.fresh [])) (.seq (.bind 58 (.fresh [])) (.seq (.bind 28 (.fresh [])) (.seq (.bind 59 (.fresh [])) (.seq (.bind 0 (.fresh [])) (.seq (.bind 32 (.fresh [])) ExpectedModelOutputChange_query_b147)))))))))
def ExpectedModelOutputChange_query_b149 : Prog :=
  .seq (.bind 14 (.fresh [])) (.seq (.bind 22 (.fresh [])) (.seq (.bind 4 (.fresh [])) (.seq (.bind 10 (.fresh [])) (.seq (.bind 16 (.fresh [])) (.seq (.bind 20 (.fresh [])) (.seq (.bind 23 (.fresh [])) (.seq (.bind 6 (.fresh [])) (.seq (.bind 11 (.fresh [])) (.seq (.bind 21 (.fresh [])) ExpectedModelOutputChange_query_b148)))))))))
def ExpectedModelOutputChange_query_b150 : Prog :=
  .seq (.bind 26 (.fresh [])) (.seq (.bind 42 (.fresh [])) (.seq (.bind 48 (.fresh [])) (.seq (.bind 54 (.fresh [])) (.seq (.bind 1 (.fresh [])) (.seq (.bind 61 (.fresh [])) (.seq (.bind 60 (.fresh [])) (.seq (.bind 12 (.fresh [])) (.seq (.bind 18 (.fresh [])) (.seq (.bind 3 (.fresh [])) ExpectedModelOutputChange_query_b149)))))))))
def ExpectedModelOutputChange_query_b151 : Prog :=
  .seq (.bind 52 (.fresh [])) (.seq (.bind 38 (.fresh [])) (.seq (.bind 39 (.fresh [])) (.seq (.bind 27 (.fresh [])) (.seq (.bind 29 (.fresh [])) (.seq (.bind 13 (.fresh [])) (.seq (.bind 5 (.fresh [])) (.seq (.bind 41 (.fresh [])) (.seq (.bind 50 (.fresh [])) (.seq (.bind 56 (.fresh [])) ExpectedModelOutputChange_query_b150)))))))))
def ExpectedModelOutputChange_query_b152 : Prog :=
  .seq (.bind 51 (.fresh [])) (.seq (.bind 57 (.fresh [])) (.seq (.bind 40 (.fresh [])) (.seq (.bind 47 (.fresh [])) (.seq (.bind 2 (.fresh [])) (.seq (.bind 46 (.fresh [])) (.seq (.bind 9 (.fresh [])) (.seq (.bind 45 (.fresh [])) (.seq (.bind 19 (.fresh [])) (.seq (.bind 53 (.fresh [])) ExpectedModelOutputChange_query_b151)))))))))
def summary_ExpectedModelOutputChange_query : Summary :=
  { params := [0, 1, 2, 3], closedAttrs := [6], safeAttrs := [], body := ExpectedModelOutputChange_query_b152 }
theorem effects_ExpectedModelOutputChange_query : FrameOK summary_ExpectedModelOutputChange_query = true := by decide +kernel
theorem query_ExpectedModelOutputChange_historyFree : HistoryFree summary_ExpectedModelOutputChange_query = true := by decide +kernel

/-! ### ExpectedModelVarianceReduction  (skactiveml/pool/_expected_model_variance.py)
attributes: 0=integration_dict 1=missing_label 2=random_state 3=random_state_ 4=missing_label_ 5=n_features_in_
keys: 0=* 1=kwds -/
-- ExpectedModelVarianceReduction.query: locals 0=utilities 1=utilities_cand 2=expectation@_conditional_expect9 3=inner_output@evaluate_func12 4=X@_conditional_expect9 5=inner_potential_y@evaluate_func12 6=potential_y@_conditional_expect9 7=output@_conditional_expect9 8=$ret38 9=inner_output@evaluate_func14 10=inner_potential_y@evaluate_func14 11=dist@_reshape_scipy_dist13 12=$t46 13=fixed_quad_function_wrapper@_conditional_expect9 14=n_integration_samples@_conditional_expect9 15=inner_output@evaluate_func17 16=inner_potential_y@fixed_quad_function_wrapper15 17=dist@_reshape_scipy_dist16 18=$ret48 19=inner_output@evaluate_func18 20=inner_potential_y@evaluate_func18 21=inner_output@evaluate_func11 22=inner_potential_y@evaluate_func11 23=$any 24=integration_dict 25=X_cand 26=$t27 27=reg@_update_reg6 28=$t28 29=y_new@_update_X_y7 30=y_update@_update_X_y7 31=y@_update_X_y7 32=y_update@_update_reg6 33=y@_update_reg6 34=y_pot@new_model_variance5 35=y 36=reg 37=$t17 38=$t18 39=$ret15 40=X@_transform_candidates4 41=candidates@_transform_candidates4 42=X 43=candidates 44=$ret4 45=$ret3 46=$ret2 47=candidates@_validate_data1 48=y@_validate_data1 49=X@_validate_data1 50=$ret10 51=$ret9 52=$ret8 53=candidates@_validate_data2 54=y@_validate_data2 55=X@_validate_data2 56=$ret13 57=random_state@check_random_state3 58=seed@check_random_state3 59=check_candidates_dict@_validate_data2 60=check_X_dict@_validate_data2
def ExpectedModelVarianceReduction_query_b0 : Prog :=
  .seq (.bind 0 (.alias (.loc 1))) .skip
def ExpectedModelVarianceReduction_query_b1 : Prog :=
  .seq (.bind 0 (.fresh [])) (.seq (.mutate (.loc 0) []) .skip)
def ExpectedModelVarianceReduction_query_b2 : Prog :=
  .ite ExpectedModelVarianceReduction_query_b0 ExpectedModelVarianceReduction_query_b1 (.seq (.readAttr 3) .skip)
def ExpectedModelVarianceReduction_query_b3 : Prog :=
  .seq (.bind 3 (.fresh [(.loc 4), (.loc 5)])) .skip
def ExpectedModelVarianceReduction_query_b4 : Prog :=
  .seq (.mutate (.loc 3) []) .skip
def ExpectedModelVarianceReduction_query_b5 : Prog :=
  .ite ExpectedModelVarianceReduction_query_b4 .skip .skip
def ExpectedModelVarianceReduction_query_b6 : Prog :=
  .seq (.mutate (.loc 3) []) ExpectedModelVarianceReduction_query_b5
def ExpectedModelVarianceReduction_query_b7 : Prog :=
  .ite ExpectedModelVarianceReduction_query_b6 .skip .skip
def ExpectedModelVarianceReduction_query_b8 : Prog :=
  .ite ExpectedModelVarianceReduction_query_b7 .skip .skip
def ExpectedModelVarianceReduction_query_b9 : Prog :=
  .seq (.mutate (.loc 3) []) .skip
def ExpectedModelVarianceReduction_query_b10 : Prog :=
  .ite ExpectedModelVarianceReduction_query_b9 .skip .skip
def ExpectedModelVarianceReduction_query_b11 : Prog :=
  .seq (.mutate (.loc 3) []) ExpectedModelVarianceReduction_query_b10
def ExpectedModelVarianceReduction_query_b12 : Prog :=
  .ite ExpectedModelVarianceReduction_query_b11 .skip ExpectedModelVarianceReduction_query_b8
def ExpectedModelVarianceReduction_query_b13 : Prog :=
  .ite ExpectedModelVarianceReduction_query_b12 .skip .skip
def ExpectedModelVarianceReduction_query_b14 : Prog :=
  .seq (.bind 3 (.fresh [])) ExpectedModelVarianceReduction_query_b13
def ExpectedModelVarianceReduction_query_b15 : Prog :=
  .ite ExpectedModelVarianceReduction_query_b3 ExpectedModelVarianceReduction_query_b14 (.seq (.bind 2 (.fresh [])) .skip)
def ExpectedModelVarianceReduction_query_b16 : Prog :=
  .seq (.bind 6 (.fresh [])) .skip
def ExpectedModelVarianceReduction_query_b17 : Prog :=
  .seq (.bind 6 (.fresh [])) .skip
def ExpectedModelVarianceReduction_query_b18 : Prog :=
  .ite ExpectedModelVarianceReduction_query_b16 ExpectedModelVarianceReduction_query_b17 (.seq (.bind 5 (.alias (.loc 6))) ExpectedModelVarianceReduction_query_b15)
def ExpectedModelVarianceReduction_query_b19 : Prog :=
  .seq (.bind 2 (.fresh [(.loc 7)])) .skip
def ExpectedModelVarianceReduction_query_b20 : Prog :=
  .seq (.bind 2 (.fresh [(.loc 7)])) .skip
def ExpectedModelVarianceReduction_query_b21 : Prog :=
  .seq (.bind 2 (.fresh [])) .skip
def ExpectedModelVarianceReduction_query_b22 : Prog :=
  .seq (.bind 2 (.fresh [(.loc 7)])) .skip
def ExpectedModelVarianceReduction_query_b23 : Prog :=
  .ite ExpectedModelVarianceReduction_query_b21 ExpectedModelVarianceReduction_query_b22 .skip
def ExpectedModelVarianceReduction_query_b24 : Prog :=
  .ite ExpectedModelVarianceReduction_query_b20 ExpectedModelVarianceReduction_query_b23 .skip
def ExpectedModelVarianceReduction_query_b25 : Prog :=
  .ite ExpectedModelVarianceReduction_query_b19 ExpectedModelVarianceReduction_query_b24 .skip
def ExpectedModelVarianceReduction_query_b26 : Prog :=
  .seq (.bind 9 (.fresh [(.loc 4), (.loc 10)])) .skip
def ExpectedModelVarianceReduction_query_b27 : Prog :=
  .seq (.mutate (.loc 9) []) .skip
def ExpectedModelVarianceReduction_query_b28 : Prog :=
  .ite ExpectedModelVarianceReduction_query_b27 .skip .skip
def ExpectedModelVarianceReduction_query_b29 : Prog :=
  .seq (.mutate (.loc 9) []) ExpectedModelVarianceReduction_query_b28
def ExpectedModelVarianceReduction_query_b30 : Prog :=
  .ite ExpectedModelVarianceReduction_query_b29 .skip .skip
def ExpectedModelVarianceReduction_query_b31 : Prog :=
  .ite ExpectedModelVarianceReduction_query_b30 .skip .skip
def ExpectedModelVarianceReduction_query_b32 : Prog :=
  .seq (.mutate (.loc 9) []) .skip
def ExpectedModelVarianceReduction_query_b33 : Prog :=
  .ite ExpectedModelVarianceReduction_query_b32 .skip .skip
def ExpectedModelVarianceReduction_query_b34 : Prog :=
  .seq (.mutate (.loc 9) []) ExpectedModelVarianceReduction_query_b33
def ExpectedModelVarianceReduction_query_b35 : Prog :=
  .ite ExpectedModelVarianceReduction_query_b34 .skip ExpectedModelVarianceReduction_query_b31
def ExpectedModelVarianceReduction_query_b36 : Prog :=
  .ite ExpectedModelVarianceReduction_query_b35 .skip .skip
def ExpectedModelVarianceReduction_query_b37 : Prog :=
  .seq (.bind 9 (.fresh [])) ExpectedModelVarianceReduction_query_b36
def ExpectedModelVarianceReduction_query_b38 : Prog :=
  .ite ExpectedModelVarianceReduction_query_b26 ExpectedModelVarianceReduction_query_b37 (.seq (.bind 8 (.alias (.loc 9))) (.seq (.bind 7 (.alias (.loc 8))) ExpectedModelVarianceReduction_query_b25))
def ExpectedModelVarianceReduction_query_b39 : Prog :=
  .seq (.mutate (.sub (.sub (.loc 11) 1) 0) []) .skip
def ExpectedModelVarianceReduction_query_b40 : Prog :=
  .ite ExpectedModelVarianceReduction_query_b39 .skip .skip
def ExpectedModelVarianceReduction_query_b41 : Prog :=
  .ite ExpectedModelVarianceReduction_query_b40 .skip .skip
def ExpectedModelVarianceReduction_query_b42 : Prog :=
  .seq (.mutate (.sub (.sub (.loc 11) 1) 0) []) .skip
def ExpectedModelVarianceReduction_query_b43 : Prog :=
  .ite ExpectedModelVarianceReduction_query_b42 .skip ExpectedModelVarianceReduction_query_b41
def ExpectedModelVarianceReduction_query_b44 : Prog :=
  .ite ExpectedModelVarianceReduction_query_b43 .skip (.seq (.bind 6 (.fresh [])) (.seq (.bind 10 (.alias (.loc 6))) ExpectedModelVarianceReduction_query_b38))
def ExpectedModelVarianceReduction_query_b45 : Prog :=
  .seq (.bind 11 (.fresh [])) ExpectedModelVarianceReduction_query_b44
def ExpectedModelVarianceReduction_query_b46 : Prog :=
  .seq (.bind 15 (.fresh [(.loc 4), (.loc 16)])) .skip
def ExpectedModelVarianceReduction_query_b47 : Prog :=
  .seq (.mutate (.loc 15) []) .skip
def ExpectedModelVarianceReduction_query_b48 : Prog :=
  .ite ExpectedModelVarianceReduction_query_b47 .skip .skip
def ExpectedModelVarianceReduction_query_b49 : Prog :=
  .seq (.mutate (.loc 15) []) ExpectedModelVarianceReduction_query_b48
def ExpectedModelVarianceReduction_query_b50 : Prog :=
  .ite ExpectedModelVarianceReduction_query_b49 .skip .skip
def ExpectedModelVarianceReduction_query_b51 : Prog :=
  .ite ExpectedModelVarianceReduction_query_b50 .skip .skip
def ExpectedModelVarianceReduction_query_b52 : Prog :=
  .seq (.mutate (.loc 15) []) .skip
def ExpectedModelVarianceReduction_query_b53 : Prog :=
  .ite ExpectedModelVarianceReduction_query_b52 .skip .skip
def ExpectedModelVarianceReduction_query_b54 : Prog :=
  .seq (.mutate (.loc 15) []) ExpectedModelVarianceReduction_query_b53
def ExpectedModelVarianceReduction_query_b55 : Prog :=
  .ite ExpectedModelVarianceReduction_query_b54 .skip ExpectedModelVarianceReduction_query_b51
def ExpectedModelVarianceReduction_query_b56 : Prog :=
  .ite ExpectedModelVarianceReduction_query_b55 .skip .skip
def ExpectedModelVarianceReduction_query_b57 : Prog :=
  .seq (.bind 15 (.fresh [])) ExpectedModelVarianceReduction_query_b56
def ExpectedModelVarianceReduction_query_b58 : Prog :=
  .ite ExpectedModelVarianceReduction_query_b46 ExpectedModelVarianceReduction_query_b57 .skip
def ExpectedModelVarianceReduction_query_b59 : Prog :=
  .seq (.mutate (.sub (.sub (.loc 17) 1) 0) []) .skip
def ExpectedModelVarianceReduction_query_b60 : Prog :=
  .ite ExpectedModelVarianceReduction_query_b59 .skip .skip
def ExpectedModelVarianceReduction_query_b61 : Prog :=
  .ite ExpectedModelVarianceReduction_query_b60 .skip .skip
def ExpectedModelVarianceReduction_query_b62 : Prog :=
  .seq (.mutate (.sub (.sub (.loc 17) 1) 0) []) .skip
def ExpectedModelVarianceReduction_query_b63 : Prog :=
  .ite ExpectedModelVarianceReduction_query_b62 .skip ExpectedModelVarianceReduction_query_b61
def ExpectedModelVarianceReduction_query_b64 : Prog :=
  .ite ExpectedModelVarianceReduction_query_b63 .skip (.seq (.bind 16 (.fresh [])) (.seq (.bind 16 (.alias (.loc 16))) ExpectedModelVarianceReduction_query_b58))
def ExpectedModelVarianceReduction_query_b65 : Prog :=
  .seq (.bind 17 (.fresh [])) ExpectedModelVarianceReduction_query_b64
def ExpectedModelVarianceReduction_query_b66 : Prog :=
  .ite ExpectedModelVarianceReduction_query_b65 .skip (.seq (.bind 12 (.fresh [(.loc 13), (.loc 14)])) (.seq (.bind 2 (.alias (.sub (.loc 12) 0))) .skip))
def ExpectedModelVarianceReduction_query_b67 : Prog :=
  .seq (.bind 13 (.fresh [])) ExpectedModelVarianceReduction_query_b66
def ExpectedModelVarianceReduction_query_b68 : Prog :=
  .ite ExpectedModelVarianceReduction_query_b45 ExpectedModelVarianceReduction_query_b67 .skip
def ExpectedModelVarianceReduction_query_b69 : Prog :=
  .seq (.bind 19 (.fresh [(.loc 4), (.loc 20)])) .skip
def ExpectedModelVarianceReduction_query_b70 : Prog :=
  .seq (.mutate (.loc 19) []) .skip
def ExpectedModelVarianceReduction_query_b71 : Prog :=
  .ite ExpectedModelVarianceReduction_query_b70 .skip .skip
def ExpectedModelVarianceReduction_query_b72 : Prog :=
  .seq (.mutate (.loc 19) []) ExpectedModelVarianceReduction_query_b71
def ExpectedModelVarianceReduction_query_b73 : Prog :=
  .ite ExpectedModelVarianceReduction_query_b72 .skip .skip
def ExpectedModelVarianceReduction_query_b74 : Prog :=
  .ite ExpectedModelVarianceReduction_query_b73 .skip .skip
def ExpectedModelVarianceReduction_query_b75 : Prog :=
  .seq (.mutate (.loc 19) []) .skip
def ExpectedModelVarianceReduction_query_b76 : Prog :=
  .ite ExpectedModelVarianceReduction_query_b75 .skip .skip
def ExpectedModelVarianceReduction_query_b77 : Prog :=
  .seq (.mutate (.loc 19) []) ExpectedModelVarianceReduction_query_b76
def ExpectedModelVarianceReduction_query_b78 : Prog :=
  .ite ExpectedModelVarianceReduction_query_b77 .skip ExpectedModelVarianceReduction_query_b74
def ExpectedModelVarianceReduction_query_b79 : Prog :=
  .ite ExpectedModelVarianceReduction_query_b78 .skip .skip
def ExpectedModelVarianceReduction_query_b80 : Prog :=
  .seq (.bind 19 (.fresh [])) ExpectedModelVarianceReduction_query_b79
def ExpectedModelVarianceReduction_query_b81 : Prog :=
  .ite ExpectedModelVarianceReduction_query_b69 ExpectedModelVarianceReduction_query_b80 (.seq (.bind 18 (.alias (.loc 19))) (.seq (.bind 7 (.alias (.loc 18))) (.seq (.bind 2 (.fresh [])) .skip)))
def ExpectedModelVarianceReduction_query_b82 : Prog :=
  .seq (.bind 6 (.fresh [])) (.seq (.bind 20 (.alias (.loc 6))) ExpectedModelVarianceReduction_query_b81)
def ExpectedModelVarianceReduction_query_b83 : Prog :=
  .seq (.mutate (.loc 2) []) .skip
def ExpectedModelVarianceReduction_query_b84 : Prog :=
  .ite ExpectedModelVarianceReduction_query_b83 .skip .skip
def ExpectedModelVarianceReduction_query_b85 : Prog :=
  .seq (.mutate (.loc 2) []) ExpectedModelVarianceReduction_query_b84
def ExpectedModelVarianceReduction_query_b86 : Prog :=
  .ite ExpectedModelVarianceReduction_query_b85 .skip .skip
def ExpectedModelVarianceReduction_query_b87 : Prog :=
  .ite ExpectedModelVarianceReduction_query_b82 ExpectedModelVarianceReduction_query_b86 .skip
def ExpectedModelVarianceReduction_query_b88 : Prog :=
  .ite ExpectedModelVarianceReduction_query_b68 ExpectedModelVarianceReduction_query_b87 .skip
def ExpectedModelVarianceReduction_query_b89 : Prog :=
  .ite ExpectedModelVarianceReduction_query_b18 ExpectedModelVarianceReduction_query_b88 (.seq (.bind 1 (.fresh [])) ExpectedModelVarianceReduction_query_b2)
def ExpectedModelVarianceReduction_query_b90 : Prog :=
  .seq (.bind 21 (.fresh [(.loc 4), (.loc 22)])) .skip
def ExpectedModelVarianceReduction_query_b91 : Prog :=
  .seq (.mutate (.loc 21) []) .skip
def ExpectedModelVarianceReduction_query_b92 : Prog :=
  .ite ExpectedModelVarianceReduction_query_b91 .skip .skip
def ExpectedModelVarianceReduction_query_b93 : Prog :=
  .seq (.mutate (.loc 21) []) ExpectedModelVarianceReduction_query_b92
def ExpectedModelVarianceReduction_query_b94 : Prog :=
  .ite ExpectedModelVarianceReduction_query_b93 .skip .skip
def ExpectedModelVarianceReduction_query_b95 : Prog :=
  .ite ExpectedModelVarianceReduction_query_b94 .skip .skip
def ExpectedModelVarianceReduction_query_b96 : Prog :=
  .seq (.mutate (.loc 21) []) .skip
def ExpectedModelVarianceReduction_query_b97 : Prog :=
  .ite ExpectedModelVarianceReduction_query_b96 .skip .skip
def ExpectedModelVarianceReduction_query_b98 : Prog :=
  .seq (.mutate (.loc 21) []) ExpectedModelVarianceReduction_query_b97
def ExpectedModelVarianceReduction_query_b99 : Prog :=
  .ite ExpectedModelVarianceReduction_query_b98 .skip ExpectedModelVarianceReduction_query_b95
def ExpectedModelVarianceReduction_query_b100 : Prog :=
  .ite ExpectedModelVarianceReduction_query_b99 .skip .skip
def ExpectedModelVarianceReduction_query_b101 : Prog :=
  .seq (.bind 21 (.fresh [])) ExpectedModelVarianceReduction_query_b100
def ExpectedModelVarianceReduction_query_b102 : Prog :=
  .ite ExpectedModelVarianceReduction_query_b90 ExpectedModelVarianceReduction_query_b101 .skip
def ExpectedModelVarianceReduction_query_b103 : Prog :=
  .seq (.bind 22 (.fresh [(.loc 23)])) ExpectedModelVarianceReduction_query_b102
def ExpectedModelVarianceReduction_query_b104 : Prog :=
  .ite ExpectedModelVarianceReduction_query_b103 .skip (.seq (.bind 2 (.fresh [])) ExpectedModelVarianceReduction_query_b89)
def ExpectedModelVarianceReduction_query_b105 : Prog :=
  .seq (.bind 14 (.fresh [])) .skip
def ExpectedModelVarianceReduction_query_b106 : Prog :=
  .ite ExpectedModelVarianceReduction_query_b105 .skip ExpectedModelVarianceReduction_query_b104
def ExpectedModelVarianceReduction_query_b107 : Prog :=
  .seq (.bind 26 (.deep (.loc 27))) (.seq (.callFit (.loc 26)) .skip)
def ExpectedModelVarianceReduction_query_b108 : Prog :=
  .seq (.bind 28 (.deep (.loc 27))) (.seq (.callFit (.loc 28)) .skip)
def ExpectedModelVarianceReduction_query_b109 : Prog :=
  .ite ExpectedModelVarianceReduction_query_b107 ExpectedModelVarianceReduction_query_b108 .skip
def ExpectedModelVarianceReduction_query_b110 : Prog :=
  .seq (.bind 29 (.copy (.loc 31))) (.seq (.mutate (.loc 29) [(.loc 30)]) .skip)
def ExpectedModelVarianceReduction_query_b111 : Prog :=
  .ite ExpectedModelVarianceReduction_query_b110 .abort .skip
def ExpectedModelVarianceReduction_query_b112 : Prog :=
  .seq (.bind 30 (.fresh [(.loc 30)])) .skip
def ExpectedModelVarianceReduction_query_b113 : Prog :=
  .seq (.bind 30 (.fresh [])) (.seq (.bind 30 (.alias (.loc 30))) (.seq (.bind 30 (.alias (.loc 30))) .skip))
def ExpectedModelVarianceReduction_query_b114 : Prog :=
  .ite ExpectedModelVarianceReduction_query_b112 ExpectedModelVarianceReduction_query_b113 ExpectedModelVarianceReduction_query_b111
def ExpectedModelVarianceReduction_query_b115 : Prog :=
  .seq (.bind 31 (.alias (.loc 33))) (.seq (.bind 30 (.alias (.loc 32))) (.seq (.bind 31 (.alias (.loc 31))) ExpectedModelVarianceReduction_query_b114))
def ExpectedModelVarianceReduction_query_b116 : Prog :=
  .ite .skip .abort .skip
def ExpectedModelVarianceReduction_query_b117 : Prog :=
  .ite ExpectedModelVarianceReduction_query_b115 ExpectedModelVarianceReduction_query_b116 ExpectedModelVarianceReduction_query_b109
def ExpectedModelVarianceReduction_query_b118 : Prog :=
  .ite .abort ExpectedModelVarianceReduction_query_b117 .skip
def ExpectedModelVarianceReduction_query_b119 : Prog :=
  .seq (.bind 34 (.fresh [(.loc 23)])) (.seq (.bind 27 (.alias (.loc 36))) (.seq (.bind 33 (.alias (.loc 35))) (.seq (.bind 32 (.alias (.loc 34))) ExpectedModelVarianceReduction_query_b118)))
def ExpectedModelVarianceReduction_query_b120 : Prog :=
  .ite ExpectedModelVarianceReduction_query_b119 .skip (.seq (.readAttr 3) (.seq (.bind 4 (.alias (.loc 25))) (.seq (.bind 14 (.fresh [(.sub (.loc 24) 0)])) (.seq (.bind 4 (.alias (.loc 4))) ExpectedModelVarianceReduction_query_b106))))
def ExpectedModelVarianceReduction_query_b121 : Prog :=
  .seq (.bind 37 (.deep (.loc 36))) (.seq (.callFit (.loc 37)) (.seq (.bind 36 (.alias (.loc 37))) .skip))
def ExpectedModelVarianceReduction_query_b122 : Prog :=
  .seq (.bind 38 (.deep (.loc 36))) (.seq (.callFit (.loc 38)) (.seq (.bind 36 (.alias (.loc 38))) .skip))
def ExpectedModelVarianceReduction_query_b123 : Prog :=
  .ite ExpectedModelVarianceReduction_query_b121 ExpectedModelVarianceReduction_query_b122 .skip
def ExpectedModelVarianceReduction_query_b124 : Prog :=
  .ite ExpectedModelVarianceReduction_query_b123 .skip ExpectedModelVarianceReduction_query_b120
def ExpectedModelVarianceReduction_query_b125 : Prog :=
  .seq (.readAttr 4) (.seq (.bind 39 (.alias (.sub (.loc 40) 0))) .skip)
def ExpectedModelVarianceReduction_query_b126 : Prog :=
  .seq (.bind 39 (.alias (.sub (.loc 40) 0))) .skip
def ExpectedModelVarianceReduction_query_b127 : Prog :=
  .seq (.bind 39 (.alias (.loc 41))) .skip
def ExpectedModelVarianceReduction_query_b128 : Prog :=
  .ite ExpectedModelVarianceReduction_query_b126 ExpectedModelVarianceReduction_query_b127 .skip
def ExpectedModelVarianceReduction_query_b129 : Prog :=
  .ite ExpectedModelVarianceReduction_query_b125 ExpectedModelVarianceReduction_query_b128 (.seq (.bind 25 (.alias (.loc 39))) ExpectedModelVarianceReduction_query_b124)
def ExpectedModelVarianceReduction_query_b130 : Prog :=
  .seq (.bind 24 (.fresh [])) .skip
def ExpectedModelVarianceReduction_query_b131 : Prog :=
  .ite ExpectedModelVarianceReduction_query_b130 .skip (.seq (.bind 41 (.alias (.loc 43))) (.seq (.bind 40 (.alias (.loc 42))) ExpectedModelVarianceReduction_query_b129))
def ExpectedModelVarianceReduction_query_b132 : Prog :=
  .seq (.readAttr 5) .skip
def ExpectedModelVarianceReduction_query_b133 : Prog :=
  .ite .skip ExpectedModelVarianceReduction_query_b132 (.seq (.bind 24 (.alias (.attr 0))) ExpectedModelVarianceReduction_query_b131)
def ExpectedModelVarianceReduction_query_b134 : Prog :=
  .seq (.readAttr 4) .skip
def ExpectedModelVarianceReduction_query_b135 : Prog :=
  .ite ExpectedModelVarianceReduction_query_b134 .skip (.seq (.bind 46 (.alias (.loc 49))) (.seq (.bind 45 (.alias (.loc 48))) (.seq (.bind 44 (.alias (.loc 47))) (.seq (.bind 42 (.alias (.loc 46))) (.seq (.bind 35 (.alias (.loc 45))) (.seq (.bind 43 (.alias (.loc 44))) ExpectedModelVarianceReduction_query_b133))))))
def ExpectedModelVarianceReduction_query_b136 : Prog :=
  .seq (.bind 56 (.alias (.loc 57))) .skip
def ExpectedModelVarianceReduction_query_b137 : Prog :=
  .seq (.bind 57 (.deep (.loc 57))) (.seq (.bind 57 (.alias (.loc 57))) (.seq (.bind 58 (.fresh [])) (.seq (.bind 56 (.fresh [(.loc 58)])) .skip)))
def ExpectedModelVarianceReduction_query_b138 : Prog :=
  .ite ExpectedModelVarianceReduction_query_b136 ExpectedModelVarianceReduction_query_b137 (.seq (.writeAttr 3 (.alias (.loc 56))) (.seq (.bind 52 (.alias (.loc 55))) (.seq (.bind 51 (.alias (.loc 54))) (.seq (.bind 50 (.alias (.loc 53))) (.seq (.bind 49 (.alias (.loc 52))) (.seq (.bind 48 (.alias (.loc 51))) (.seq (.bind 47 (.alias (.loc 50))) (.seq (.bind 48 (.alias (.loc 48))) ExpectedModelVarianceReduction_query_b135))))))))
def ExpectedModelVarianceReduction_query_b139 : Prog :=
  .seq (.bind 53 (.fresh [])) .skip
def ExpectedModelVarianceReduction_query_b140 : Prog :=
  .seq (.bind 59 (.deep (.loc 60))) (.seq (.mutate (.loc 59) []) (.seq (.bind 53 (.alias (.loc 53))) (.seq (.readAttr 5) .skip)))
def ExpectedModelVarianceReduction_query_b141 : Prog :=
  .ite ExpectedModelVarianceReduction_query_b139 ExpectedModelVarianceReduction_query_b140 .skip
def ExpectedModelVarianceReduction_query_b142 : Prog :=
  .seq (.bind 53 (.copy (.loc 53))) ExpectedModelVarianceReduction_query_b141
def ExpectedModelVarianceReduction_query_b143 : Prog :=
  .ite ExpectedModelVarianceReduction_query_b142 .skip (.seq (.bind 57 (.alias (.attr 2))) ExpectedModelVarianceReduction_query_b138)
def ExpectedModelVarianceReduction_query_b144 : Prog :=
  .seq (.bind 55 (.alias (.loc 49))) (.seq (.bind 54 (.alias (.loc 48))) (.seq (.bind 53 (.alias (.loc 47))) (.seq (.bind 60 (.fresh [])) (.seq (.bind 60 (.fresh [])) (.seq (.bind 55 (.alias (.loc 55))) (.seq (.writeAttr 5 (.fresh [])) (.seq (.bind 54 (.alias (.loc 54))) (.seq (.writeAttr 4 (.alias (.attr 1))) (.seq (.readAttr 4) ExpectedModelVarianceReduction_query_b143)))))))))
def ExpectedModelVarianceReduction_query_b145 : Prog :=
  .seq (.bind 33 (.fresh [])) (.seq (.bind 48 (.fresh [])) (.seq (.bind 54 (.fresh [])) (.seq (.bind 29 (.fresh [])) (.seq (.bind 34 (.fresh [])) (.seq (.bind 30 (.fresh [])) (.seq (.bind 32 (.fresh [])) (.seq (.bind 49 (.alias (.loc 42))) (.seq (.bind 48 (.alias (.loc 35))) (.seq (.bind 47 (.alias (.loc 43))) ExpectedModelVarianceReduction_query_b144)))))))))
def ExpectedModelVarianceReduction_query_b146 : Prog :=
  .seq (.bind 24 (.fresh [])) (.seq (.bind 14 (.fresh [])) (.seq (.bind 7 (.fresh [])) (.seq (.bind 6 (.fresh [])) (.seq (.bind 57 (.fresh [])) (.seq (.bind 27 (.fresh [])) (.seq (.bind 58 (.fresh [])) (.seq (.bind 0 (.fresh [])) (.seq (.bind 1 (.fresh [])) (.seq (.bind 31 (.fresh [])) ExpectedModelVarianceReduction_query_b145)))))))))
def ExpectedModelVarianceReduction_query_b147 : Prog :=
  .seq (.bind 21 (.fresh [])) (.seq (.bind 3 (.fresh [])) (.seq (.bind 9 (.fresh [])) (.seq (.bind 15 (.fresh [])) (.seq (.bind 19 (.fresh [])) (.seq (.bind 22 (.fresh [])) (.seq (.bind 5 (.fresh [])) (.seq (.bind 10 (.fresh [])) (.seq (.bind 20 (.fresh [])) (.seq (.bind 16 (.fresh [])) ExpectedModelVarianceReduction_query_b146)))))))))
def ExpectedModelVarianceReduction_query_b148 : Prog :=
  .seq (.bind 25 (.fresh [])) (.seq (.bind 41 (.fresh [])) (.seq (.bind 47 (.fresh [])) (.seq (.bind 53 (.fresh [])) (.seq (.bind 60 (.fresh [])) (.seq (.bind 59 (.fresh [])) (.seq (.bind 11 (.fresh [])) (.seq (.bind 17 (.fresh [])) (.seq (.bind 2 (.fresh [])) (.seq (.bind 13 (.fresh [])) ExpectedModelVarianceReduction_query_b147)))))))))
def ExpectedModelVarianceReduction_query_b149 : Prog :=
  .seq (.bind 51 (.fresh [])) (.seq (.bind 37 (.fresh [])) (.seq (.bind 38 (.fresh [])) (.seq (.bind 26 (.fresh [])) (.seq (.bind 28 (.fresh [])) (.seq (.bind 12 (.fresh [])) (.seq (.bind 4 (.fresh [])) (.seq (.bind 40 (.fresh [])) (.seq (.bind 49 (.fresh [])) (.seq (.bind 55 (.fresh [])) ExpectedModelVarianceReduction_query_b148)))))))))
def ExpectedModelVarianceReduction_query_b150 : Prog :=
  .seq (.bind 50 (.fresh [])) (.seq (.bind 56 (.fresh [])) (.seq (.bind 39 (.fresh [])) (.seq (.bind 46 (.fresh [])) (.seq (.bind 45 (.fresh [])) (.seq (.bind 8 (.fresh [])) (.seq (.bind 44 (.fresh [])) (.seq (.bind 18 (.fresh [])) (.seq (.bind 52 (.fresh [])) ExpectedModelVarianceReduction_query_b149))))))))
def summary_ExpectedModelVarianceReduction_query : Summary :=
  { params := [0, 1, 2], closedAttrs := [5], safeAttrs := [], body := ExpectedModelVarianceReduction_query_b150 }
theorem effects_ExpectedModelVarianceReduction_query : FrameOK summary_ExpectedModelVarianceReduction_query = true := by decide +kernel
theorem query_ExpectedModelVarianceReduction_historyFree : HistoryFree summary_ExpectedModelVarianceReduction_query = true := by decide +kernel

/-! ### KLDivergenceMaximization  (skactiveml/pool/_information_gain_maximization.py)
attributes: 0=integration_dict_target_val 1=integration_dict_cross_entropy 2=missing_label 3=random_state 4=random_state_ 5=missing_label_ 6=n_features_in_
keys: 0=* 1=kwds -/
-- KLDivergenceMaximization.query: locals 0=utilities 1=utilities_cand 2=$ret19 3=kl_div@_kullback_leibler_divergence5 4=$ret38 5=expectation@_conditional_expect14 6=inner_output@evaluate_func17 7=X@_conditional_expect14 8=inner_potential_y@evaluate_func17 9=potential_y@_conditional_expect14 10=output@_conditional_expect14 11=$ret47 12=inner_output@evaluate_func19 13=inner_potential_y@evaluate_func19 14=dist@_reshape_scipy_dist18 15=$t55 16=fixed_quad_function_wrapper@_conditional_expect14 17=n_integration_samples@_conditional_expect14 18=inner_output@evaluate_func22 19=inner_potential_y@fixed_quad_function_wrapper20 20=dist@_reshape_scipy_dist21 21=$ret57 22=inner_output@evaluate_func23 23=inner_potential_y@evaluate_func23 24=inner_output@evaluate_func16 25=inner_potential_y@evaluate_func16 26=$any 27=dict_target_val@_kullback_leibler_divergence5 28=X_cand@_kullback_leibler_divergence5 29=dist@_reshape_scipy_dist12 30=$t28 31=reg@_update_reg7 32=$t29 33=y_new@_update_X_y8 34=y_update@_update_X_y8 35=y@_update_X_y8 36=y_update@_update_reg7 37=y@_update_reg7 38=y_pot@new_kl_divergence6 39=y@_kullback_leibler_divergence5 40=reg@_kullback_leibler_divergence5 41=dict_target_val 42=y 43=reg 44=X_cand 45=$t17 46=$t18 47=$ret15 48=X@_transform_candidates4 49=candidates@_transform_candidates4 50=X 51=candidates 52=$ret4 53=$ret3 54=$ret2 55=candidates@_validate_data1 56=y@_validate_data1 57=X@_validate_data1 58=$ret10 59=$ret9 60=$ret8 61=candidates@_validate_data2 62=y@_validate_data2 63=X@_validate_data2 64=$ret13 65=random_state@check_random_state3 66=seed@check_random_state3 67=check_candidates_dict@_validate_data2 68=check_X_dict@_validate_data2
def KLDivergenceMaximization_query_b0 : Prog :=
  .seq (.bind 0 (.alias (.loc 1))) .skip
def KLDivergenceMaximization_query_b1 : Prog :=
  .seq (.bind 0 (.fresh [])) (.seq (.mutate (.loc 0) []) .skip)
def KLDivergenceMaximization_query_b2 : Prog :=
  .ite KLDivergenceMaximization_query_b0 KLDivergenceMaximization_query_b1 (.seq (.readAttr 4) .skip)
def KLDivergenceMaximization_query_b3 : Prog :=
  .seq (.bind 6 (.fresh [(.loc 7), (.loc 8)])) .skip
def KLDivergenceMaximization_query_b4 : Prog :=
  .seq (.mutate (.loc 6) []) .skip
def KLDivergenceMaximization_query_b5 : Prog :=
  .ite KLDivergenceMaximization_query_b4 .skip .skip
def KLDivergenceMaximization_query_b6 : Prog :=
  .seq (.mutate (.loc 6) []) KLDivergenceMaximization_query_b5
def KLDivergenceMaximization_query_b7 : Prog :=
  .ite KLDivergenceMaximization_query_b6 .skip .skip
def KLDivergenceMaximization_query_b8 : Prog :=
  .ite KLDivergenceMaximization_query_b7 .skip .skip
def KLDivergenceMaximization_query_b9 : Prog :=
  .seq (.mutate (.loc 6) []) .skip
def KLDivergenceMaximization_query_b10 : Prog :=
  .ite KLDivergenceMaximization_query_b9 .skip .skip
def KLDivergenceMaximization_query_b11 : Prog :=
  .seq (.mutate (.loc 6) []) KLDivergenceMaximization_query_b10
def KLDivergenceMaximization_query_b12 : Prog :=
  .ite KLDivergenceMaximization_query_b11 .skip KLDivergenceMaximization_query_b8
def KLDivergenceMaximization_query_b13 : Prog :=
  .ite KLDivergenceMaximization_query_b12 .skip .skip
def KLDivergenceMaximization_query_b14 : Prog :=
  .seq (.bind 6 (.fresh [])) KLDivergenceMaximization_query_b13
def KLDivergenceMaximization_query_b15 : Prog :=
  .ite KLDivergenceMaximization_query_b3 KLDivergenceMaximization_query_b14 (.seq (.bind 5 (.fresh [])) .skip)
def KLDivergenceMaximization_query_b16 : Prog :=
  .seq (.bind 9 (.fresh [])) .skip
def KLDivergenceMaximization_query_b17 : Prog :=
  .seq (.bind 9 (.fresh [])) .skip
def KLDivergenceMaximization_query_b18 : Prog :=
  .ite KLDivergenceMaximization_query_b16 KLDivergenceMaximization_query_b17 (.seq (.bind 8 (.alias (.loc 9))) KLDivergenceMaximization_query_b15)
def KLDivergenceMaximization_query_b19 : Prog :=
  .seq (.bind 5 (.fresh [(.loc 10)])) .skip
def KLDivergenceMaximization_query_b20 : Prog :=
  .seq (.bind 5 (.fresh [(.loc 10)])) .skip
def KLDivergenceMaximization_query_b21 : Prog :=
  .seq (.bind 5 (.fresh [])) .skip
def KLDivergenceMaximization_query_b22 : Prog :=
  .seq (.bind 5 (.fresh [(.loc 10)])) .skip
def KLDivergenceMaximization_query_b23 : Prog :=
  .ite KLDivergenceMaximization_query_b21 KLDivergenceMaximization_query_b22 .skip
def KLDivergenceMaximization_query_b24 : Prog :=
  .ite KLDivergenceMaximization_query_b20 KLDivergenceMaximization_query_b23 .skip
def KLDivergenceMaximization_query_b25 : Prog :=
  .ite KLDivergenceMaximization_query_b19 KLDivergenceMaximization_query_b24 .skip
def KLDivergenceMaximization_query_b26 : Prog :=
  .seq (.bind 12 (.fresh [(.loc 7), (.loc 13)])) .skip
def KLDivergenceMaximization_query_b27 : Prog :=
  .seq (.mutate (.loc 12) []) .skip
def KLDivergenceMaximization_query_b28 : Prog :=
  .ite KLDivergenceMaximization_query_b27 .skip .skip
def KLDivergenceMaximization_query_b29 : Prog :=
  .seq (.mutate (.loc 12) []) KLDivergenceMaximization_query_b28
def KLDivergenceMaximization_query_b30 : Prog :=
  .ite KLDivergenceMaximization_query_b29 .skip .skip
def KLDivergenceMaximization_query_b31 : Prog :=
  .ite KLDivergenceMaximization_query_b30 .skip .skip
def KLDivergenceMaximization_query_b32 : Prog :=
  .seq (.mutate (.loc 12) []) .skip
def KLDivergenceMaximization_query_b33 : Prog :=
  .ite KLDivergenceMaximization_query_b32 .skip .skip
def KLDivergenceMaximization_query_b34 : Prog :=
  .seq (.mutate (.loc 12) []) KLDivergenceMaximization_query_b33
def KLDivergenceMaximization_query_b35 : Prog :=
  .ite KLDivergenceMaximization_query_b34 .skip KLDivergenceMaximization_query_b31
def KLDivergenceMaximization_query_b36 : Prog :=
  .ite KLDivergenceMaximization_query_b35 .skip .skip
def KLDivergenceMaximization_query_b37 : Prog :=
  .seq (.bind 12 (.fresh [])) KLDivergenceMaximization_query_b36
def KLDivergenceMaximization_query_b38 : Prog :=
  .ite KLDivergenceMaximization_query_b26 KLDivergenceMaximization_query_b37 (.seq (.bind 11 (.alias (.loc 12))) (.seq (.bind 10 (.alias (.loc 11))) KLDivergenceMaximization_query_b25))
def KLDivergenceMaximization_query_b39 : Prog :=
  .seq (.mutate (.sub (.sub (.loc 14) 1) 0) []) .skip
def KLDivergenceMaximization_query_b40 : Prog :=
  .ite KLDivergenceMaximization_query_b39 .skip .skip
def KLDivergenceMaximization_query_b41 : Prog :=
  .ite KLDivergenceMaximization_query_b40 .skip .skip
def KLDivergenceMaximization_query_b42 : Prog :=
  .seq (.mutate (.sub (.sub (.loc 14) 1) 0) []) .skip
def KLDivergenceMaximization_query_b43 : Prog :=
  .ite KLDivergenceMaximization_query_b42 .skip KLDivergenceMaximization_query_b41
def KLDivergenceMaximization_query_b44 : Prog :=
  .ite KLDivergenceMaximization_query_b43 .skip (.seq (.bind 9 (.fresh [])) (.seq (.bind 13 (.alias (.loc 9))) KLDivergenceMaximization_query_b38))
def KLDivergenceMaximization_query_b45 : Prog :=
  .seq (.bind 14 (.fresh [])) KLDivergenceMaximization_query_b44
def KLDivergenceMaximization_query_b46 : Prog :=
  .seq (.bind 18 (.fresh [(.loc 7), (.loc 19)])) .skip
def KLDivergenceMaximization_query_b47 : Prog :=
  .seq (.mutate (.loc 18) []) .skip
def KLDivergenceMaximization_query_b48 : Prog :=
  .ite KLDivergenceMaximization_query_b47 .skip .skip
def KLDivergenceMaximization_query_b49 : Prog :=
  .seq (.mutate (.loc 18) []) KLDivergenceMaximization_query_b48
def KLDivergenceMaximization_query_b50 : Prog :=
  .ite KLDivergenceMaximization_query_b49 .skip .skip
def KLDivergenceMaximization_query_b51 : Prog :=
  .ite KLDivergenceMaximization_query_b50 .skip .skip
def KLDivergenceMaximization_query_b52 : Prog :=
  .seq (.mutate (.loc 18) []) .skip
def KLDivergenceMaximization_query_b53 : Prog :=
  .ite KLDivergenceMaximization_query_b52 .skip .skip
def KLDivergenceMaximization_query_b54 : Prog :=
  .seq (.mutate (.loc 18) []) KLDivergenceMaximization_query_b53
def KLDivergenceMaximization_query_b55 : Prog :=
  .ite KLDivergenceMaximization_query_b54 .skip KLDivergenceMaximization_query_b51
def KLDivergenceMaximization_query_b56 : Prog :=
  .ite KLDivergenceMaximization_query_b55 .skip .skip
def KLDivergenceMaximization_query_b57 : Prog :=
  .seq (.bind 18 (.fresh [])) KLDivergenceMaximization_query_b56
def KLDivergenceMaximization_query_b58 : Prog :=
  .ite KLDivergenceMaximization_query_b46 KLDivergenceMaximization_query_b57 .skip
def KLDivergenceMaximization_query_b59 : Prog :=
  .seq (.mutate (.sub (.sub (.loc 20) 1) 0) []) .skip
def KLDivergenceMaximization_query_b60 : Prog :=
  .ite KLDivergenceMaximization_query_b59 .skip .skip
def KLDivergenceMaximization_query_b61 : Prog :=
  .ite KLDivergenceMaximization_query_b60 .skip .skip
def KLDivergenceMaximization_query_b62 : Prog :=
  .seq (.mutate (.sub (.sub (.loc 20) 1) 0) []) .skip
def KLDivergenceMaximization_query_b63 : Prog :=
  .ite KLDivergenceMaximization_query_b62 .skip KLDivergenceMaximization_query_b61
def KLDivergenceMaximization_query_b64 : Prog :=
  .ite KLDivergenceMaximization_query_b63 .skip (.seq (.bind 19 (.fresh [])) (.seq (.bind 19 (.alias (.loc 19))) KLDivergenceMaximization_query_b58))
def KLDivergenceMaximization_query_b65 : Prog :=
  .seq (.bind 20 (.fresh [])) KLDivergenceMaximization_query_b64
def KLDivergenceMaximization_query_b66 : Prog :=
  .ite KLDivergenceMaximization_query_b65 .skip (.seq (.bind 15 (.fresh [(.loc 16), (.loc 17)])) (.seq (.bind 5 (.alias (.sub (.loc 15) 0))) .skip))
def KLDivergenceMaximization_query_b67 : Prog :=
  .seq (.bind 16 (.fresh [])) KLDivergenceMaximization_query_b66
def KLDivergenceMaximization_query_b68 : Prog :=
  .ite KLDivergenceMaximization_query_b45 KLDivergenceMaximization_query_b67 .skip
def KLDivergenceMaximization_query_b69 : Prog :=
  .seq (.bind 22 (.fresh [(.loc 7), (.loc 23)])) .skip
def KLDivergenceMaximization_query_b70 : Prog :=
  .seq (.mutate (.loc 22) []) .skip
def KLDivergenceMaximization_query_b71 : Prog :=
  .ite KLDivergenceMaximization_query_b70 .skip .skip
def KLDivergenceMaximization_query_b72 : Prog :=
  .seq (.mutate (.loc 22) []) KLDivergenceMaximization_query_b71
def KLDivergenceMaximization_query_b73 : Prog :=
  .ite KLDivergenceMaximization_query_b72 .skip .skip
def KLDivergenceMaximization_query_b74 : Prog :=
  .ite KLDivergenceMaximization_query_b73 .skip .skip
def KLDivergenceMaximization_query_b75 : Prog :=
  .seq (.mutate (.loc 22) []) .skip
def KLDivergenceMaximization_query_b76 : Prog :=
  .ite KLDivergenceMaximization_query_b75 .skip .skip
def KLDivergenceMaximization_query_b77 : Prog :=
  .seq (.mutate (.loc 22) []) KLDivergenceMaximization_query_b76
def KLDivergenceMaximization_query_b78 : Prog :=
  .ite KLDivergenceMaximization_query_b77 .skip KLDivergenceMaximization_query_b74
def KLDivergenceMaximization_query_b79 : Prog :=
  .ite KLDivergenceMaximization_query_b78 .skip .skip
def KLDivergenceMaximization_query_b80 : Prog :=
  .seq (.bind 22 (.fresh [])) KLDivergenceMaximization_query_b79
def KLDivergenceMaximization_query_b81 : Prog :=
  .ite KLDivergenceMaximization_query_b69 KLDivergenceMaximization_query_b80 (.seq (.bind 21 (.alias (.loc 22))) (.seq (.bind 10 (.alias (.loc 21))) (.seq (.bind 5 (.fresh [])) .skip)))
def KLDivergenceMaximization_query_b82 : Prog :=
  .seq (.bind 9 (.fresh [])) (.seq (.bind 23 (.alias (.loc 9))) KLDivergenceMaximization_query_b81)
def KLDivergenceMaximization_query_b83 : Prog :=
  .seq (.mutate (.loc 5) []) .skip
def KLDivergenceMaximization_query_b84 : Prog :=
  .ite KLDivergenceMaximization_query_b83 .skip .skip
def KLDivergenceMaximization_query_b85 : Prog :=
  .seq (.mutate (.loc 5) []) KLDivergenceMaximization_query_b84
def KLDivergenceMaximization_query_b86 : Prog :=
  .ite KLDivergenceMaximization_query_b85 .skip .skip
def KLDivergenceMaximization_query_b87 : Prog :=
  .ite KLDivergenceMaximization_query_b82 KLDivergenceMaximization_query_b86 .skip
def KLDivergenceMaximization_query_b88 : Prog :=
  .ite KLDivergenceMaximization_query_b68 KLDivergenceMaximization_query_b87 .skip
def KLDivergenceMaximization_query_b89 : Prog :=
  .ite KLDivergenceMaximization_query_b18 KLDivergenceMaximization_query_b88 (.seq (.bind 4 (.alias (.loc 5))) (.seq (.bind 3 (.alias (.loc 4))) (.seq (.bind 2 (.alias (.loc 3))) (.seq (.bind 1 (.alias (.loc 2))) KLDivergenceMaximization_query_b2))))
def KLDivergenceMaximization_query_b90 : Prog :=
  .seq (.bind 24 (.fresh [(.loc 7), (.loc 25)])) .skip
def KLDivergenceMaximization_query_b91 : Prog :=
  .seq (.mutate (.loc 24) []) .skip
def KLDivergenceMaximization_query_b92 : Prog :=
  .ite KLDivergenceMaximization_query_b91 .skip .skip
def KLDivergenceMaximization_query_b93 : Prog :=
  .seq (.mutate (.loc 24) []) KLDivergenceMaximization_query_b92
def KLDivergenceMaximization_query_b94 : Prog :=
  .ite KLDivergenceMaximization_query_b93 .skip .skip
def KLDivergenceMaximization_query_b95 : Prog :=
  .ite KLDivergenceMaximization_query_b94 .skip .skip
def KLDivergenceMaximization_query_b96 : Prog :=
  .seq (.mutate (.loc 24) []) .skip
def KLDivergenceMaximization_query_b97 : Prog :=
  .ite KLDivergenceMaximization_query_b96 .skip .skip
def KLDivergenceMaximization_query_b98 : Prog :=
  .seq (.mutate (.loc 24) []) KLDivergenceMaximization_query_b97
def KLDivergenceMaximization_query_b99 : Prog :=
  .ite KLDivergenceMaximization_query_b98 .skip KLDivergenceMaximization_query_b95
def KLDivergenceMaximization_query_b100 : Prog :=
  .ite KLDivergenceMaximization_query_b99 .skip .skip
def KLDivergenceMaximization_query_b101 : Prog :=
  .seq (.bind 24 (.fresh [])) KLDivergenceMaximization_query_b100
def KLDivergenceMaximization_query_b102 : Prog :=
  .ite KLDivergenceMaximization_query_b90 KLDivergenceMaximization_query_b101 .skip
def KLDivergenceMaximization_query_b103 : Prog :=
  .seq (.bind 25 (.fresh [(.loc 26)])) KLDivergenceMaximization_query_b102
def KLDivergenceMaximization_query_b104 : Prog :=
  .ite KLDivergenceMaximization_query_b103 .skip (.seq (.bind 5 (.fresh [])) KLDivergenceMaximization_query_b89)
def KLDivergenceMaximization_query_b105 : Prog :=
  .seq (.bind 17 (.fresh [])) .skip
def KLDivergenceMaximization_query_b106 : Prog :=
  .ite KLDivergenceMaximization_query_b105 .skip KLDivergenceMaximization_query_b104
def KLDivergenceMaximization_query_b107 : Prog :=
  .seq (.mutate (.sub (.sub (.loc 29) 1) 0) []) .skip
def KLDivergenceMaximization_query_b108 : Prog :=
  .ite KLDivergenceMaximization_query_b107 .skip .skip
def KLDivergenceMaximization_query_b109 : Prog :=
  .ite KLDivergenceMaximization_query_b108 .skip .skip
def KLDivergenceMaximization_query_b110 : Prog :=
  .seq (.mutate (.sub (.sub (.loc 29) 1) 0) []) .skip
def KLDivergenceMaximization_query_b111 : Prog :=
  .ite KLDivergenceMaximization_query_b110 .skip KLDivergenceMaximization_query_b109
def KLDivergenceMaximization_query_b112 : Prog :=
  .ite KLDivergenceMaximization_query_b111 .skip .skip
def KLDivergenceMaximization_query_b113 : Prog :=
  .seq (.bind 30 (.deep (.loc 31))) (.seq (.callFit (.loc 30)) .skip)
def KLDivergenceMaximization_query_b114 : Prog :=
  .seq (.bind 32 (.deep (.loc 31))) (.seq (.callFit (.loc 32)) .skip)
def KLDivergenceMaximization_query_b115 : Prog :=
  .ite KLDivergenceMaximization_query_b113 KLDivergenceMaximization_query_b114 .skip
def KLDivergenceMaximization_query_b116 : Prog :=
  .seq (.bind 33 (.copy (.loc 35))) (.seq (.mutate (.loc 33) [(.loc 34)]) .skip)
def KLDivergenceMaximization_query_b117 : Prog :=
  .ite KLDivergenceMaximization_query_b116 .abort .skip
def KLDivergenceMaximization_query_b118 : Prog :=
  .seq (.bind 34 (.fresh [(.loc 34)])) .skip
def KLDivergenceMaximization_query_b119 : Prog :=
  .seq (.bind 34 (.fresh [])) (.seq (.bind 34 (.alias (.loc 34))) (.seq (.bind 34 (.alias (.loc 34))) .skip))
def KLDivergenceMaximization_query_b120 : Prog :=
  .ite KLDivergenceMaximization_query_b118 KLDivergenceMaximization_query_b119 KLDivergenceMaximization_query_b117
def KLDivergenceMaximization_query_b121 : Prog :=
  .seq (.bind 35 (.alias (.loc 37))) (.seq (.bind 34 (.alias (.loc 36))) (.seq (.bind 35 (.alias (.loc 35))) KLDivergenceMaximization_query_b120))
def KLDivergenceMaximization_query_b122 : Prog :=
  .ite .skip .abort .skip
def KLDivergenceMaximization_query_b123 : Prog :=
  .ite KLDivergenceMaximization_query_b121 KLDivergenceMaximization_query_b122 KLDivergenceMaximization_query_b115
def KLDivergenceMaximization_query_b124 : Prog :=
  .ite .abort KLDivergenceMaximization_query_b123 (.seq (.readAttr 4) (.seq (.bind 29 (.fresh [])) KLDivergenceMaximization_query_b112))
def KLDivergenceMaximization_query_b125 : Prog :=
  .seq (.bind 38 (.fresh [(.loc 26)])) (.seq (.bind 31 (.alias (.loc 40))) (.seq (.bind 37 (.alias (.loc 39))) (.seq (.bind 36 (.alias (.loc 38))) KLDivergenceMaximization_query_b124)))
def KLDivergenceMaximization_query_b126 : Prog :=
  .ite KLDivergenceMaximization_query_b125 .skip (.seq (.readAttr 4) (.seq (.bind 7 (.alias (.loc 28))) (.seq (.bind 17 (.fresh [(.sub (.loc 27) 0)])) (.seq (.bind 7 (.alias (.loc 7))) KLDivergenceMaximization_query_b106))))
def KLDivergenceMaximization_query_b127 : Prog :=
  .seq (.bind 45 (.deep (.loc 43))) (.seq (.callFit (.loc 45)) (.seq (.bind 43 (.alias (.loc 45))) .skip))
def KLDivergenceMaximization_query_b128 : Prog :=
  .seq (.bind 46 (.deep (.loc 43))) (.seq (.callFit (.loc 46)) (.seq (.bind 43 (.alias (.loc 46))) .skip))
def KLDivergenceMaximization_query_b129 : Prog :=
  .ite KLDivergenceMaximization_query_b127 KLDivergenceMaximization_query_b128 .skip
def KLDivergenceMaximization_query_b130 : Prog :=
  .ite KLDivergenceMaximization_query_b129 .skip (.seq (.bind 28 (.alias (.loc 44))) (.seq (.bind 40 (.alias (.loc 43))) (.seq (.bind 39 (.alias (.loc 42))) (.seq (.bind 27 (.alias (.loc 41))) KLDivergenceMaximization_query_b126))))
def KLDivergenceMaximization_query_b131 : Prog :=
  .seq (.readAttr 5) (.seq (.bind 47 (.alias (.sub (.loc 48) 0))) .skip)
def KLDivergenceMaximization_query_b132 : Prog :=
  .seq (.bind 47 (.alias (.sub (.loc 48) 0))) .skip
def KLDivergenceMaximization_query_b133 : Prog :=
  .seq (.bind 47 (.alias (.loc 49))) .skip
def KLDivergenceMaximization_query_b134 : Prog :=
  .ite KLDivergenceMaximization_query_b132 KLDivergenceMaximization_query_b133 .skip
def KLDivergenceMaximization_query_b135 : Prog :=
  .ite KLDivergenceMaximization_query_b131 KLDivergenceMaximization_query_b134 (.seq (.bind 44 (.alias (.loc 47))) KLDivergenceMaximization_query_b130)
def KLDivergenceMaximization_query_b136 : Prog :=
  .seq (.bind 41 (.fresh [])) .skip
def KLDivergenceMaximization_query_b137 : Prog :=
  .ite KLDivergenceMaximization_query_b136 .skip (.seq (.bind 49 (.alias (.loc 51))) (.seq (.bind 48 (.alias (.loc 50))) KLDivergenceMaximization_query_b135))
def KLDivergenceMaximization_query_b138 : Prog :=
  .seq (.bind 41 (.alias (.attr 0))) KLDivergenceMaximization_query_b137
def KLDivergenceMaximization_query_b139 : Prog :=
  .ite .abort KLDivergenceMaximization_query_b138 .skip
def KLDivergenceMaximization_query_b140 : Prog :=
  .seq (.readAttr 5) .skip
def KLDivergenceMaximization_query_b141 : Prog :=
  .ite KLDivergenceMaximization_query_b140 .skip (.seq (.bind 54 (.alias (.loc 57))) (.seq (.bind 53 (.alias (.loc 56))) (.seq (.bind 52 (.alias (.loc 55))) (.seq (.bind 50 (.alias (.loc 54))) (.seq (.bind 42 (.alias (.loc 53))) (.seq (.bind 51 (.alias (.loc 52))) (.seq (.readAttr 5) KLDivergenceMaximization_query_b139)))))))
def KLDivergenceMaximization_query_b142 : Prog :=
  .seq (.bind 64 (.alias (.loc 65))) .skip
def KLDivergenceMaximization_query_b143 : Prog :=
  .seq (.bind 65 (.deep (.loc 65))) (.seq (.bind 65 (.alias (.loc 65))) (.seq (.bind 66 (.fresh [])) (.seq (.bind 64 (.fresh [(.loc 66)])) .skip)))
def KLDivergenceMaximization_query_b144 : Prog :=
  .ite KLDivergenceMaximization_query_b142 KLDivergenceMaximization_query_b143 (.seq (.writeAttr 4 (.alias (.loc 64))) (.seq (.bind 60 (.alias (.loc 63))) (.seq (.bind 59 (.alias (.loc 62))) (.seq (.bind 58 (.alias (.loc 61))) (.seq (.bind 57 (.alias (.loc 60))) (.seq (.bind 56 (.alias (.loc 59))) (.seq (.bind 55 (.alias (.loc 58))) (.seq (.bind 56 (.alias (.loc 56))) KLDivergenceMaximization_query_b141))))))))
def KLDivergenceMaximization_query_b145 : Prog :=
  .seq (.bind 61 (.fresh [])) .skip
def KLDivergenceMaximization_query_b146 : Prog :=
  .seq (.bind 67 (.deep (.loc 68))) (.seq (.mutate (.loc 67) []) (.seq (.bind 61 (.alias (.loc 61))) (.seq (.readAttr 6) .skip)))
def KLDivergenceMaximization_query_b147 : Prog :=
  .ite KLDivergenceMaximization_query_b145 KLDivergenceMaximization_query_b146 .skip
def KLDivergenceMaximization_query_b148 : Prog :=
  .seq (.bind 61 (.copy (.loc 61))) KLDivergenceMaximization_query_b147
def KLDivergenceMaximization_query_b149 : Prog :=
  .ite KLDivergenceMaximization_query_b148 .skip (.seq (.bind 65 (.alias (.attr 3))) KLDivergenceMaximization_query_b144)
def KLDivergenceMaximization_query_b150 : Prog :=
  .seq (.bind 63 (.alias (.loc 57))) (.seq (.bind 62 (.alias (.loc 56))) (.seq (.bind 61 (.alias (.loc 55))) (.seq (.bind 68 (.fresh [])) (.seq (.bind 68 (.fresh [])) (.seq (.bind 63 (.alias (.loc 63))) (.seq (.writeAttr 6 (.fresh [])) (.seq (.bind 62 (.alias (.loc 62))) (.seq (.writeAttr 5 (.alias (.attr 2))) (.seq (.readAttr 5) KLDivergenceMaximization_query_b149)))))))))
def KLDivergenceMaximization_query_b151 : Prog :=
  .seq (.bind 37 (.fresh [])) (.seq (.bind 56 (.fresh [])) (.seq (.bind 62 (.fresh [])) (.seq (.bind 33 (.fresh [])) (.seq (.bind 38 (.fresh [])) (.seq (.bind 34 (.fresh [])) (.seq (.bind 36 (.fresh [])) (.seq (.bind 57 (.alias (.loc 50))) (.seq (.bind 56 (.alias (.loc 42))) (.seq (.bind 55 (.alias (.loc 51))) KLDivergenceMaximization_query_b150)))))))))
def KLDivergenceMaximization_query_b152 : Prog :=
  .seq (.bind 10 (.fresh [])) (.seq (.bind 9 (.fresh [])) (.seq (.bind 65 (.fresh [])) (.seq (.bind 40 (.fresh [])) (.seq (.bind 31 (.fresh [])) (.seq (.bind 66 (.fresh [])) (.seq (.bind 0 (.fresh [])) (.seq (.bind 1 (.fresh [])) (.seq (.bind 39 (.fresh [])) (.seq (.bind 35 (.fresh [])) KLDivergenceMaximization_query_b151)))))))))
def KLDivergenceMaximization_query_b153 : Prog :=
  .seq (.bind 12 (.fresh [])) (.seq (.bind 18 (.fresh [])) (.seq (.bind 22 (.fresh [])) (.seq (.bind 25 (.fresh [])) (.seq (.bind 8 (.fresh [])) (.seq (.bind 13 (.fresh [])) (.seq (.bind 23 (.fresh [])) (.seq (.bind 19 (.fresh [])) (.seq (.bind 3 (.fresh [])) (.seq (.bind 17 (.fresh [])) KLDivergenceMaximization_query_b152)))))))))
def KLDivergenceMaximization_query_b154 : Prog :=
  .seq (.bind 67 (.fresh [])) (.seq (.bind 41 (.fresh [])) (.seq (.bind 27 (.fresh [])) (.seq (.bind 29 (.fresh [])) (.seq (.bind 14 (.fresh [])) (.seq (.bind 20 (.fresh [])) (.seq (.bind 5 (.fresh [])) (.seq (.bind 16 (.fresh [])) (.seq (.bind 24 (.fresh [])) (.seq (.bind 6 (.fresh [])) KLDivergenceMaximization_query_b153)))))))))
def KLDivergenceMaximization_query_b155 : Prog :=
  .seq (.bind 7 (.fresh [])) (.seq (.bind 48 (.fresh [])) (.seq (.bind 57 (.fresh [])) (.seq (.bind 63 (.fresh [])) (.seq (.bind 44 (.fresh [])) (.seq (.bind 28 (.fresh [])) (.seq (.bind 49 (.fresh [])) (.seq (.bind 55 (.fresh [])) (.seq (.bind 61 (.fresh [])) (.seq (.bind 68 (.fresh [])) KLDivergenceMaximization_query_b154)))))))))
def KLDivergenceMaximization_query_b156 : Prog :=
  .seq (.bind 52 (.fresh [])) (.seq (.bind 11 (.fresh [])) (.seq (.bind 21 (.fresh [])) (.seq (.bind 60 (.fresh [])) (.seq (.bind 59 (.fresh [])) (.seq (.bind 45 (.fresh [])) (.seq (.bind 46 (.fresh [])) (.seq (.bind 30 (.fresh [])) (.seq (.bind 32 (.fresh [])) (.seq (.bind 15 (.fresh [])) KLDivergenceMaximization_query_b155)))))))))
def KLDivergenceMaximization_query_b157 : Prog :=
  .seq (.bind 58 (.fresh [])) (.seq (.bind 64 (.fresh [])) (.seq (.bind 47 (.fresh [])) (.seq (.bind 2 (.fresh [])) (.seq (.bind 54 (.fresh [])) (.seq (.bind 53 (.fresh [])) (.seq (.bind 4 (.fresh [])) KLDivergenceMaximization_query_b156))))))
def summary_KLDivergenceMaximization_query : Summary :=
  { params := [0, 1, 2, 3], closedAttrs := [6], safeAttrs := [], body := KLDivergenceMaximization_query_b157 }
theorem effects_KLDivergenceMaximization_query : FrameOK summary_KLDivergenceMaximization_query = true := by decide +kernel
theorem query_KLDivergenceMaximization_historyFree : HistoryFree summary_KLDivergenceMaximization_query = true := by decide +kernel

/-! ### GreedySamplingX  (skactiveml/pool/_greedy_sampling.py)
attributes: 0=metric 1=metric_dict 2=missing_label 3=random_state 4=random_state_ 5=missing_label_ 6=n_features_in_
keys: 0=* -/
-- GreedySamplingX.query: locals 0=utilities 1=utilities_cand 2=$ret19 3=utilities@_greedy_sampling5 4=distances@_greedy_sampling5 5=dist@_measure_distance9 6=query_indices@_greedy_sampling5 7=dist@_measure_distance8 8=dist@_measure_distance6 9=dist@_measure_distance7 10=$ret13 11=random_state@check_random_state3 12=seed@check_random_state3 13=check_candidates_dict@_validate_data2 14=check_X_dict@_validate_data2
def GreedySamplingX_query_b0 : Prog :=
  .seq (.bind 0 (.fresh [])) (.seq (.mutate (.loc 0) []) .skip)
def GreedySamplingX_query_b1 : Prog :=
  .seq (.bind 0 (.alias (.loc 1))) .skip
def GreedySamplingX_query_b2 : Prog :=
  .ite GreedySamplingX_query_b0 GreedySamplingX_query_b1 .skip
def GreedySamplingX_query_b3 : Prog :=
  .seq (.mutate (.loc 5) []) .skip
def GreedySamplingX_query_b4 : Prog :=
  .ite GreedySamplingX_query_b3 .skip (.seq (.mutate (.loc 4) []) .skip)
def GreedySamplingX_query_b5 : Prog :=
  .seq (.mutate (.loc 5) []) .skip
def GreedySamplingX_query_b6 : Prog :=
  .ite GreedySamplingX_query_b5 .skip GreedySamplingX_query_b4
def GreedySamplingX_query_b7 : Prog :=
  .seq (.mutate (.loc 3) []) (.seq (.mutate (.loc 6) []) (.seq (.bind 5 (.fresh [])) GreedySamplingX_query_b6))
def GreedySamplingX_query_b8 : Prog :=
  .ite GreedySamplingX_query_b7 .skip .skip
def GreedySamplingX_query_b9 : Prog :=
  .seq (.mutate (.loc 7) []) .skip
def GreedySamplingX_query_b10 : Prog :=
  .ite GreedySamplingX_query_b9 .skip (.seq (.mutate (.loc 4) []) GreedySamplingX_query_b8)
def GreedySamplingX_query_b11 : Prog :=
  .seq (.mutate (.loc 7) []) .skip
def GreedySamplingX_query_b12 : Prog :=
  .ite GreedySamplingX_query_b11 .skip GreedySamplingX_query_b10
def GreedySamplingX_query_b13 : Prog :=
  .seq (.mutate (.loc 3) []) (.seq (.mutate (.loc 6) []) (.seq (.bind 7 (.fresh [])) GreedySamplingX_query_b12))
def GreedySamplingX_query_b14 : Prog :=
  .ite GreedySamplingX_query_b13 .skip (.seq (.bind 2 (.alias (.loc 3))) (.seq (.bind 1 (.alias (.loc 2))) GreedySamplingX_query_b2))
def GreedySamplingX_query_b15 : Prog :=
  .seq (.mutate (.loc 8) []) .skip
def GreedySamplingX_query_b16 : Prog :=
  .ite GreedySamplingX_query_b15 .skip (.seq (.mutate (.loc 4) []) .skip)
def GreedySamplingX_query_b17 : Prog :=
  .seq (.mutate (.loc 8) []) .skip
def GreedySamplingX_query_b18 : Prog :=
  .ite GreedySamplingX_query_b17 .skip GreedySamplingX_query_b16
def GreedySamplingX_query_b19 : Prog :=
  .seq (.bind 8 (.fresh [])) GreedySamplingX_query_b18
def GreedySamplingX_query_b20 : Prog :=
  .seq (.mutate (.loc 9) []) .skip
def GreedySamplingX_query_b21 : Prog :=
  .ite GreedySamplingX_query_b20 .skip (.seq (.mutate (.loc 4) []) .skip)
def GreedySamplingX_query_b22 : Prog :=
  .seq (.mutate (.loc 9) []) .skip
def GreedySamplingX_query_b23 : Prog :=
  .ite GreedySamplingX_query_b22 .skip GreedySamplingX_query_b21
def GreedySamplingX_query_b24 : Prog :=
  .seq (.bind 9 (.fresh [])) GreedySamplingX_query_b23
def GreedySamplingX_query_b25 : Prog :=
  .ite GreedySamplingX_query_b19 GreedySamplingX_query_b24 GreedySamplingX_query_b14
def GreedySamplingX_query_b26 : Prog :=
  .seq (.readAttr 5) .skip
def GreedySamplingX_query_b27 : Prog :=
  .ite GreedySamplingX_query_b26 .skip (.seq (.readAttr 4) (.seq (.bind 6 (.fresh [])) (.seq (.bind 3 (.fresh [])) (.seq (.bind 4 (.fresh [])) GreedySamplingX_query_b25))))
def GreedySamplingX_query_b28 : Prog :=
  .seq (.readAttr 5) .skip
def GreedySamplingX_query_b29 : Prog :=
  .ite GreedySamplingX_query_b28 .skip GreedySamplingX_query_b27
def GreedySamplingX_query_b30 : Prog :=
  .seq (.bind 10 (.alias (.loc 11))) .skip
def GreedySamplingX_query_b31 : Prog :=
  .seq (.bind 11 (.deep (.loc 11))) (.seq (.bind 11 (.alias (.loc 11))) (.seq (.bind 12 (.fresh [])) (.seq (.bind 10 (.fresh [(.loc 12)])) .skip)))
def GreedySamplingX_query_b32 : Prog :=
  .ite GreedySamplingX_query_b30 GreedySamplingX_query_b31 (.seq (.writeAttr 4 (.alias (.loc 10))) GreedySamplingX_query_b29)
def GreedySamplingX_query_b33 : Prog :=
  .seq (.bind 13 (.deep (.loc 14))) (.seq (.mutate (.loc 13) []) (.seq (.readAttr 6) .skip))
def GreedySamplingX_query_b34 : Prog :=
  .ite .skip GreedySamplingX_query_b33 .skip
def GreedySamplingX_query_b35 : Prog :=
  .ite GreedySamplingX_query_b34 .skip (.seq (.bind 11 (.alias (.attr 3))) GreedySamplingX_query_b32)
def GreedySamplingX_query_b36 : Prog :=
  .seq (.bind 11 (.fresh [])) (.seq (.bind 12 (.fresh [])) (.seq (.bind 0 (.fresh [])) (.seq (.bind 3 (.fresh [])) (.seq (.bind 1 (.fresh [])) (.seq (.bind 14 (.fresh [])) (.seq (.bind 14 (.fresh [])) (.seq (.writeAttr 6 (.fresh [])) (.seq (.writeAttr 5 (.alias (.attr 2))) (.seq (.readAttr 5) GreedySamplingX_query_b35)))))))))
def GreedySamplingX_query_b37 : Prog :=
  .seq (.bind 10 (.fresh [])) (.seq (.bind 2 (.fresh [])) (.seq (.bind 14 (.fresh [])) (.seq (.bind 13 (.fresh [])) (.seq (.bind 8 (.fresh [])) (.seq (.bind 9 (.fresh [])) (.seq (.bind 7 (.fresh [])) (.seq (.bind 5 (.fresh [])) (.seq (.bind 4 (.fresh [])) (.seq (.bind 6 (.fresh [])) GreedySamplingX_query_b36)))))))))
def summary_GreedySamplingX_query : Summary :=
  { params := [0, 1, 2, 3], closedAttrs := [6], safeAttrs := [], body := GreedySamplingX_query_b37 }
theorem effects_GreedySamplingX_query : FrameOK summary_GreedySamplingX_query = true := by decide +kernel
theorem query_GreedySamplingX_historyFree : HistoryFree summary_GreedySamplingX_query = true := by decide +kernel

/-! ### GreedySamplingTarget  (skactiveml/pool/_greedy_sampling.py)
attributes: 0=x_metric 1=y_metric 2=x_metric_dict 3=y_metric_dict 4=method 5=n_GSx_samples 6=missing_label 7=random_state 8=random_state_ 9=missing_label_ 10=n_features_in_
keys: 0=* -/
-- GreedySamplingTarget.query: locals 0=query_indices 1=mapping 2=utilities 3=distances@_greedy_sampling10 4=dist@_measure_distance14 5=query_indices@_greedy_sampling10 6=utilities@_greedy_sampling10 7=dist@_measure_distance13 8=dist@_measure_distance11 9=dist@_measure_distance12 10=y_cand 11=is_queried 12=distances@_greedy_sampling5 13=dist@_measure_distance9 14=query_indices@_greedy_sampling5 15=utilities@_greedy_sampling5 16=dist@_measure_distance8 17=dist@_measure_distance6 18=dist@_measure_distance7 19=y_all 20=y 21=reg 22=$t17 23=$t18 24=$ret16 25=ulbd_idx@_transform_candidates4 26=candidates@_transform_candidates4 27=candidates 28=$ret4 29=$ret3 30=candidates@_validate_data1 31=y@_validate_data1 32=$ret10 33=$ret9 34=candidates@_validate_data2 35=y@_validate_data2 36=$ret13 37=random_state@check_random_state3 38=seed@check_random_state3 39=check_candidates_dict@_validate_data2 40=check_X_dict@_validate_data2
def GreedySamplingTarget_query_b0 : Prog :=
  .seq (.bind 2 (.fresh [])) (.seq (.mutate (.loc 2) []) (.seq (.bind 0 (.alias (.sub (.loc 1) 0))) .skip))
def GreedySamplingTarget_query_b1 : Prog :=
  .ite GreedySamplingTarget_query_b0 .skip .skip
def GreedySamplingTarget_query_b2 : Prog :=
  .seq (.mutate (.loc 4) []) .skip
def GreedySamplingTarget_query_b3 : Prog :=
  .ite GreedySamplingTarget_query_b2 .skip (.seq (.mutate (.loc 3) []) .skip)
def GreedySamplingTarget_query_b4 : Prog :=
  .seq (.mutate (.loc 4) []) .skip
def GreedySamplingTarget_query_b5 : Prog :=
  .ite GreedySamplingTarget_query_b4 .skip GreedySamplingTarget_query_b3
def GreedySamplingTarget_query_b6 : Prog :=
  .seq (.mutate (.loc 6) []) (.seq (.mutate (.loc 5) []) (.seq (.bind 4 (.fresh [])) GreedySamplingTarget_query_b5))
def GreedySamplingTarget_query_b7 : Prog :=
  .ite GreedySamplingTarget_query_b6 .skip .skip
def GreedySamplingTarget_query_b8 : Prog :=
  .seq (.mutate (.loc 7) []) .skip
def GreedySamplingTarget_query_b9 : Prog :=
  .ite GreedySamplingTarget_query_b8 .skip (.seq (.mutate (.loc 3) []) GreedySamplingTarget_query_b7)
def GreedySamplingTarget_query_b10 : Prog :=
  .seq (.mutate (.loc 7) []) .skip
def GreedySamplingTarget_query_b11 : Prog :=
  .ite GreedySamplingTarget_query_b10 .skip GreedySamplingTarget_query_b9
def GreedySamplingTarget_query_b12 : Prog :=
  .seq (.mutate (.loc 6) []) (.seq (.mutate (.loc 5) []) (.seq (.bind 7 (.fresh [])) GreedySamplingTarget_query_b11))
def GreedySamplingTarget_query_b13 : Prog :=
  .ite GreedySamplingTarget_query_b12 .skip (.seq (.mutate (.loc 0) []) (.seq (.mutate (.sub (.loc 2) 0) []) .skip))
def GreedySamplingTarget_query_b14 : Prog :=
  .seq (.mutate (.loc 8) []) .skip
def GreedySamplingTarget_query_b15 : Prog :=
  .ite GreedySamplingTarget_query_b14 .skip (.seq (.mutate (.loc 3) []) .skip)
def GreedySamplingTarget_query_b16 : Prog :=
  .seq (.mutate (.loc 8) []) .skip
def GreedySamplingTarget_query_b17 : Prog :=
  .ite GreedySamplingTarget_query_b16 .skip GreedySamplingTarget_query_b15
def GreedySamplingTarget_query_b18 : Prog :=
  .seq (.bind 8 (.fresh [])) GreedySamplingTarget_query_b17
def GreedySamplingTarget_query_b19 : Prog :=
  .seq (.mutate (.loc 9) []) .skip
def GreedySamplingTarget_query_b20 : Prog :=
  .ite GreedySamplingTarget_query_b19 .skip (.seq (.mutate (.loc 3) []) .skip)
def GreedySamplingTarget_query_b21 : Prog :=
  .seq (.mutate (.loc 9) []) .skip
def GreedySamplingTarget_query_b22 : Prog :=
  .ite GreedySamplingTarget_query_b21 .skip GreedySamplingTarget_query_b20
def GreedySamplingTarget_query_b23 : Prog :=
  .seq (.bind 9 (.fresh [])) GreedySamplingTarget_query_b22
def GreedySamplingTarget_query_b24 : Prog :=
  .ite GreedySamplingTarget_query_b18 GreedySamplingTarget_query_b23 GreedySamplingTarget_query_b13
def GreedySamplingTarget_query_b25 : Prog :=
  .seq (.readAttr 8) (.seq (.bind 5 (.fresh [])) (.seq (.bind 6 (.fresh [])) (.seq (.bind 3 (.fresh [])) GreedySamplingTarget_query_b24)))
def GreedySamplingTarget_query_b26 : Prog :=
  .ite GreedySamplingTarget_query_b25 .skip GreedySamplingTarget_query_b1
def GreedySamplingTarget_query_b27 : Prog :=
  .seq (.mutate (.loc 13) []) .skip
def GreedySamplingTarget_query_b28 : Prog :=
  .ite GreedySamplingTarget_query_b27 .skip (.seq (.mutate (.loc 12) []) .skip)
def GreedySamplingTarget_query_b29 : Prog :=
  .seq (.mutate (.loc 13) []) .skip
def GreedySamplingTarget_query_b30 : Prog :=
  .ite GreedySamplingTarget_query_b29 .skip GreedySamplingTarget_query_b28
def GreedySamplingTarget_query_b31 : Prog :=
  .seq (.mutate (.loc 15) []) (.seq (.mutate (.loc 14) []) (.seq (.bind 13 (.fresh [])) GreedySamplingTarget_query_b30))
def GreedySamplingTarget_query_b32 : Prog :=
  .ite GreedySamplingTarget_query_b31 .skip .skip
def GreedySamplingTarget_query_b33 : Prog :=
  .seq (.mutate (.loc 16) []) .skip
def GreedySamplingTarget_query_b34 : Prog :=
  .ite GreedySamplingTarget_query_b33 .skip (.seq (.mutate (.loc 12) []) GreedySamplingTarget_query_b32)
def GreedySamplingTarget_query_b35 : Prog :=
  .seq (.mutate (.loc 16) []) .skip
def GreedySamplingTarget_query_b36 : Prog :=
  .ite GreedySamplingTarget_query_b35 .skip GreedySamplingTarget_query_b34
def GreedySamplingTarget_query_b37 : Prog :=
  .seq (.mutate (.loc 15) []) (.seq (.mutate (.loc 14) []) (.seq (.bind 16 (.fresh [])) GreedySamplingTarget_query_b36))
def GreedySamplingTarget_query_b38 : Prog :=
  .ite GreedySamplingTarget_query_b37 .skip (.seq (.mutate (.loc 0) []) (.seq (.mutate (.loc 2) []) .skip))
def GreedySamplingTarget_query_b39 : Prog :=
  .seq (.mutate (.loc 17) []) .skip
def GreedySamplingTarget_query_b40 : Prog :=
  .ite GreedySamplingTarget_query_b39 .skip (.seq (.mutate (.loc 12) []) .skip)
def GreedySamplingTarget_query_b41 : Prog :=
  .seq (.mutate (.loc 17) []) .skip
def GreedySamplingTarget_query_b42 : Prog :=
  .ite GreedySamplingTarget_query_b41 .skip GreedySamplingTarget_query_b40
def GreedySamplingTarget_query_b43 : Prog :=
  .seq (.bind 17 (.fresh [])) GreedySamplingTarget_query_b42
def GreedySamplingTarget_query_b44 : Prog :=
  .seq (.mutate (.loc 18) []) .skip
def GreedySamplingTarget_query_b45 : Prog :=
  .ite GreedySamplingTarget_query_b44 .skip (.seq (.mutate (.loc 12) []) .skip)
def GreedySamplingTarget_query_b46 : Prog :=
  .seq (.mutate (.loc 18) []) .skip
def GreedySamplingTarget_query_b47 : Prog :=
  .ite GreedySamplingTarget_query_b46 .skip GreedySamplingTarget_query_b45
def GreedySamplingTarget_query_b48 : Prog :=
  .seq (.bind 18 (.fresh [])) GreedySamplingTarget_query_b47
def GreedySamplingTarget_query_b49 : Prog :=
  .ite GreedySamplingTarget_query_b43 GreedySamplingTarget_query_b48 GreedySamplingTarget_query_b38
def GreedySamplingTarget_query_b50 : Prog :=
  .seq (.readAttr 8) (.seq (.bind 14 (.fresh [])) (.seq (.bind 15 (.fresh [])) (.seq (.bind 12 (.fresh [])) GreedySamplingTarget_query_b49)))
def GreedySamplingTarget_query_b51 : Prog :=
  .ite GreedySamplingTarget_query_b50 .skip (.seq (.bind 11 (.fresh [])) (.seq (.mutate (.loc 11) []) (.seq (.bind 10 (.fresh [])) GreedySamplingTarget_query_b26)))
def GreedySamplingTarget_query_b52 : Prog :=
  .seq (.bind 19 (.fresh [])) .skip
def GreedySamplingTarget_query_b53 : Prog :=
  .seq (.bind 19 (.copy (.loc 20))) (.seq (.mutate (.loc 19) [(.loc 10)]) .skip)
def GreedySamplingTarget_query_b54 : Prog :=
  .ite GreedySamplingTarget_query_b52 GreedySamplingTarget_query_b53 (.seq (.bind 0 (.fresh [])) (.seq (.bind 2 (.fresh [])) GreedySamplingTarget_query_b51))
def GreedySamplingTarget_query_b55 : Prog :=
  .seq (.bind 22 (.deep (.loc 21))) (.seq (.callFit (.loc 22)) (.seq (.bind 21 (.alias (.loc 22))) .skip))
def GreedySamplingTarget_query_b56 : Prog :=
  .seq (.bind 23 (.deep (.loc 21))) (.seq (.callFit (.loc 23)) (.seq (.bind 21 (.alias (.loc 23))) .skip))
def GreedySamplingTarget_query_b57 : Prog :=
  .ite GreedySamplingTarget_query_b55 GreedySamplingTarget_query_b56 .skip
def GreedySamplingTarget_query_b58 : Prog :=
  .ite GreedySamplingTarget_query_b57 .skip (.seq (.readAttr 9) (.seq (.bind 10 (.fresh [])) GreedySamplingTarget_query_b54))
def GreedySamplingTarget_query_b59 : Prog :=
  .seq (.readAttr 9) (.seq (.bind 25 (.fresh [])) (.seq (.bind 24 (.alias (.loc 25))) .skip))
def GreedySamplingTarget_query_b60 : Prog :=
  .seq (.bind 24 (.alias (.loc 26))) .skip
def GreedySamplingTarget_query_b61 : Prog :=
  .seq (.bind 24 (.fresh [])) .skip
def GreedySamplingTarget_query_b62 : Prog :=
  .ite GreedySamplingTarget_query_b60 GreedySamplingTarget_query_b61 .skip
def GreedySamplingTarget_query_b63 : Prog :=
  .ite GreedySamplingTarget_query_b59 GreedySamplingTarget_query_b62 (.seq (.bind 1 (.alias (.loc 24))) (.seq (.readAttr 9) GreedySamplingTarget_query_b58))
def GreedySamplingTarget_query_b64 : Prog :=
  .seq (.readAttr 9) .skip
def GreedySamplingTarget_query_b65 : Prog :=
  .ite GreedySamplingTarget_query_b64 .skip (.seq (.bind 29 (.alias (.loc 31))) (.seq (.bind 28 (.alias (.loc 30))) (.seq (.bind 20 (.alias (.loc 29))) (.seq (.bind 27 (.alias (.loc 28))) (.seq (.bind 26 (.alias (.loc 27))) GreedySamplingTarget_query_b63)))))
def GreedySamplingTarget_query_b66 : Prog :=
  .seq (.bind 36 (.alias (.loc 37))) .skip
def GreedySamplingTarget_query_b67 : Prog :=
  .seq (.bind 37 (.deep (.loc 37))) (.seq (.bind 37 (.alias (.loc 37))) (.seq (.bind 38 (.fresh [])) (.seq (.bind 36 (.fresh [(.loc 38)])) .skip)))
def GreedySamplingTarget_query_b68 : Prog :=
  .ite GreedySamplingTarget_query_b66 GreedySamplingTarget_query_b67 (.seq (.writeAttr 8 (.alias (.loc 36))) (.seq (.bind 33 (.alias (.loc 35))) (.seq (.bind 32 (.alias (.loc 34))) (.seq (.bind 31 (.alias (.loc 33))) (.seq (.bind 30 (.alias (.loc 32))) (.seq (.bind 31 (.alias (.loc 31))) GreedySamplingTarget_query_b65))))))
def GreedySamplingTarget_query_b69 : Prog :=
  .seq (.bind 34 (.fresh [])) .skip
def GreedySamplingTarget_query_b70 : Prog :=
  .seq (.bind 39 (.deep (.loc 40))) (.seq (.mutate (.loc 39) []) (.seq (.bind 34 (.alias (.loc 34))) (.seq (.readAttr 10) .skip)))
def GreedySamplingTarget_query_b71 : Prog :=
  .ite GreedySamplingTarget_query_b69 GreedySamplingTarget_query_b70 .skip
def GreedySamplingTarget_query_b72 : Prog :=
  .seq (.bind 34 (.copy (.loc 34))) GreedySamplingTarget_query_b71
def GreedySamplingTarget_query_b73 : Prog :=
  .ite GreedySamplingTarget_query_b72 .skip (.seq (.bind 37 (.alias (.attr 7))) GreedySamplingTarget_query_b68)
def GreedySamplingTarget_query_b74 : Prog :=
  .seq (.bind 31 (.alias (.loc 20))) (.seq (.bind 30 (.alias (.loc 27))) (.seq (.bind 35 (.alias (.loc 31))) (.seq (.bind 34 (.alias (.loc 30))) (.seq (.bind 40 (.fresh [])) (.seq (.bind 40 (.fresh [])) (.seq (.writeAttr 10 (.fresh [])) (.seq (.bind 35 (.alias (.loc 35))) (.seq (.writeAttr 9 (.alias (.attr 6))) (.seq (.readAttr 9) GreedySamplingTarget_query_b73)))))))))
def GreedySamplingTarget_query_b75 : Prog :=
  .seq (.bind 37 (.fresh [])) (.seq (.bind 38 (.fresh [])) (.seq (.bind 25 (.fresh [])) (.seq (.bind 2 (.fresh [])) (.seq (.bind 6 (.fresh [])) (.seq (.bind 15 (.fresh [])) (.seq (.bind 31 (.fresh [])) (.seq (.bind 35 (.fresh [])) (.seq (.bind 19 (.fresh [])) (.seq (.bind 10 (.fresh [])) GreedySamplingTarget_query_b74)))))))))
def GreedySamplingTarget_query_b76 : Prog :=
  .seq (.bind 18 (.fresh [])) (.seq (.bind 16 (.fresh [])) (.seq (.bind 13 (.fresh [])) (.seq (.bind 3 (.fresh [])) (.seq (.bind 12 (.fresh [])) (.seq (.bind 11 (.fresh [])) (.seq (.bind 1 (.fresh [])) (.seq (.bind 0 (.fresh [])) (.seq (.bind 5 (.fresh [])) (.seq (.bind 14 (.fresh [])) GreedySamplingTarget_query_b75)))))))))
def GreedySamplingTarget_query_b77 : Prog :=
  .seq (.bind 26 (.fresh [])) (.seq (.bind 30 (.fresh [])) (.seq (.bind 34 (.fresh [])) (.seq (.bind 40 (.fresh [])) (.seq (.bind 39 (.fresh [])) (.seq (.bind 8 (.fresh [])) (.seq (.bind 9 (.fresh [])) (.seq (.bind 7 (.fresh [])) (.seq (.bind 4 (.fresh [])) (.seq (.bind 17 (.fresh [])) GreedySamplingTarget_query_b76)))))))))
def GreedySamplingTarget_query_b78 : Prog :=
  .seq (.bind 32 (.fresh [])) (.seq (.bind 36 (.fresh [])) (.seq (.bind 24 (.fresh [])) (.seq (.bind 29 (.fresh [])) (.seq (.bind 28 (.fresh [])) (.seq (.bind 33 (.fresh [])) (.seq (.bind 22 (.fresh [])) (.seq (.bind 23 (.fresh [])) GreedySamplingTarget_query_b77)))))))
def summary_GreedySamplingTarget_query : Summary :=
  { params := [0, 1, 2, 3, 4, 5, 6, 7], closedAttrs := [10], safeAttrs := [], body := GreedySamplingTarget_query_b78 }
theorem effects_GreedySamplingTarget_query : FrameOK summary_GreedySamplingTarget_query = true := by decide +kernel
theorem query_GreedySamplingTarget_historyFree : HistoryFree summary_GreedySamplingTarget_query = true := by decide +kernel

/-! ### DiscriminativeAL  (skactiveml/pool/_discriminative_al.py)
attributes: 0=greedy_selection 1=missing_label 2=random_state 3=random_state_ 4=missing_label_ 5=n_features_in_
keys: 0=* -/
-- DiscriminativeAL.query: locals 0=utilities 1=utilities_cand 2=discriminator 3=y_discriminator 4=$t18 5=$t17 6=$ret13 7=random_state@check_random_state3 8=seed@check_random_state3 9=check_candidates_dict@_validate_data2 10=check_X_dict@_validate_data2
def DiscriminativeAL_query_b0 : Prog :=
  .seq (.bind 3 (.fresh [])) (.seq (.bind 3 (.copy (.loc 3))) (.seq (.callFit (.loc 2)) (.seq (.bind 1 (.fresh [])) (.seq (.bind 0 (.fresh [])) (.seq (.mutate (.loc 0) []) (.seq (.readAttr 3) .skip))))))
def DiscriminativeAL_query_b1 : Prog :=
  .seq (.bind 3 (.fresh [])) (.seq (.bind 3 (.copy (.loc 3))) (.seq (.mutate (.loc 3) []) (.seq (.callFit (.loc 2)) (.seq (.mutate (.loc 1) []) (.seq (.mutate (.loc 1) []) (.seq (.readAttr 3) (.seq (.bind 4 (.fresh [])) (.seq (.mutate (.loc 4) []) .skip))))))))
def DiscriminativeAL_query_b2 : Prog :=
  .ite DiscriminativeAL_query_b1 .skip .skip
def DiscriminativeAL_query_b3 : Prog :=
  .seq (.bind 3 (.fresh [])) (.seq (.bind 3 (.copy (.loc 3))) (.seq (.mutate (.loc 3) []) (.seq (.callFit (.loc 2)) (.seq (.mutate (.loc 1) []) (.seq (.mutate (.loc 1) []) (.seq (.readAttr 3) (.seq (.bind 5 (.fresh [])) (.seq (.mutate (.loc 5) []) DiscriminativeAL_query_b2))))))))
def DiscriminativeAL_query_b4 : Prog :=
  .ite DiscriminativeAL_query_b3 .skip (.seq (.bind 0 (.fresh [])) (.seq (.mutate (.loc 0) []) .skip))
def DiscriminativeAL_query_b5 : Prog :=
  .seq (.bind 1 (.fresh [])) DiscriminativeAL_query_b4
def DiscriminativeAL_query_b6 : Prog :=
  .ite DiscriminativeAL_query_b0 DiscriminativeAL_query_b5 .skip
def DiscriminativeAL_query_b7 : Prog :=
  .seq (.readAttr 4) .skip
def DiscriminativeAL_query_b8 : Prog :=
  .ite .skip .abort .skip
def DiscriminativeAL_query_b9 : Prog :=
  .ite DiscriminativeAL_query_b7 DiscriminativeAL_query_b8 (.seq (.bind 2 (.deep (.loc 2))) (.seq (.mutate (.loc 2) []) (.seq (.mutate (.loc 2) []) DiscriminativeAL_query_b6)))
def DiscriminativeAL_query_b10 : Prog :=
  .seq (.readAttr 4) .skip
def DiscriminativeAL_query_b11 : Prog :=
  .ite DiscriminativeAL_query_b10 .skip DiscriminativeAL_query_b9
def DiscriminativeAL_query_b12 : Prog :=
  .seq (.bind 6 (.alias (.loc 7))) .skip
def DiscriminativeAL_query_b13 : Prog :=
  .seq (.bind 7 (.deep (.loc 7))) (.seq (.bind 7 (.alias (.loc 7))) (.seq (.bind 8 (.fresh [])) (.seq (.bind 6 (.fresh [(.loc 8)])) .skip)))
def DiscriminativeAL_query_b14 : Prog :=
  .ite DiscriminativeAL_query_b12 DiscriminativeAL_query_b13 (.seq (.writeAttr 3 (.alias (.loc 6))) DiscriminativeAL_query_b11)
def DiscriminativeAL_query_b15 : Prog :=
  .seq (.bind 9 (.deep (.loc 10))) (.seq (.mutate (.loc 9) []) (.seq (.readAttr 5) .skip))
def DiscriminativeAL_query_b16 : Prog :=
  .ite .skip DiscriminativeAL_query_b15 .skip
def DiscriminativeAL_query_b17 : Prog :=
  .ite DiscriminativeAL_query_b16 .skip (.seq (.bind 7 (.alias (.attr 2))) DiscriminativeAL_query_b14)
def DiscriminativeAL_query_b18 : Prog :=
  .seq (.bind 7 (.fresh [])) (.seq (.bind 8 (.fresh [])) (.seq (.bind 0 (.fresh [])) (.seq (.bind 1 (.fresh [])) (.seq (.bind 3 (.fresh [])) (.seq (.bind 10 (.fresh [])) (.seq (.bind 10 (.fresh [])) (.seq (.writeAttr 5 (.fresh [])) (.seq (.writeAttr 4 (.alias (.attr 1))) (.seq (.readAttr 4) DiscriminativeAL_query_b17)))))))))
def DiscriminativeAL_query_b19 : Prog :=
  .seq (.bind 6 (.fresh [])) (.seq (.bind 5 (.fresh [])) (.seq (.bind 4 (.fresh [])) (.seq (.bind 10 (.fresh [])) (.seq (.bind 9 (.fresh [])) DiscriminativeAL_query_b18))))
def summary_DiscriminativeAL_query : Summary :=
  { params := [0, 1, 2], closedAttrs := [5], safeAttrs := [], body := DiscriminativeAL_query_b19 }
theorem effects_DiscriminativeAL_query : FrameOK summary_DiscriminativeAL_query = true := by decide +kernel
theorem query_DiscriminativeAL_historyFree : HistoryFree summary_DiscriminativeAL_query = true := by decide +kernel

/-! ### BatchBALD  (skactiveml/pool/_bald.py)
attributes: 0=n_MC_samples 1=eps 2=sample_predictions_method_name 3=sample_predictions_dict 4=missing_label 5=random_state 6=greedy_selection 7=method 8=random_state_ 9=missing_label_ 10=n_features_in_
keys: 0=* 1=estimators_ -/
-- BatchBALD.query: locals 0=$ret22 1=sample_predictions_dict@_check_ensemble5 2=$ret18 3=ensemble@_check_ensemble5 4=est_arr@_check_ensemble5 5=$t27 6=$t28 7=$t24 8=$t25 9=ensemble 10=X_cand 11=$ret15 12=X@_transform_candidates4 13=candidates@_transform_candidates4 14=X 15=candidates 16=$ret4 17=$ret2 18=candidates@_validate_data1 19=X@_validate_data1 20=$ret10 21=$ret8 22=candidates@_validate_data2 23=X@_validate_data2 24=$ret13 25=random_state@check_random_state3 26=seed@check_random_state3 27=check_candidates_dict@_validate_data2 28=check_X_dict@_validate_data2 29=utilities@batch_bald7 30=sample_dict 31=query_idx@batch_bald7 32=probs_N_K_C@batch_bald7 33=probs_K_N_C@batch_bald7 34=probas@batch_bald7 35=probas@_aggregate_predict_probas6 36=probas 37=nats_N_K_C@_compute_conditional_entropy9 38=batch_utilities_cand 39=batch_utilities 40=$t38 41=$t36 42=$ret32 43=$ret29
def BatchBALD_query_b0 : Prog :=
  .seq (.bind 4 (.fresh [])) .skip
def BatchBALD_query_b1 : Prog :=
  .seq (.bind 4 (.alias (.sub (.loc 3) 1))) .skip
def BatchBALD_query_b2 : Prog :=
  .seq (.bind 4 (.fresh [])) .skip
def BatchBALD_query_b3 : Prog :=
  .seq (.bind 4 (.fresh [])) .skip
def BatchBALD_query_b4 : Prog :=
  .ite BatchBALD_query_b3 .abort .skip
def BatchBALD_query_b5 : Prog :=
  .ite BatchBALD_query_b2 BatchBALD_query_b4 .skip
def BatchBALD_query_b6 : Prog :=
  .ite BatchBALD_query_b1 BatchBALD_query_b5 .skip
def BatchBALD_query_b7 : Prog :=
  .ite BatchBALD_query_b0 BatchBALD_query_b6 (.seq (.bind 2 (.alias (.loc 3))) (.seq (.bind 0 (.alias (.loc 1))) .skip))
def BatchBALD_query_b8 : Prog :=
  .seq (.bind 1 (.fresh [])) .abort
def BatchBALD_query_b9 : Prog :=
  .seq (.bind 1 (.copy (.loc 1))) .skip
def BatchBALD_query_b10 : Prog :=
  .ite BatchBALD_query_b9 .skip .skip
def BatchBALD_query_b11 : Prog :=
  .ite BatchBALD_query_b8 BatchBALD_query_b10 .skip
def BatchBALD_query_b12 : Prog :=
  .seq (.bind 1 (.fresh [])) .skip
def BatchBALD_query_b13 : Prog :=
  .ite BatchBALD_query_b12 .skip BatchBALD_query_b11
def BatchBALD_query_b14 : Prog :=
  .ite .abort BatchBALD_query_b13 .skip
def BatchBALD_query_b15 : Prog :=
  .ite .abort .skip .skip
def BatchBALD_query_b16 : Prog :=
  .ite BatchBALD_query_b14 BatchBALD_query_b15 BatchBALD_query_b7
def BatchBALD_query_b17 : Prog :=
  .seq (.bind 5 (.deep (.loc 3))) (.seq (.callFit (.loc 5)) (.seq (.bind 3 (.alias (.loc 5))) .skip))
def BatchBALD_query_b18 : Prog :=
  .seq (.bind 6 (.deep (.loc 3))) (.seq (.callFit (.loc 6)) (.seq (.bind 3 (.alias (.loc 6))) .skip))
def BatchBALD_query_b19 : Prog :=
  .ite BatchBALD_query_b17 BatchBALD_query_b18 .skip
def BatchBALD_query_b20 : Prog :=
  .ite BatchBALD_query_b19 .skip BatchBALD_query_b16
def BatchBALD_query_b21 : Prog :=
  .seq (.callFit (.sub (.loc 4) 0)) (.seq (.mutate (.loc 4) [(.sub (.loc 4) 0)]) .skip)
def BatchBALD_query_b22 : Prog :=
  .seq (.callFit (.sub (.loc 4) 0)) (.seq (.mutate (.loc 4) [(.sub (.loc 4) 0)]) .skip)
def BatchBALD_query_b23 : Prog :=
  .ite BatchBALD_query_b21 BatchBALD_query_b22 .skip
def BatchBALD_query_b24 : Prog :=
  .ite BatchBALD_query_b23 .skip .skip
def BatchBALD_query_b25 : Prog :=
  .ite BatchBALD_query_b24 .skip .skip
def BatchBALD_query_b26 : Prog :=
  .seq (.callFit (.sub (.loc 4) 0)) (.seq (.mutate (.loc 4) [(.sub (.loc 4) 0)]) .skip)
def BatchBALD_query_b27 : Prog :=
  .seq (.callFit (.sub (.loc 4) 0)) (.seq (.mutate (.loc 4) [(.sub (.loc 4) 0)]) .skip)
def BatchBALD_query_b28 : Prog :=
  .ite BatchBALD_query_b26 BatchBALD_query_b27 .skip
def BatchBALD_query_b29 : Prog :=
  .ite BatchBALD_query_b28 .skip BatchBALD_query_b25
def BatchBALD_query_b30 : Prog :=
  .ite BatchBALD_query_b29 .skip (.seq (.bind 2 (.alias (.loc 3))) (.seq (.bind 0 (.fresh [])) .skip))
def BatchBALD_query_b31 : Prog :=
  .seq (.bind 4 (.deep (.loc 3))) BatchBALD_query_b30
def BatchBALD_query_b32 : Prog :=
  .ite .abort BatchBALD_query_b31 .skip
def BatchBALD_query_b33 : Prog :=
  .ite BatchBALD_query_b32 .skip .skip
def BatchBALD_query_b34 : Prog :=
  .seq (.bind 3 (.fresh [])) BatchBALD_query_b33
def BatchBALD_query_b35 : Prog :=
  .ite BatchBALD_query_b20 BatchBALD_query_b34 .skip
def BatchBALD_query_b36 : Prog :=
  .ite BatchBALD_query_b35 .skip .skip
def BatchBALD_query_b37 : Prog :=
  .seq (.bind 4 (.fresh [])) .skip
def BatchBALD_query_b38 : Prog :=
  .seq (.bind 4 (.alias (.sub (.loc 3) 1))) .skip
def BatchBALD_query_b39 : Prog :=
  .seq (.bind 4 (.fresh [])) .skip
def BatchBALD_query_b40 : Prog :=
  .seq (.bind 4 (.fresh [])) .skip
def BatchBALD_query_b41 : Prog :=
  .ite BatchBALD_query_b40 .abort .skip
def BatchBALD_query_b42 : Prog :=
  .ite BatchBALD_query_b39 BatchBALD_query_b41 .skip
def BatchBALD_query_b43 : Prog :=
  .ite BatchBALD_query_b38 BatchBALD_query_b42 .skip
def BatchBALD_query_b44 : Prog :=
  .ite BatchBALD_query_b37 BatchBALD_query_b43 (.seq (.bind 2 (.alias (.loc 3))) (.seq (.bind 0 (.alias (.loc 1))) .skip))
def BatchBALD_query_b45 : Prog :=
  .seq (.bind 1 (.fresh [])) .abort
def BatchBALD_query_b46 : Prog :=
  .seq (.bind 1 (.copy (.loc 1))) .skip
def BatchBALD_query_b47 : Prog :=
  .ite BatchBALD_query_b46 .skip .skip
def BatchBALD_query_b48 : Prog :=
  .ite BatchBALD_query_b45 BatchBALD_query_b47 .skip
def BatchBALD_query_b49 : Prog :=
  .seq (.bind 1 (.fresh [])) .skip
def BatchBALD_query_b50 : Prog :=
  .ite BatchBALD_query_b49 .skip BatchBALD_query_b48
def BatchBALD_query_b51 : Prog :=
  .ite .abort BatchBALD_query_b50 .skip
def BatchBALD_query_b52 : Prog :=
  .ite .abort .skip .skip
def BatchBALD_query_b53 : Prog :=
  .ite BatchBALD_query_b51 BatchBALD_query_b52 BatchBALD_query_b44
def BatchBALD_query_b54 : Prog :=
  .seq (.bind 7 (.deep (.loc 3))) (.seq (.callFit (.loc 7)) (.seq (.bind 3 (.alias (.loc 7))) .skip))
def BatchBALD_query_b55 : Prog :=
  .seq (.bind 8 (.deep (.loc 3))) (.seq (.callFit (.loc 8)) (.seq (.bind 3 (.alias (.loc 8))) .skip))
def BatchBALD_query_b56 : Prog :=
  .ite BatchBALD_query_b54 BatchBALD_query_b55 .skip
def BatchBALD_query_b57 : Prog :=
  .ite BatchBALD_query_b56 .skip BatchBALD_query_b53
def BatchBALD_query_b58 : Prog :=
  .seq (.callFit (.sub (.loc 4) 0)) (.seq (.mutate (.loc 4) [(.sub (.loc 4) 0)]) .skip)
def BatchBALD_query_b59 : Prog :=
  .seq (.callFit (.sub (.loc 4) 0)) (.seq (.mutate (.loc 4) [(.sub (.loc 4) 0)]) .skip)
def BatchBALD_query_b60 : Prog :=
  .ite BatchBALD_query_b58 BatchBALD_query_b59 .skip
def BatchBALD_query_b61 : Prog :=
  .ite BatchBALD_query_b60 .skip .skip
def BatchBALD_query_b62 : Prog :=
  .ite BatchBALD_query_b61 .skip .skip
def BatchBALD_query_b63 : Prog :=
  .seq (.callFit (.sub (.loc 4) 0)) (.seq (.mutate (.loc 4) [(.sub (.loc 4) 0)]) .skip)
def BatchBALD_query_b64 : Prog :=
  .seq (.callFit (.sub (.loc 4) 0)) (.seq (.mutate (.loc 4) [(.sub (.loc 4) 0)]) .skip)
def BatchBALD_query_b65 : Prog :=
  .ite BatchBALD_query_b63 BatchBALD_query_b64 .skip
def BatchBALD_query_b66 : Prog :=
  .ite BatchBALD_query_b65 .skip BatchBALD_query_b62
def BatchBALD_query_b67 : Prog :=
  .ite BatchBALD_query_b66 .skip (.seq (.bind 2 (.alias (.loc 3))) (.seq (.bind 0 (.fresh [])) .skip))
def BatchBALD_query_b68 : Prog :=
  .seq (.bind 4 (.deep (.loc 3))) BatchBALD_query_b67
def BatchBALD_query_b69 : Prog :=
  .ite .abort BatchBALD_query_b68 .skip
def BatchBALD_query_b70 : Prog :=
  .ite BatchBALD_query_b69 .skip .skip
def BatchBALD_query_b71 : Prog :=
  .seq (.bind 3 (.fresh [])) BatchBALD_query_b70
def BatchBALD_query_b72 : Prog :=
  .ite BatchBALD_query_b57 BatchBALD_query_b71 BatchBALD_query_b36
def BatchBALD_query_b73 : Prog :=
  .ite BatchBALD_query_b72 .skip .abort
def BatchBALD_query_b74 : Prog :=
  .seq (.readAttr 9) (.seq (.bind 11 (.alias (.sub (.loc 12) 0))) .skip)
def BatchBALD_query_b75 : Prog :=
  .seq (.bind 11 (.alias (.sub (.loc 12) 0))) .skip
def BatchBALD_query_b76 : Prog :=
  .seq (.bind 11 (.alias (.loc 13))) .skip
def BatchBALD_query_b77 : Prog :=
  .ite BatchBALD_query_b75 BatchBALD_query_b76 .skip
def BatchBALD_query_b78 : Prog :=
  .ite BatchBALD_query_b74 BatchBALD_query_b77 (.seq (.bind 10 (.alias (.loc 11))) (.seq (.readAttr 9) (.seq (.readAttr 8) (.seq (.bind 3 (.alias (.loc 9))) (.seq (.bind 1 (.alias (.attr 3))) BatchBALD_query_b73)))))
def BatchBALD_query_b79 : Prog :=
  .seq (.readAttr 9) .skip
def BatchBALD_query_b80 : Prog :=
  .ite BatchBALD_query_b79 .skip (.seq (.bind 17 (.alias (.loc 19))) (.seq (.bind 16 (.alias (.loc 18))) (.seq (.bind 14 (.alias (.loc 17))) (.seq (.bind 15 (.alias (.loc 16))) (.seq (.bind 13 (.alias (.loc 15))) (.seq (.bind 12 (.alias (.loc 14))) BatchBALD_query_b78))))))
def BatchBALD_query_b81 : Prog :=
  .seq (.bind 24 (.alias (.loc 25))) .skip
def BatchBALD_query_b82 : Prog :=
  .seq (.bind 25 (.deep (.loc 25))) (.seq (.bind 25 (.alias (.loc 25))) (.seq (.bind 26 (.fresh [])) (.seq (.bind 24 (.fresh [(.loc 26)])) .skip)))
def BatchBALD_query_b83 : Prog :=
  .ite BatchBALD_query_b81 BatchBALD_query_b82 (.seq (.writeAttr 8 (.alias (.loc 24))) (.seq (.bind 21 (.alias (.loc 23))) (.seq (.bind 20 (.alias (.loc 22))) (.seq (.bind 19 (.alias (.loc 21))) (.seq (.bind 18 (.alias (.loc 20))) BatchBALD_query_b80)))))
def BatchBALD_query_b84 : Prog :=
  .seq (.bind 22 (.fresh [])) .skip
def BatchBALD_query_b85 : Prog :=
  .seq (.bind 27 (.deep (.loc 28))) (.seq (.mutate (.loc 27) []) (.seq (.bind 22 (.alias (.loc 22))) (.seq (.readAttr 10) .skip)))
def BatchBALD_query_b86 : Prog :=
  .ite BatchBALD_query_b84 BatchBALD_query_b85 .skip
def BatchBALD_query_b87 : Prog :=
  .seq (.bind 22 (.copy (.loc 22))) BatchBALD_query_b86
def BatchBALD_query_b88 : Prog :=
  .ite BatchBALD_query_b87 .skip (.seq (.bind 25 (.alias (.attr 5))) BatchBALD_query_b83)
def BatchBALD_query_b89 : Prog :=
  .seq (.bind 19 (.alias (.loc 14))) (.seq (.bind 18 (.alias (.loc 15))) (.seq (.bind 23 (.alias (.loc 19))) (.seq (.bind 22 (.alias (.loc 18))) (.seq (.bind 28 (.fresh [])) (.seq (.bind 28 (.fresh [])) (.seq (.bind 23 (.alias (.loc 23))) (.seq (.writeAttr 10 (.fresh [])) (.seq (.writeAttr 9 (.alias (.attr 4))) (.seq (.readAttr 9) BatchBALD_query_b88)))))))))
def BatchBALD_query_b90 : Prog :=
  .seq (.bind 35 (.fresh [])) (.seq (.bind 34 (.fresh [])) (.seq (.bind 33 (.fresh [])) (.seq (.bind 32 (.fresh [])) (.seq (.bind 31 (.fresh [])) (.seq (.bind 25 (.fresh [])) (.seq (.bind 30 (.fresh [])) (.seq (.bind 1 (.fresh [])) (.seq (.bind 26 (.fresh [])) (.seq (.bind 29 (.fresh [])) BatchBALD_query_b89)))))))))
def BatchBALD_query_b91 : Prog :=
  .seq (.bind 38 (.fresh [])) (.seq (.bind 13 (.fresh [])) (.seq (.bind 18 (.fresh [])) (.seq (.bind 22 (.fresh [])) (.seq (.bind 28 (.fresh [])) (.seq (.bind 27 (.fresh [])) (.seq (.bind 3 (.fresh [])) (.seq (.bind 4 (.fresh [])) (.seq (.bind 37 (.fresh [])) (.seq (.bind 36 (.fresh [])) BatchBALD_query_b90)))))))))
def BatchBALD_query_b92 : Prog :=
  .seq (.bind 8 (.fresh [])) (.seq (.bind 5 (.fresh [])) (.seq (.bind 6 (.fresh [])) (.seq (.bind 41 (.fresh [])) (.seq (.bind 40 (.fresh [])) (.seq (.bind 12 (.fresh [])) (.seq (.bind 19 (.fresh [])) (.seq (.bind 23 (.fresh [])) (.seq (.bind 10 (.fresh [])) (.seq (.bind 39 (.fresh [])) BatchBALD_query_b91)))))))))
def BatchBALD_query_b93 : Prog :=
  .seq (.bind 24 (.fresh [])) (.seq (.bind 11 (.fresh [])) (.seq (.bind 2 (.fresh [])) (.seq (.bind 17 (.fresh [])) (.seq (.bind 0 (.fresh [])) (.seq (.bind 43 (.fresh [])) (.seq (.bind 42 (.fresh [])) (.seq (.bind 16 (.fresh [])) (.seq (.bind 21 (.fresh [])) (.seq (.bind 7 (.fresh [])) BatchBALD_query_b92)))))))))
def BatchBALD_query_b94 : Prog :=
  .seq (.bind 20 (.fresh [])) BatchBALD_query_b93
def summary_BatchBALD_query : Summary :=
  { params := [0, 1, 2, 3, 4, 5, 6, 7], closedAttrs := [10], safeAttrs := [], body := BatchBALD_query_b94 }
theorem effects_BatchBALD_query : FrameOK summary_BatchBALD_query = true := by decide +kernel
theorem query_BatchBALD_historyFree : HistoryFree summary_BatchBALD_query = true := by decide +kernel

/-! ### Clue  (skactiveml/pool/_clue.py)
attributes: 0=missing_label 1=random_state 2=cluster_algo 3=cluster_algo_dict 4=n_cluster_param_name 5=method 6=clf_embedding_flag_name 7=random_state_ 8=missing_label_ 9=n_features_in_
keys: 0=* 1=0 -/
-- Clue.query: locals 0=$t22 1=idx_b 2=utilities 3=$t21 4=cluster_obj 5=cluster_algo_dict 6=batch_size 7=clf 8=$t18 9=$t19 10=$c17 11=$ret5 12=batch_size@_validate_data1 13=n_candidates@_validate_data1 14=$ret11 15=batch_size@_validate_data2 16=$ret13 17=random_state@check_random_state3 18=seed@check_random_state3 19=check_candidates_dict@_validate_data2 20=check_X_dict@_validate_data2
def Clue_query_b0 : Prog :=
  .seq (.mutate (.sub (.loc 2) 0) []) (.seq (.mutate (.sub (.loc 2) 0) []) (.seq (.readAttr 7) (.seq (.bind 1 (.fresh [])) (.seq (.bind 0 (.fresh [])) (.seq (.mutate (.loc 0) [(.sub (.loc 1) 1)]) .skip)))))
def Clue_query_b1 : Prog :=
  .ite Clue_query_b0 .skip .skip
def Clue_query_b2 : Prog :=
  .seq (.mutate (.sub (.loc 2) 0) []) (.seq (.mutate (.sub (.loc 2) 0) []) (.seq (.readAttr 7) (.seq (.bind 1 (.fresh [])) (.seq (.bind 3 (.fresh [])) (.seq (.mutate (.loc 3) [(.sub (.loc 1) 1)]) Clue_query_b1)))))
def Clue_query_b3 : Prog :=
  .ite Clue_query_b2 .skip .skip
def Clue_query_b4 : Prog :=
  .seq (.readAttr 7) (.seq (.mutate (.loc 5) []) .skip)
def Clue_query_b5 : Prog :=
  .ite Clue_query_b4 .skip (.seq (.bind 4 (.fresh [(.sub (.loc 5) 0)])) (.seq (.callFit (.loc 4)) (.seq (.bind 2 (.fresh [])) Clue_query_b3)))
def Clue_query_b6 : Prog :=
  .ite .skip .abort .skip
def Clue_query_b7 : Prog :=
  .ite .skip Clue_query_b6 .skip
def Clue_query_b8 : Prog :=
  .ite .skip Clue_query_b7 .skip
def Clue_query_b9 : Prog :=
  .ite .abort Clue_query_b8 (.seq (.mutate (.loc 5) [(.loc 6)]) Clue_query_b5)
def Clue_query_b10 : Prog :=
  .seq (.bind 8 (.deep (.loc 7))) (.seq (.callFit (.loc 8)) (.seq (.bind 7 (.alias (.loc 8))) .skip))
def Clue_query_b11 : Prog :=
  .seq (.bind 9 (.deep (.loc 7))) (.seq (.callFit (.loc 9)) (.seq (.bind 7 (.alias (.loc 9))) .skip))
def Clue_query_b12 : Prog :=
  .ite Clue_query_b10 Clue_query_b11 .skip
def Clue_query_b13 : Prog :=
  .ite Clue_query_b12 .skip Clue_query_b9
def Clue_query_b14 : Prog :=
  .seq (.bind 10 (.fresh [])) .skip
def Clue_query_b15 : Prog :=
  .seq (.bind 10 (.copy (.attr 3))) .skip
def Clue_query_b16 : Prog :=
  .ite Clue_query_b14 Clue_query_b15 (.seq (.bind 5 (.alias (.loc 10))) (.seq (.readAttr 8) Clue_query_b13))
def Clue_query_b17 : Prog :=
  .seq (.readAttr 8) .skip
def Clue_query_b18 : Prog :=
  .ite .skip .abort .skip
def Clue_query_b19 : Prog :=
  .ite Clue_query_b17 Clue_query_b18 Clue_query_b16
def Clue_query_b20 : Prog :=
  .seq (.bind 12 (.alias (.loc 13))) .skip
def Clue_query_b21 : Prog :=
  .ite Clue_query_b20 .skip (.seq (.bind 11 (.alias (.loc 12))) (.seq (.bind 6 (.alias (.loc 11))) Clue_query_b19))
def Clue_query_b22 : Prog :=
  .seq (.readAttr 8) (.seq (.bind 13 (.fresh [])) .skip)
def Clue_query_b23 : Prog :=
  .seq (.bind 13 (.fresh [])) .skip
def Clue_query_b24 : Prog :=
  .ite Clue_query_b22 Clue_query_b23 Clue_query_b21
def Clue_query_b25 : Prog :=
  .seq (.bind 16 (.alias (.loc 17))) .skip
def Clue_query_b26 : Prog :=
  .seq (.bind 17 (.deep (.loc 17))) (.seq (.bind 17 (.alias (.loc 17))) (.seq (.bind 18 (.fresh [])) (.seq (.bind 16 (.fresh [(.loc 18)])) .skip)))
def Clue_query_b27 : Prog :=
  .ite Clue_query_b25 Clue_query_b26 (.seq (.writeAttr 7 (.alias (.loc 16))) (.seq (.bind 14 (.alias (.loc 15))) (.seq (.bind 12 (.alias (.loc 14))) Clue_query_b24)))
def Clue_query_b28 : Prog :=
  .seq (.bind 19 (.deep (.loc 20))) (.seq (.mutate (.loc 19) []) (.seq (.readAttr 9) .skip))
def Clue_query_b29 : Prog :=
  .ite .skip Clue_query_b28 .skip
def Clue_query_b30 : Prog :=
  .ite Clue_query_b29 .skip (.seq (.bind 17 (.alias (.attr 1))) Clue_query_b27)
def Clue_query_b31 : Prog :=
  .seq (.bind 17 (.fresh [])) (.seq (.bind 18 (.fresh [])) (.seq (.bind 2 (.fresh [])) (.seq (.bind 12 (.alias (.loc 6))) (.seq (.bind 15 (.alias (.loc 12))) (.seq (.bind 20 (.fresh [])) (.seq (.bind 20 (.fresh [])) (.seq (.writeAttr 9 (.fresh [])) (.seq (.writeAttr 8 (.alias (.attr 0))) (.seq (.readAttr 8) Clue_query_b30)))))))))
def Clue_query_b32 : Prog :=
  .seq (.bind 3 (.fresh [])) (.seq (.bind 0 (.fresh [])) (.seq (.bind 12 (.fresh [])) (.seq (.bind 15 (.fresh [])) (.seq (.bind 20 (.fresh [])) (.seq (.bind 19 (.fresh [])) (.seq (.bind 5 (.fresh [])) (.seq (.bind 4 (.fresh [])) (.seq (.bind 1 (.fresh [])) (.seq (.bind 13 (.fresh [])) Clue_query_b31)))))))))
def Clue_query_b33 : Prog :=
  .seq (.bind 10 (.fresh [])) (.seq (.bind 14 (.fresh [])) (.seq (.bind 16 (.fresh [])) (.seq (.bind 11 (.fresh [])) (.seq (.bind 8 (.fresh [])) (.seq (.bind 9 (.fresh [])) Clue_query_b32)))))
def summary_Clue_query : Summary :=
  { params := [0, 1, 2, 3, 4, 5, 6], closedAttrs := [], safeAttrs := [9], body := Clue_query_b33 }
theorem effects_Clue_query : FrameOK summary_Clue_query = true := by decide +kernel
theorem query_Clue_historyFree : HistoryFree summary_Clue_query = true := by decide +kernel

/-! ### DropQuery  (skactiveml/pool/_drop_query.py)
attributes: 0=dropout_rate 1=n_dropout_samples 2=cluster_algo 3=cluster_algo_dict 4=n_cluster_param_name 5=clf_embedding_flag_name 6=missing_label 7=random_state 8=random_state_ 9=missing_label_ 10=n_features_in_
keys: 0=* 1=0 -/
-- DropQuery.query: locals 0=$t21 1=idx_b 2=utilities 3=$t20 4=cluster_obj 5=cluster_algo_dict 6=batch_size 7=y_pred_dropout 8=X_dropout 9=X_cand 10=y_pred 11=clf 12=$t18 13=$t19 14=$c17 15=$ret15 16=X@_transform_candidates4 17=X 18=$ret5 19=$ret2 20=batch_size@_validate_data1 21=X@_validate_data1 22=n_candidates@_validate_data1 23=$ret11 24=$ret8 25=batch_size@_validate_data2 26=X@_validate_data2 27=$ret13 28=random_state@check_random_state3 29=seed@check_random_state3 30=check_candidates_dict@_validate_data2 31=check_X_dict@_validate_data2
def DropQuery_query_b0 : Prog :=
  .seq (.mutate (.sub (.loc 2) 0) []) (.seq (.mutate (.sub (.loc 2) 0) []) (.seq (.mutate (.sub (.loc 2) 0) []) (.seq (.readAttr 8) (.seq (.bind 1 (.fresh [])) (.seq (.bind 0 (.fresh [])) (.seq (.mutate (.loc 0) [(.sub (.loc 1) 1)]) .skip))))))
def DropQuery_query_b1 : Prog :=
  .ite DropQuery_query_b0 .skip .skip
def DropQuery_query_b2 : Prog :=
  .seq (.mutate (.sub (.loc 2) 0) []) (.seq (.mutate (.sub (.loc 2) 0) []) (.seq (.mutate (.sub (.loc 2) 0) []) (.seq (.readAttr 8) (.seq (.bind 1 (.fresh [])) (.seq (.bind 3 (.fresh [])) (.seq (.mutate (.loc 3) [(.sub (.loc 1) 1)]) DropQuery_query_b1))))))
def DropQuery_query_b3 : Prog :=
  .ite DropQuery_query_b2 .skip .skip
def DropQuery_query_b4 : Prog :=
  .seq (.readAttr 8) (.seq (.mutate (.loc 5) []) .skip)
def DropQuery_query_b5 : Prog :=
  .ite DropQuery_query_b4 .skip (.seq (.bind 4 (.fresh [(.sub (.loc 5) 0)])) (.seq (.callFit (.loc 4)) (.seq (.bind 2 (.fresh [])) DropQuery_query_b3)))
def DropQuery_query_b6 : Prog :=
  .seq (.bind 8 (.copy (.loc 9))) (.seq (.readAttr 8) (.seq (.mutate (.loc 8) []) (.seq (.mutate (.loc 7) []) .skip)))
def DropQuery_query_b7 : Prog :=
  .ite DropQuery_query_b6 .skip .skip
def DropQuery_query_b8 : Prog :=
  .seq (.bind 8 (.copy (.loc 9))) (.seq (.readAttr 8) (.seq (.mutate (.loc 8) []) (.seq (.mutate (.loc 7) []) DropQuery_query_b7)))
def DropQuery_query_b9 : Prog :=
  .ite DropQuery_query_b8 .skip (.seq (.mutate (.loc 5) [(.loc 6)]) DropQuery_query_b5)
def DropQuery_query_b10 : Prog :=
  .seq (.bind 10 (.fresh [])) (.seq (.bind 9 (.fresh [])) .skip)
def DropQuery_query_b11 : Prog :=
  .seq (.bind 10 (.alias (.sub (.loc 10) 0))) (.seq (.bind 9 (.alias (.sub (.loc 10) 0))) .skip)
def DropQuery_query_b12 : Prog :=
  .seq (.bind 10 (.fresh [])) .skip
def DropQuery_query_b13 : Prog :=
  .ite DropQuery_query_b11 DropQuery_query_b12 .skip
def DropQuery_query_b14 : Prog :=
  .seq (.bind 10 (.fresh [])) DropQuery_query_b13
def DropQuery_query_b15 : Prog :=
  .ite DropQuery_query_b10 DropQuery_query_b14 (.seq (.bind 7 (.fresh [])) DropQuery_query_b9)
def DropQuery_query_b16 : Prog :=
  .seq (.bind 12 (.deep (.loc 11))) (.seq (.callFit (.loc 12)) (.seq (.bind 11 (.alias (.loc 12))) .skip))
def DropQuery_query_b17 : Prog :=
  .seq (.bind 13 (.deep (.loc 11))) (.seq (.callFit (.loc 13)) (.seq (.bind 11 (.alias (.loc 13))) .skip))
def DropQuery_query_b18 : Prog :=
  .ite DropQuery_query_b16 DropQuery_query_b17 .skip
def DropQuery_query_b19 : Prog :=
  .ite DropQuery_query_b18 .skip DropQuery_query_b15
def DropQuery_query_b20 : Prog :=
  .seq (.bind 14 (.fresh [])) .skip
def DropQuery_query_b21 : Prog :=
  .seq (.bind 14 (.copy (.attr 3))) .skip
def DropQuery_query_b22 : Prog :=
  .ite DropQuery_query_b20 DropQuery_query_b21 (.seq (.bind 5 (.alias (.loc 14))) (.seq (.readAttr 9) DropQuery_query_b19))
def DropQuery_query_b23 : Prog :=
  .seq (.readAttr 9) (.seq (.bind 15 (.alias (.sub (.loc 16) 0))) .skip)
def DropQuery_query_b24 : Prog :=
  .seq (.bind 15 (.alias (.sub (.loc 16) 0))) .skip
def DropQuery_query_b25 : Prog :=
  .ite DropQuery_query_b24 .abort .skip
def DropQuery_query_b26 : Prog :=
  .ite DropQuery_query_b23 DropQuery_query_b25 (.seq (.bind 9 (.alias (.loc 15))) DropQuery_query_b22)
def DropQuery_query_b27 : Prog :=
  .seq (.bind 20 (.alias (.loc 22))) .skip
def DropQuery_query_b28 : Prog :=
  .ite DropQuery_query_b27 .skip (.seq (.bind 19 (.alias (.loc 21))) (.seq (.bind 18 (.alias (.loc 20))) (.seq (.bind 17 (.alias (.loc 19))) (.seq (.bind 6 (.alias (.loc 18))) (.seq (.bind 16 (.alias (.loc 17))) DropQuery_query_b26)))))
def DropQuery_query_b29 : Prog :=
  .seq (.readAttr 9) (.seq (.bind 22 (.fresh [])) .skip)
def DropQuery_query_b30 : Prog :=
  .seq (.bind 22 (.fresh [])) .skip
def DropQuery_query_b31 : Prog :=
  .ite DropQuery_query_b29 DropQuery_query_b30 DropQuery_query_b28
def DropQuery_query_b32 : Prog :=
  .seq (.bind 27 (.alias (.loc 28))) .skip
def DropQuery_query_b33 : Prog :=
  .seq (.bind 28 (.deep (.loc 28))) (.seq (.bind 28 (.alias (.loc 28))) (.seq (.bind 29 (.fresh [])) (.seq (.bind 27 (.fresh [(.loc 29)])) .skip)))
def DropQuery_query_b34 : Prog :=
  .ite DropQuery_query_b32 DropQuery_query_b33 (.seq (.writeAttr 8 (.alias (.loc 27))) (.seq (.bind 24 (.alias (.loc 26))) (.seq (.bind 23 (.alias (.loc 25))) (.seq (.bind 21 (.alias (.loc 24))) (.seq (.bind 20 (.alias (.loc 23))) DropQuery_query_b31)))))
def DropQuery_query_b35 : Prog :=
  .seq (.bind 30 (.deep (.loc 31))) (.seq (.mutate (.loc 30) []) (.seq (.readAttr 10) .skip))
def DropQuery_query_b36 : Prog :=
  .ite .skip DropQuery_query_b35 .skip
def DropQuery_query_b37 : Prog :=
  .ite DropQuery_query_b36 .skip (.seq (.bind 28 (.alias (.attr 7))) DropQuery_query_b34)
def DropQuery_query_b38 : Prog :=
  .seq (.bind 21 (.alias (.loc 17))) (.seq (.bind 20 (.alias (.loc 6))) (.seq (.bind 26 (.alias (.loc 21))) (.seq (.bind 25 (.alias (.loc 20))) (.seq (.bind 31 (.fresh [])) (.seq (.bind 31 (.fresh [])) (.seq (.bind 26 (.alias (.loc 26))) (.seq (.writeAttr 10 (.fresh [])) (.seq (.writeAttr 9 (.alias (.attr 6))) (.seq (.readAttr 9) DropQuery_query_b37)))))))))
def DropQuery_query_b39 : Prog :=
  .seq (.bind 30 (.fresh [])) (.seq (.bind 5 (.fresh [])) (.seq (.bind 4 (.fresh [])) (.seq (.bind 1 (.fresh [])) (.seq (.bind 22 (.fresh [])) (.seq (.bind 28 (.fresh [])) (.seq (.bind 29 (.fresh [])) (.seq (.bind 2 (.fresh [])) (.seq (.bind 10 (.fresh [])) (.seq (.bind 7 (.fresh [])) DropQuery_query_b38)))))))))
def DropQuery_query_b40 : Prog :=
  .seq (.bind 3 (.fresh [])) (.seq (.bind 0 (.fresh [])) (.seq (.bind 16 (.fresh [])) (.seq (.bind 21 (.fresh [])) (.seq (.bind 26 (.fresh [])) (.seq (.bind 9 (.fresh [])) (.seq (.bind 8 (.fresh [])) (.seq (.bind 20 (.fresh [])) (.seq (.bind 25 (.fresh [])) (.seq (.bind 31 (.fresh [])) DropQuery_query_b39)))))))))
def DropQuery_query_b41 : Prog :=
  .seq (.bind 14 (.fresh [])) (.seq (.bind 23 (.fresh [])) (.seq (.bind 27 (.fresh [])) (.seq (.bind 15 (.fresh [])) (.seq (.bind 19 (.fresh [])) (.seq (.bind 18 (.fresh [])) (.seq (.bind 24 (.fresh [])) (.seq (.bind 12 (.fresh [])) (.seq (.bind 13 (.fresh [])) DropQuery_query_b40))))))))
def summary_DropQuery_query : Summary :=
  { params := [0, 1, 2, 3, 4, 5, 6, 7], closedAttrs := [], safeAttrs := [10], body := DropQuery_query_b41 }
theorem effects_DropQuery_query : FrameOK summary_DropQuery_query = true := by decide +kernel
theorem query_DropQuery_historyFree : HistoryFree summary_DropQuery_query = true := by decide +kernel

/-! ### CoreSet  (skactiveml/pool/_core_set.py)
attributes: 0=missing_label 1=random_state 2=missing_label_ 3=random_state_ 4=n_features_in_
keys: 0=* -/
-- CoreSet.query: locals 0=query_indices@k_greedy_center5 1=utilities@k_greedy_center5 2=result_dist@_update_distances8 3=result_dist@_update_distances9 4=l_distance@_update_distances9 5=latest_distance_tmp@_update_distances9 6=latest_distance@_update_distances9 7=latest_dist@k_greedy_center5 8=result_dist@_update_distances6 9=result_dist@_update_distances7 10=l_distance@_update_distances7 11=latest_distance_tmp@_update_distances7 12=latest_distance@_update_distances7 13=query_indices@k_greedy_center10 14=utilities@k_greedy_center10 15=result_dist@_update_distances13 16=result_dist@_update_distances14 17=l_distance@_update_distances14 18=latest_distance_tmp@_update_distances14 19=latest_distance@_update_distances14 20=latest_dist@k_greedy_center10 21=result_dist@_update_distances11 22=result_dist@_update_distances12 23=l_distance@_update_distances12 24=latest_distance_tmp@_update_distances12 25=latest_distance@_update_distances12 26=$ret13 27=random_state@check_random_state3 28=seed@check_random_state3 29=check_candidates_dict@_validate_data2 30=check_X_dict@_validate_data2
def CoreSet_query_b0 : Prog :=
  .seq (.bind 2 (.fresh [])) (.seq (.mutate (.loc 2) []) (.seq (.mutate (.loc 2) []) .skip))
def CoreSet_query_b1 : Prog :=
  .seq (.bind 5 (.copy (.loc 6))) (.seq (.mutate (.loc 5) []) .skip)
def CoreSet_query_b2 : Prog :=
  .ite CoreSet_query_b1 .skip (.seq (.bind 4 (.fresh [])) (.seq (.mutate (.loc 4) []) .skip))
def CoreSet_query_b3 : Prog :=
  .seq (.bind 5 (.alias (.loc 6))) CoreSet_query_b2
def CoreSet_query_b4 : Prog :=
  .ite CoreSet_query_b3 .skip (.seq (.bind 3 (.fresh [])) (.seq (.mutate (.loc 3) []) (.seq (.mutate (.loc 3) []) .skip)))
def CoreSet_query_b5 : Prog :=
  .seq (.bind 7 (.alias (.sub (.loc 1) 0))) (.seq (.bind 6 (.alias (.loc 7))) CoreSet_query_b4)
def CoreSet_query_b6 : Prog :=
  .ite CoreSet_query_b0 CoreSet_query_b5 (.seq (.mutate (.loc 1) []) (.seq (.mutate (.loc 0) []) .skip))
def CoreSet_query_b7 : Prog :=
  .ite CoreSet_query_b6 .skip .skip
def CoreSet_query_b8 : Prog :=
  .seq (.bind 8 (.fresh [])) (.seq (.mutate (.loc 8) []) (.seq (.mutate (.loc 8) []) .skip))
def CoreSet_query_b9 : Prog :=
  .seq (.bind 11 (.copy (.loc 12))) (.seq (.mutate (.loc 11) []) .skip)
def CoreSet_query_b10 : Prog :=
  .ite CoreSet_query_b9 .skip (.seq (.bind 10 (.fresh [])) (.seq (.mutate (.loc 10) []) .skip))
def CoreSet_query_b11 : Prog :=
  .seq (.bind 11 (.alias (.loc 12))) CoreSet_query_b10
def CoreSet_query_b12 : Prog :=
  .ite CoreSet_query_b11 .skip (.seq (.bind 9 (.fresh [])) (.seq (.mutate (.loc 9) []) (.seq (.mutate (.loc 9) []) .skip)))
def CoreSet_query_b13 : Prog :=
  .seq (.bind 7 (.alias (.sub (.loc 1) 0))) (.seq (.bind 12 (.alias (.loc 7))) CoreSet_query_b12)
def CoreSet_query_b14 : Prog :=
  .ite CoreSet_query_b8 CoreSet_query_b13 (.seq (.mutate (.loc 1) []) (.seq (.mutate (.loc 0) []) CoreSet_query_b7))
def CoreSet_query_b15 : Prog :=
  .ite CoreSet_query_b14 .skip .skip
def CoreSet_query_b16 : Prog :=
  .seq (.bind 1 (.fresh [])) (.seq (.bind 0 (.fresh [])) CoreSet_query_b15)
def CoreSet_query_b17 : Prog :=
  .ite .abort CoreSet_query_b16 .skip
def CoreSet_query_b18 : Prog :=
  .seq (.readAttr 3) (.seq (.readAttr 2) CoreSet_query_b17)
def CoreSet_query_b19 : Prog :=
  .seq (.mutate (.loc 14) []) .skip
def CoreSet_query_b20 : Prog :=
  .seq (.mutate (.loc 14) []) .skip
def CoreSet_query_b21 : Prog :=
  .ite CoreSet_query_b19 CoreSet_query_b20 (.seq (.mutate (.loc 13) []) .skip)
def CoreSet_query_b22 : Prog :=
  .seq (.bind 15 (.fresh [])) (.seq (.mutate (.loc 15) []) (.seq (.mutate (.loc 15) []) .skip))
def CoreSet_query_b23 : Prog :=
  .seq (.bind 18 (.copy (.loc 19))) (.seq (.mutate (.loc 18) []) .skip)
def CoreSet_query_b24 : Prog :=
  .ite CoreSet_query_b23 .skip (.seq (.bind 17 (.fresh [])) (.seq (.mutate (.loc 17) []) .skip))
def CoreSet_query_b25 : Prog :=
  .seq (.bind 18 (.alias (.loc 19))) CoreSet_query_b24
def CoreSet_query_b26 : Prog :=
  .ite CoreSet_query_b25 .skip (.seq (.bind 16 (.fresh [])) (.seq (.mutate (.loc 16) []) (.seq (.mutate (.loc 16) []) .skip)))
def CoreSet_query_b27 : Prog :=
  .seq (.bind 20 (.alias (.sub (.loc 14) 0))) (.seq (.bind 19 (.alias (.loc 20))) CoreSet_query_b26)
def CoreSet_query_b28 : Prog :=
  .ite CoreSet_query_b22 CoreSet_query_b27 CoreSet_query_b21
def CoreSet_query_b29 : Prog :=
  .ite CoreSet_query_b28 .skip .skip
def CoreSet_query_b30 : Prog :=
  .seq (.mutate (.loc 14) []) .skip
def CoreSet_query_b31 : Prog :=
  .seq (.mutate (.loc 14) []) .skip
def CoreSet_query_b32 : Prog :=
  .ite CoreSet_query_b30 CoreSet_query_b31 (.seq (.mutate (.loc 13) []) CoreSet_query_b29)
def CoreSet_query_b33 : Prog :=
  .seq (.bind 21 (.fresh [])) (.seq (.mutate (.loc 21) []) (.seq (.mutate (.loc 21) []) .skip))
def CoreSet_query_b34 : Prog :=
  .seq (.bind 24 (.copy (.loc 25))) (.seq (.mutate (.loc 24) []) .skip)
def CoreSet_query_b35 : Prog :=
  .ite CoreSet_query_b34 .skip (.seq (.bind 23 (.fresh [])) (.seq (.mutate (.loc 23) []) .skip))
def CoreSet_query_b36 : Prog :=
  .seq (.bind 24 (.alias (.loc 25))) CoreSet_query_b35
def CoreSet_query_b37 : Prog :=
  .ite CoreSet_query_b36 .skip (.seq (.bind 22 (.fresh [])) (.seq (.mutate (.loc 22) []) (.seq (.mutate (.loc 22) []) .skip)))
def CoreSet_query_b38 : Prog :=
  .seq (.bind 20 (.alias (.sub (.loc 14) 0))) (.seq (.bind 25 (.alias (.loc 20))) CoreSet_query_b37)
def CoreSet_query_b39 : Prog :=
  .ite CoreSet_query_b33 CoreSet_query_b38 CoreSet_query_b32
def CoreSet_query_b40 : Prog :=
  .ite CoreSet_query_b39 .skip .skip
def CoreSet_query_b41 : Prog :=
  .seq (.bind 14 (.fresh [])) .skip
def CoreSet_query_b42 : Prog :=
  .seq (.bind 14 (.fresh [])) .skip
def CoreSet_query_b43 : Prog :=
  .ite CoreSet_query_b42 .abort .skip
def CoreSet_query_b44 : Prog :=
  .ite CoreSet_query_b43 .abort .skip
def CoreSet_query_b45 : Prog :=
  .ite CoreSet_query_b41 CoreSet_query_b44 (.seq (.bind 13 (.fresh [])) CoreSet_query_b40)
def CoreSet_query_b46 : Prog :=
  .ite .abort CoreSet_query_b45 .skip
def CoreSet_query_b47 : Prog :=
  .seq (.readAttr 2) (.seq (.readAttr 3) (.seq (.readAttr 2) CoreSet_query_b46))
def CoreSet_query_b48 : Prog :=
  .ite CoreSet_query_b18 CoreSet_query_b47 .skip
def CoreSet_query_b49 : Prog :=
  .seq (.readAttr 2) .skip
def CoreSet_query_b50 : Prog :=
  .ite CoreSet_query_b49 .skip CoreSet_query_b48
def CoreSet_query_b51 : Prog :=
  .seq (.readAttr 2) .skip
def CoreSet_query_b52 : Prog :=
  .ite CoreSet_query_b51 .skip CoreSet_query_b50
def CoreSet_query_b53 : Prog :=
  .seq (.bind 26 (.alias (.loc 27))) .skip
def CoreSet_query_b54 : Prog :=
  .seq (.bind 27 (.deep (.loc 27))) (.seq (.bind 27 (.alias (.loc 27))) (.seq (.bind 28 (.fresh [])) (.seq (.bind 26 (.fresh [(.loc 28)])) .skip)))
def CoreSet_query_b55 : Prog :=
  .ite CoreSet_query_b53 CoreSet_query_b54 (.seq (.writeAttr 3 (.alias (.loc 26))) CoreSet_query_b52)
def CoreSet_query_b56 : Prog :=
  .seq (.bind 29 (.deep (.loc 30))) (.seq (.mutate (.loc 29) []) (.seq (.readAttr 4) .skip))
def CoreSet_query_b57 : Prog :=
  .ite .skip CoreSet_query_b56 .skip
def CoreSet_query_b58 : Prog :=
  .ite CoreSet_query_b57 .skip (.seq (.bind 27 (.alias (.attr 1))) CoreSet_query_b55)
def CoreSet_query_b59 : Prog :=
  .seq (.bind 2 (.fresh [])) (.seq (.bind 3 (.fresh [])) (.seq (.bind 28 (.fresh [])) (.seq (.bind 14 (.fresh [])) (.seq (.bind 1 (.fresh [])) (.seq (.bind 30 (.fresh [])) (.seq (.bind 30 (.fresh [])) (.seq (.writeAttr 4 (.fresh [])) (.seq (.writeAttr 2 (.alias (.attr 0))) (.seq (.readAttr 2) CoreSet_query_b58)))))))))
def CoreSet_query_b60 : Prog :=
  .seq (.bind 5 (.fresh [])) (.seq (.bind 13 (.fresh [])) (.seq (.bind 0 (.fresh [])) (.seq (.bind 27 (.fresh [])) (.seq (.bind 21 (.fresh [])) (.seq (.bind 22 (.fresh [])) (.seq (.bind 15 (.fresh [])) (.seq (.bind 16 (.fresh [])) (.seq (.bind 8 (.fresh [])) (.seq (.bind 9 (.fresh [])) CoreSet_query_b59)))))))))
def CoreSet_query_b61 : Prog :=
  .seq (.bind 4 (.fresh [])) (.seq (.bind 20 (.fresh [])) (.seq (.bind 7 (.fresh [])) (.seq (.bind 25 (.fresh [])) (.seq (.bind 19 (.fresh [])) (.seq (.bind 12 (.fresh [])) (.seq (.bind 6 (.fresh [])) (.seq (.bind 24 (.fresh [])) (.seq (.bind 18 (.fresh [])) (.seq (.bind 11 (.fresh [])) CoreSet_query_b60)))))))))
def CoreSet_query_b62 : Prog :=
  .seq (.bind 26 (.fresh [])) (.seq (.bind 30 (.fresh [])) (.seq (.bind 29 (.fresh [])) (.seq (.bind 23 (.fresh [])) (.seq (.bind 17 (.fresh [])) (.seq (.bind 10 (.fresh [])) CoreSet_query_b61)))))
def summary_CoreSet_query : Summary :=
  { params := [0, 1], closedAttrs := [4], safeAttrs := [], body := CoreSet_query_b62 }
theorem effects_CoreSet_query : FrameOK summary_CoreSet_query = true := by decide +kernel
theorem query_CoreSet_historyFree : HistoryFree summary_CoreSet_query = true := by decide +kernel

/-! ### TypiClust  (skactiveml/pool/_typi_clust.py)
attributes: 0=missing_label 1=random_state 2=cluster_algo 3=cluster_algo_dict 4=n_cluster_param_name 5=k 6=random_state_ 7=missing_label_ 8=n_features_in_
keys: 0=* -/
-- TypiClust.query: locals 0=cluster_sizes 1=utilities 2=typicality@_typicality6 3=$t22 4=typicality@_typicality5 5=$t20 6=cluster_obj 7=cluster_algo_dict 8=n_clusters 9=$c17 10=$ret13 11=random_state@check_random_state3 12=seed@check_random_state3 13=check_candidates_dict@_validate_data2 14=check_X_dict@_validate_data2
def TypiClust_query_b0 : Prog :=
  .seq (.mutate (.loc 0) []) .skip
def TypiClust_query_b1 : Prog :=
  .ite TypiClust_query_b0 .skip .skip
def TypiClust_query_b2 : Prog :=
  .seq (.mutate (.loc 2) []) .skip
def TypiClust_query_b3 : Prog :=
  .seq (.bind 3 (.fresh [])) (.seq (.callFit (.loc 3)) (.seq (.mutate (.loc 2) []) .skip))
def TypiClust_query_b4 : Prog :=
  .ite TypiClust_query_b2 TypiClust_query_b3 .skip
def TypiClust_query_b5 : Prog :=
  .seq (.readAttr 6) (.seq (.bind 2 (.fresh [])) TypiClust_query_b4)
def TypiClust_query_b6 : Prog :=
  .ite .skip TypiClust_query_b5 (.seq (.mutate (.loc 1) []) (.seq (.mutate (.loc 1) []) (.seq (.readAttr 6) TypiClust_query_b1)))
def TypiClust_query_b7 : Prog :=
  .ite TypiClust_query_b6 .skip .skip
def TypiClust_query_b8 : Prog :=
  .seq (.mutate (.loc 0) []) .skip
def TypiClust_query_b9 : Prog :=
  .ite TypiClust_query_b8 .skip TypiClust_query_b7
def TypiClust_query_b10 : Prog :=
  .seq (.mutate (.loc 4) []) .skip
def TypiClust_query_b11 : Prog :=
  .seq (.bind 5 (.fresh [])) (.seq (.callFit (.loc 5)) (.seq (.mutate (.loc 4) []) .skip))
def TypiClust_query_b12 : Prog :=
  .ite TypiClust_query_b10 TypiClust_query_b11 .skip
def TypiClust_query_b13 : Prog :=
  .seq (.readAttr 6) (.seq (.bind 4 (.fresh [])) TypiClust_query_b12)
def TypiClust_query_b14 : Prog :=
  .ite .skip TypiClust_query_b13 (.seq (.mutate (.loc 1) []) (.seq (.mutate (.loc 1) []) (.seq (.readAttr 6) TypiClust_query_b9)))
def TypiClust_query_b15 : Prog :=
  .ite TypiClust_query_b14 .skip .skip
def TypiClust_query_b16 : Prog :=
  .seq (.mutate (.loc 0) []) .skip
def TypiClust_query_b17 : Prog :=
  .ite TypiClust_query_b16 .skip (.seq (.bind 1 (.fresh [])) TypiClust_query_b15)
def TypiClust_query_b18 : Prog :=
  .seq (.readAttr 6) (.seq (.mutate (.loc 7) []) .skip)
def TypiClust_query_b19 : Prog :=
  .ite TypiClust_query_b18 .skip (.seq (.bind 6 (.fresh [(.sub (.loc 7) 0)])) (.seq (.callFit (.loc 6)) (.seq (.bind 0 (.fresh [])) (.seq (.mutate (.loc 0) []) TypiClust_query_b17))))
def TypiClust_query_b20 : Prog :=
  .seq (.bind 8 (.fresh [])) (.seq (.mutate (.loc 7) [(.loc 8)]) TypiClust_query_b19)
def TypiClust_query_b21 : Prog :=
  .ite .abort TypiClust_query_b20 .skip
def TypiClust_query_b22 : Prog :=
  .seq (.bind 9 (.fresh [])) .skip
def TypiClust_query_b23 : Prog :=
  .seq (.bind 9 (.copy (.attr 3))) .skip
def TypiClust_query_b24 : Prog :=
  .ite TypiClust_query_b22 TypiClust_query_b23 (.seq (.bind 7 (.alias (.loc 9))) TypiClust_query_b21)
def TypiClust_query_b25 : Prog :=
  .ite .abort TypiClust_query_b24 .skip
def TypiClust_query_b26 : Prog :=
  .seq (.readAttr 7) .skip
def TypiClust_query_b27 : Prog :=
  .ite .skip .abort .skip
def TypiClust_query_b28 : Prog :=
  .ite TypiClust_query_b26 TypiClust_query_b27 TypiClust_query_b25
def TypiClust_query_b29 : Prog :=
  .seq (.readAttr 7) .skip
def TypiClust_query_b30 : Prog :=
  .ite TypiClust_query_b29 .skip TypiClust_query_b28
def TypiClust_query_b31 : Prog :=
  .seq (.bind 10 (.alias (.loc 11))) .skip
def TypiClust_query_b32 : Prog :=
  .seq (.bind 11 (.deep (.loc 11))) (.seq (.bind 11 (.alias (.loc 11))) (.seq (.bind 12 (.fresh [])) (.seq (.bind 10 (.fresh [(.loc 12)])) .skip)))
def TypiClust_query_b33 : Prog :=
  .ite TypiClust_query_b31 TypiClust_query_b32 (.seq (.writeAttr 6 (.alias (.loc 10))) TypiClust_query_b30)
def TypiClust_query_b34 : Prog :=
  .seq (.bind 13 (.deep (.loc 14))) (.seq (.mutate (.loc 13) []) (.seq (.readAttr 8) .skip))
def TypiClust_query_b35 : Prog :=
  .ite .skip TypiClust_query_b34 .skip
def TypiClust_query_b36 : Prog :=
  .ite TypiClust_query_b35 .skip (.seq (.bind 11 (.alias (.attr 1))) TypiClust_query_b33)
def TypiClust_query_b37 : Prog :=
  .seq (.bind 11 (.fresh [])) (.seq (.bind 12 (.fresh [])) (.seq (.bind 4 (.fresh [])) (.seq (.bind 2 (.fresh [])) (.seq (.bind 1 (.fresh [])) (.seq (.bind 14 (.fresh [])) (.seq (.bind 14 (.fresh [])) (.seq (.writeAttr 8 (.fresh [])) (.seq (.writeAttr 7 (.alias (.attr 0))) (.seq (.readAttr 7) TypiClust_query_b36)))))))))
def TypiClust_query_b38 : Prog :=
  .seq (.bind 9 (.fresh [])) (.seq (.bind 10 (.fresh [])) (.seq (.bind 5 (.fresh [])) (.seq (.bind 3 (.fresh [])) (.seq (.bind 14 (.fresh [])) (.seq (.bind 13 (.fresh [])) (.seq (.bind 7 (.fresh [])) (.seq (.bind 6 (.fresh [])) (.seq (.bind 0 (.fresh [])) (.seq (.bind 8 (.fresh [])) TypiClust_query_b37)))))))))
def summary_TypiClust_query : Summary :=
  { params := [0, 1, 2, 3, 4, 5], closedAttrs := [8], safeAttrs := [], body := TypiClust_query_b38 }
theorem effects_TypiClust_query : FrameOK summary_TypiClust_query = true := by decide +kernel
theorem query_TypiClust_historyFree : HistoryFree summary_TypiClust_query = true := by decide +kernel

/-! ### Badge  (skactiveml/pool/_badge.py)
attributes: 0=clf_embedding_flag_name 1=missing_label 2=random_state 3=random_state_ 4=missing_label_ 5=n_features_in_
keys: 0=* 1=0 -/
-- Badge.query: locals 0=$t36 1=idx 2=unlbld_mapping 3=$t35 4=idx_in_unlbld 5=idx_in_unlbld_array 6=utilities 7=d_2 8=$t34 9=$t33 10=$ret28 11=$ret31 12=D2@_d_28 13=d_latest@_d_28 14=D@_d_28 15=$t32 16=g_x@_d_28 17=query_indices@_d_28 18=g_x 19=$t27 20=$t26 21=$t25 22=$t24 23=$ret19 24=$ret22 25=D2@_d_26 26=d_latest@_d_26 27=D@_d_26 28=$t23 29=g_x@_d_26 30=query_indices@_d_26 31=mapping 32=clf 33=$t17 34=$t18 35=$ret16 36=ulbd_idx@_transform_candidates4 37=candidates@_transform_candidates4 38=candidates 39=$ret4 40=candidates@_validate_data1 41=$ret10 42=candidates@_validate_data2 43=$ret13 44=random_state@check_random_state3 45=seed@check_random_state3 46=check_candidates_dict@_validate_data2 47=check_X_dict@_validate_data2
def Badge_query_b0 : Prog :=
  .seq (.bind 4 (.fresh [])) .skip
def Badge_query_b1 : Prog :=
  .seq (.readAttr 3) (.seq (.bind 5 (.fresh [])) (.seq (.bind 4 (.alias (.sub (.loc 5) 1))) .skip))
def Badge_query_b2 : Prog :=
  .ite Badge_query_b0 Badge_query_b1 (.seq (.bind 3 (.fresh [])) (.seq (.mutate (.loc 3) [(.loc 4)]) (.seq (.bind 1 (.alias (.sub (.loc 2) 0))) (.seq (.bind 0 (.fresh [])) (.seq (.mutate (.loc 0) [(.loc 1)]) .skip)))))
def Badge_query_b3 : Prog :=
  .seq (.bind 8 (.fresh [])) (.seq (.mutate (.loc 8) []) (.seq (.bind 7 (.fresh [])) (.seq (.mutate (.loc 7) []) .skip)))
def Badge_query_b4 : Prog :=
  .ite Badge_query_b3 .skip (.seq (.mutate (.loc 6) []) (.seq (.mutate (.loc 6) []) Badge_query_b2))
def Badge_query_b5 : Prog :=
  .seq (.bind 10 (.fresh [])) .skip
def Badge_query_b6 : Prog :=
  .seq (.bind 10 (.fresh [])) .skip
def Badge_query_b7 : Prog :=
  .ite Badge_query_b5 Badge_query_b6 (.seq (.bind 7 (.alias (.loc 10))) .skip)
def Badge_query_b8 : Prog :=
  .seq (.bind 11 (.fresh [])) .skip
def Badge_query_b9 : Prog :=
  .seq (.bind 12 (.fresh [(.loc 13), (.loc 14)])) .skip
def Badge_query_b10 : Prog :=
  .ite Badge_query_b9 .skip (.seq (.bind 11 (.alias (.loc 12))) .skip)
def Badge_query_b11 : Prog :=
  .seq (.bind 17 (.alias (.sub (.loc 16) 0))) (.seq (.bind 15 (.fresh [(.loc 16), (.loc 17)])) (.seq (.bind 14 (.alias (.sub (.loc 15) 0))) Badge_query_b10))
def Badge_query_b12 : Prog :=
  .ite Badge_query_b8 Badge_query_b11 (.seq (.bind 7 (.alias (.loc 11))) .skip)
def Badge_query_b13 : Prog :=
  .seq (.bind 16 (.alias (.loc 18))) (.seq (.bind 17 (.fresh [(.loc 4)])) (.seq (.bind 13 (.fresh [])) Badge_query_b12))
def Badge_query_b14 : Prog :=
  .ite Badge_query_b7 Badge_query_b13 (.seq (.mutate (.loc 7) []) (.seq (.bind 9 (.fresh [])) (.seq (.mutate (.loc 9) [(.loc 7)]) Badge_query_b4)))
def Badge_query_b15 : Prog :=
  .ite Badge_query_b14 .skip .skip
def Badge_query_b16 : Prog :=
  .seq (.bind 4 (.fresh [])) .skip
def Badge_query_b17 : Prog :=
  .seq (.readAttr 3) (.seq (.bind 5 (.fresh [])) (.seq (.bind 4 (.alias (.sub (.loc 5) 1))) .skip))
def Badge_query_b18 : Prog :=
  .ite Badge_query_b16 Badge_query_b17 (.seq (.bind 20 (.fresh [])) (.seq (.mutate (.loc 20) [(.loc 4)]) (.seq (.bind 1 (.alias (.sub (.loc 2) 0))) (.seq (.bind 19 (.fresh [])) (.seq (.mutate (.loc 19) [(.loc 1)]) Badge_query_b15)))))
def Badge_query_b19 : Prog :=
  .seq (.bind 21 (.fresh [])) (.seq (.mutate (.loc 21) []) (.seq (.bind 7 (.fresh [])) (.seq (.mutate (.loc 7) []) .skip)))
def Badge_query_b20 : Prog :=
  .ite Badge_query_b19 .skip (.seq (.mutate (.loc 6) []) (.seq (.mutate (.loc 6) []) Badge_query_b18))
def Badge_query_b21 : Prog :=
  .seq (.bind 23 (.fresh [])) .skip
def Badge_query_b22 : Prog :=
  .seq (.bind 23 (.fresh [])) .skip
def Badge_query_b23 : Prog :=
  .ite Badge_query_b21 Badge_query_b22 (.seq (.bind 7 (.alias (.loc 23))) .skip)
def Badge_query_b24 : Prog :=
  .seq (.bind 24 (.fresh [])) .skip
def Badge_query_b25 : Prog :=
  .seq (.bind 25 (.fresh [(.loc 26), (.loc 27)])) .skip
def Badge_query_b26 : Prog :=
  .ite Badge_query_b25 .skip (.seq (.bind 24 (.alias (.loc 25))) .skip)
def Badge_query_b27 : Prog :=
  .seq (.bind 30 (.alias (.sub (.loc 29) 0))) (.seq (.bind 28 (.fresh [(.loc 29), (.loc 30)])) (.seq (.bind 27 (.alias (.sub (.loc 28) 0))) Badge_query_b26))
def Badge_query_b28 : Prog :=
  .ite Badge_query_b24 Badge_query_b27 (.seq (.bind 7 (.alias (.loc 24))) .skip)
def Badge_query_b29 : Prog :=
  .seq (.bind 29 (.alias (.loc 18))) (.seq (.bind 30 (.fresh [])) (.seq (.bind 26 (.fresh [])) Badge_query_b28))
def Badge_query_b30 : Prog :=
  .ite Badge_query_b23 Badge_query_b29 (.seq (.mutate (.loc 7) []) (.seq (.bind 22 (.fresh [])) (.seq (.mutate (.loc 22) [(.loc 7)]) Badge_query_b20)))
def Badge_query_b31 : Prog :=
  .ite Badge_query_b30 .skip .skip
def Badge_query_b32 : Prog :=
  .seq (.bind 6 (.fresh [])) .skip
def Badge_query_b33 : Prog :=
  .seq (.bind 6 (.fresh [])) .skip
def Badge_query_b34 : Prog :=
  .ite Badge_query_b32 Badge_query_b33 (.seq (.bind 4 (.fresh [])) Badge_query_b31)
def Badge_query_b35 : Prog :=
  .seq (.bind 2 (.alias (.loc 31))) .skip
def Badge_query_b36 : Prog :=
  .seq (.bind 2 (.fresh [])) (.seq (.bind 2 (.alias (.sub (.loc 31) 0))) .skip)
def Badge_query_b37 : Prog :=
  .seq (.bind 2 (.fresh [])) .skip
def Badge_query_b38 : Prog :=
  .ite Badge_query_b36 Badge_query_b37 .skip
def Badge_query_b39 : Prog :=
  .ite Badge_query_b35 Badge_query_b38 (.seq (.bind 18 (.fresh [])) (.seq (.bind 18 (.alias (.loc 18))) Badge_query_b34))
def Badge_query_b40 : Prog :=
  .seq (.bind 33 (.deep (.loc 32))) (.seq (.callFit (.loc 33)) (.seq (.bind 32 (.alias (.loc 33))) .skip))
def Badge_query_b41 : Prog :=
  .seq (.bind 34 (.deep (.loc 32))) (.seq (.callFit (.loc 34)) (.seq (.bind 32 (.alias (.loc 34))) .skip))
def Badge_query_b42 : Prog :=
  .ite Badge_query_b40 Badge_query_b41 .skip
def Badge_query_b43 : Prog :=
  .ite Badge_query_b42 .skip Badge_query_b39
def Badge_query_b44 : Prog :=
  .seq (.readAttr 4) (.seq (.bind 36 (.fresh [])) (.seq (.bind 35 (.alias (.loc 36))) .skip))
def Badge_query_b45 : Prog :=
  .seq (.bind 35 (.alias (.loc 37))) .skip
def Badge_query_b46 : Prog :=
  .seq (.bind 35 (.fresh [])) .skip
def Badge_query_b47 : Prog :=
  .ite Badge_query_b45 Badge_query_b46 .skip
def Badge_query_b48 : Prog :=
  .ite Badge_query_b44 Badge_query_b47 (.seq (.bind 31 (.alias (.loc 35))) (.seq (.readAttr 4) Badge_query_b43))
def Badge_query_b49 : Prog :=
  .seq (.readAttr 4) .skip
def Badge_query_b50 : Prog :=
  .ite Badge_query_b49 .skip (.seq (.bind 39 (.alias (.loc 40))) (.seq (.bind 38 (.alias (.loc 39))) (.seq (.bind 37 (.alias (.loc 38))) Badge_query_b48)))
def Badge_query_b51 : Prog :=
  .seq (.bind 43 (.alias (.loc 44))) .skip
def Badge_query_b52 : Prog :=
  .seq (.bind 44 (.deep (.loc 44))) (.seq (.bind 44 (.alias (.loc 44))) (.seq (.bind 45 (.fresh [])) (.seq (.bind 43 (.fresh [(.loc 45)])) .skip)))
def Badge_query_b53 : Prog :=
  .ite Badge_query_b51 Badge_query_b52 (.seq (.writeAttr 3 (.alias (.loc 43))) (.seq (.bind 41 (.alias (.loc 42))) (.seq (.bind 40 (.alias (.loc 41))) Badge_query_b50)))
def Badge_query_b54 : Prog :=
  .seq (.bind 42 (.fresh [])) .skip
def Badge_query_b55 : Prog :=
  .seq (.bind 46 (.deep (.loc 47))) (.seq (.mutate (.loc 46) []) (.seq (.bind 42 (.alias (.loc 42))) (.seq (.readAttr 5) .skip)))
def Badge_query_b56 : Prog :=
  .ite Badge_query_b54 Badge_query_b55 .skip
def Badge_query_b57 : Prog :=
  .seq (.bind 42 (.copy (.loc 42))) Badge_query_b56
def Badge_query_b58 : Prog :=
  .ite Badge_query_b57 .skip (.seq (.bind 44 (.alias (.attr 2))) Badge_query_b53)
def Badge_query_b59 : Prog :=
  .seq (.bind 36 (.fresh [])) (.seq (.bind 2 (.fresh [])) (.seq (.bind 6 (.fresh [])) (.seq (.bind 40 (.alias (.loc 38))) (.seq (.bind 42 (.alias (.loc 40))) (.seq (.bind 47 (.fresh [])) (.seq (.bind 47 (.fresh [])) (.seq (.writeAttr 5 (.fresh [])) (.seq (.writeAttr 4 (.alias (.attr 1))) (.seq (.readAttr 4) Badge_query_b58)))))))))
def Badge_query_b60 : Prog :=
  .seq (.bind 29 (.fresh [])) (.seq (.bind 16 (.fresh [])) (.seq (.bind 1 (.fresh [])) (.seq (.bind 4 (.fresh [])) (.seq (.bind 5 (.fresh [])) (.seq (.bind 31 (.fresh [])) (.seq (.bind 30 (.fresh [])) (.seq (.bind 17 (.fresh [])) (.seq (.bind 44 (.fresh [])) (.seq (.bind 45 (.fresh [])) Badge_query_b59)))))))))
def Badge_query_b61 : Prog :=
  .seq (.bind 14 (.fresh [])) (.seq (.bind 37 (.fresh [])) (.seq (.bind 40 (.fresh [])) (.seq (.bind 42 (.fresh [])) (.seq (.bind 47 (.fresh [])) (.seq (.bind 46 (.fresh [])) (.seq (.bind 7 (.fresh [])) (.seq (.bind 26 (.fresh [])) (.seq (.bind 13 (.fresh [])) (.seq (.bind 18 (.fresh [])) Badge_query_b60)))))))))
def Badge_query_b62 : Prog :=
  .seq (.bind 20 (.fresh [])) (.seq (.bind 19 (.fresh [])) (.seq (.bind 15 (.fresh [])) (.seq (.bind 9 (.fresh [])) (.seq (.bind 8 (.fresh [])) (.seq (.bind 3 (.fresh [])) (.seq (.bind 0 (.fresh [])) (.seq (.bind 25 (.fresh [])) (.seq (.bind 12 (.fresh [])) (.seq (.bind 27 (.fresh [])) Badge_query_b61)))))))))
def Badge_query_b63 : Prog :=
  .seq (.bind 23 (.fresh [])) (.seq (.bind 24 (.fresh [])) (.seq (.bind 10 (.fresh [])) (.seq (.bind 11 (.fresh [])) (.seq (.bind 39 (.fresh [])) (.seq (.bind 33 (.fresh [])) (.seq (.bind 34 (.fresh [])) (.seq (.bind 28 (.fresh [])) (.seq (.bind 22 (.fresh [])) (.seq (.bind 21 (.fresh [])) Badge_query_b62)))))))))
def Badge_query_b64 : Prog :=
  .seq (.bind 41 (.fresh [])) (.seq (.bind 43 (.fresh [])) (.seq (.bind 35 (.fresh [])) Badge_query_b63))
def summary_Badge_query : Summary :=
  { params := [0, 1, 2], closedAttrs := [], safeAttrs := [5], body := Badge_query_b64 }
theorem effects_Badge_query : FrameOK summary_Badge_query = true := by decide +kernel
theorem query_Badge_historyFree : HistoryFree summary_Badge_query = true := by decide +kernel

/-! ### ProbCover  (skactiveml/pool/_prob_cover.py)
attributes: 0=n_classes 1=deltas 2=alpha 3=cluster_algo 4=cluster_algo_dict 5=n_cluster_param_name 6=distance_func 7=missing_label 8=random_state 9=random_state_ 10=delta_max_ 11=distances_ 12=missing_label_ 13=n_features_in_
keys: 0=* 1=0 -/
-- ProbCover.query: locals 0=query_indices 1=is_candidate 2=utilities 3=edges 4=delta 5=deltas 6=cluster_obj 7=cluster_algo_dict 8=n_classes 9=X 10=$c17 11=$ret2 12=X@_validate_data1 13=$ret8 14=X@_validate_data2 15=$ret13 16=random_state@check_random_state3 17=seed@check_random_state3 18=check_candidates_dict@_validate_data2 19=check_X_dict@_validate_data2
def ProbCover_query_b0 : Prog :=
  .seq (.mutate (.loc 3) []) (.seq (.mutate (.sub (.loc 2) 0) []) (.seq (.readAttr 9) (.seq (.mutate (.loc 1) []) (.seq (.mutate (.loc 0) []) .skip))))
def ProbCover_query_b1 : Prog :=
  .ite ProbCover_query_b0 .skip .skip
def ProbCover_query_b2 : Prog :=
  .seq (.mutate (.loc 3) []) (.seq (.mutate (.sub (.loc 2) 0) []) (.seq (.readAttr 9) (.seq (.mutate (.loc 1) []) (.seq (.mutate (.loc 0) []) ProbCover_query_b1))))
def ProbCover_query_b3 : Prog :=
  .ite ProbCover_query_b2 .skip .skip
def ProbCover_query_b4 : Prog :=
  .seq (.writeAttr 10 (.alias (.loc 4))) .skip
def ProbCover_query_b5 : Prog :=
  .ite .skip ProbCover_query_b4 .skip
def ProbCover_query_b6 : Prog :=
  .seq (.bind 4 (.alias (.sub (.loc 5) 0))) (.seq (.readAttr 11) (.seq (.bind 3 (.fresh [])) ProbCover_query_b5))
def ProbCover_query_b7 : Prog :=
  .ite ProbCover_query_b6 .skip .skip
def ProbCover_query_b8 : Prog :=
  .seq (.writeAttr 10 (.alias (.loc 4))) .skip
def ProbCover_query_b9 : Prog :=
  .ite .skip ProbCover_query_b8 ProbCover_query_b7
def ProbCover_query_b10 : Prog :=
  .seq (.bind 4 (.alias (.sub (.loc 5) 0))) (.seq (.readAttr 11) (.seq (.bind 3 (.fresh [])) ProbCover_query_b9))
def ProbCover_query_b11 : Prog :=
  .ite ProbCover_query_b10 .skip .skip
def ProbCover_query_b12 : Prog :=
  .seq (.readAttr 9) (.seq (.mutate (.loc 7) []) .skip)
def ProbCover_query_b13 : Prog :=
  .ite ProbCover_query_b12 .skip (.seq (.bind 6 (.fresh [(.sub (.loc 7) 0)])) (.seq (.callFit (.loc 6)) ProbCover_query_b11))
def ProbCover_query_b14 : Prog :=
  .seq (.mutate (.loc 7) [(.loc 8)]) ProbCover_query_b13
def ProbCover_query_b15 : Prog :=
  .ite ProbCover_query_b14 .skip .skip
def ProbCover_query_b16 : Prog :=
  .seq (.writeAttr 11 (.fresh [(.loc 9)])) (.seq (.writeAttr 10 (.alias (.sub (.loc 5) 1))) ProbCover_query_b15)
def ProbCover_query_b17 : Prog :=
  .ite ProbCover_query_b16 .skip (.seq (.readAttr 11) (.seq (.readAttr 10) (.seq (.bind 3 (.fresh [])) (.seq (.bind 0 (.fresh [])) (.seq (.bind 2 (.fresh [])) ProbCover_query_b3)))))
def ProbCover_query_b18 : Prog :=
  .seq (.bind 10 (.fresh [])) .skip
def ProbCover_query_b19 : Prog :=
  .seq (.bind 10 (.copy (.attr 4))) .skip
def ProbCover_query_b20 : Prog :=
  .ite ProbCover_query_b18 ProbCover_query_b19 (.seq (.bind 7 (.alias (.loc 10))) (.seq (.readAttr 10) ProbCover_query_b17))
def ProbCover_query_b21 : Prog :=
  .ite .abort ProbCover_query_b20 .skip
def ProbCover_query_b22 : Prog :=
  .seq (.bind 5 (.fresh [])) .skip
def ProbCover_query_b23 : Prog :=
  .ite .abort .skip .skip
def ProbCover_query_b24 : Prog :=
  .seq (.bind 5 (.alias (.attr 1))) (.seq (.bind 5 (.fresh [])) ProbCover_query_b23)
def ProbCover_query_b25 : Prog :=
  .ite ProbCover_query_b22 ProbCover_query_b24 ProbCover_query_b21
def ProbCover_query_b26 : Prog :=
  .seq (.readAttr 12) (.seq (.bind 8 (.fresh [])) .skip)
def ProbCover_query_b27 : Prog :=
  .ite ProbCover_query_b26 .skip ProbCover_query_b25
def ProbCover_query_b28 : Prog :=
  .seq (.readAttr 12) .skip
def ProbCover_query_b29 : Prog :=
  .ite .skip .abort .skip
def ProbCover_query_b30 : Prog :=
  .ite ProbCover_query_b28 ProbCover_query_b29 (.seq (.bind 1 (.fresh [])) (.seq (.mutate (.loc 1) []) (.seq (.bind 8 (.alias (.attr 0))) ProbCover_query_b27)))
def ProbCover_query_b31 : Prog :=
  .seq (.readAttr 12) .skip
def ProbCover_query_b32 : Prog :=
  .ite ProbCover_query_b31 .skip (.seq (.bind 11 (.alias (.loc 12))) (.seq (.bind 9 (.alias (.loc 11))) ProbCover_query_b30))
def ProbCover_query_b33 : Prog :=
  .seq (.bind 15 (.alias (.loc 16))) .skip
def ProbCover_query_b34 : Prog :=
  .seq (.bind 16 (.deep (.loc 16))) (.seq (.bind 16 (.alias (.loc 16))) (.seq (.bind 17 (.fresh [])) (.seq (.bind 15 (.fresh [(.loc 17)])) .skip)))
def ProbCover_query_b35 : Prog :=
  .ite ProbCover_query_b33 ProbCover_query_b34 (.seq (.writeAttr 9 (.alias (.loc 15))) (.seq (.bind 13 (.alias (.loc 14))) (.seq (.bind 12 (.alias (.loc 13))) ProbCover_query_b32)))
def ProbCover_query_b36 : Prog :=
  .seq (.bind 18 (.deep (.loc 19))) (.seq (.mutate (.loc 18) []) (.seq (.readAttr 13) .skip))
def ProbCover_query_b37 : Prog :=
  .ite .skip ProbCover_query_b36 .skip
def ProbCover_query_b38 : Prog :=
  .ite ProbCover_query_b37 .skip (.seq (.bind 16 (.alias (.attr 8))) ProbCover_query_b35)
def ProbCover_query_b39 : Prog :=
  .seq (.bind 17 (.fresh [])) (.seq (.bind 2 (.fresh [])) (.seq (.bind 12 (.alias (.loc 9))) (.seq (.bind 14 (.alias (.loc 12))) (.seq (.bind 19 (.fresh [])) (.seq (.bind 19 (.fresh [])) (.seq (.bind 14 (.alias (.loc 14))) (.seq (.writeAttr 13 (.fresh [])) (.seq (.writeAttr 12 (.alias (.attr 7))) (.seq (.readAttr 12) ProbCover_query_b38)))))))))
def ProbCover_query_b40 : Prog :=
  .seq (.bind 18 (.fresh [])) (.seq (.bind 7 (.fresh [])) (.seq (.bind 6 (.fresh [])) (.seq (.bind 4 (.fresh [])) (.seq (.bind 5 (.fresh [])) (.seq (.bind 3 (.fresh [])) (.seq (.bind 1 (.fresh [])) (.seq (.bind 8 (.fresh [])) (.seq (.bind 0 (.fresh [])) (.seq (.bind 16 (.fresh [])) ProbCover_query_b39)))))))))
def ProbCover_query_b41 : Prog :=
  .seq (.bind 10 (.fresh [])) (.seq (.bind 15 (.fresh [])) (.seq (.bind 11 (.fresh [])) (.seq (.bind 13 (.fresh [])) (.seq (.bind 12 (.fresh [])) (.seq (.bind 14 (.fresh [])) (.seq (.bind 19 (.fresh [])) ProbCover_query_b40))))))
def summary_ProbCover_query : Summary :=
  { params := [0, 1, 2, 3, 4, 5, 6, 7, 8], closedAttrs := [], safeAttrs := [11, 13], body := ProbCover_query_b41 }
theorem effects_ProbCover_query : FrameOK summary_ProbCover_query = true := by decide +kernel
-- lead: read-before-write delta_max_  skactiveml/pool/_prob_cover.py:190  hasattr(self, 'delta_max_')
-- lead: read-before-write distances_  skactiveml/pool/_prob_cover.py:230  self.distances_
-- lead: read-before-write delta_max_  skactiveml/pool/_prob_cover.py:230  self.delta_max_
-- lead: conditional-write delta_max_  skactiveml/pool/_prob_cover.py:218  self.delta_max_ = delta
-- lead: conditional-write distances_  skactiveml/pool/_prob_cover.py:192  self.distances_ = self.distance_func(X)
theorem query_ProbCover_historyFree : HistoryFree summary_ProbCover_query = false := by decide +kernel

/-! ### ContrastiveAL  (skactiveml/pool/_contrastive_al.py)
attributes: 0=nearest_neighbors_dict 1=clf_embedding_flag_name 2=eps 3=missing_label 4=random_state 5=random_state_ 6=missing_label_ 7=n_features_in_
keys: 0=* -/
-- ContrastiveAL.query: locals 0=utilities 1=utilities_cand 2=P_labeled 3=$t20 4=nearest_neighbors_dict 5=P_cand 6=clf 7=$t18 8=$t19 9=$c17 10=$ret13 11=random_state@check_random_state3 12=seed@check_random_state3 13=check_candidates_dict@_validate_data2 14=check_X_dict@_validate_data2
def ContrastiveAL_query_b0 : Prog :=
  .seq (.bind 0 (.alias (.loc 1))) .skip
def ContrastiveAL_query_b1 : Prog :=
  .seq (.bind 0 (.fresh [])) (.seq (.mutate (.loc 0) []) .skip)
def ContrastiveAL_query_b2 : Prog :=
  .ite ContrastiveAL_query_b0 ContrastiveAL_query_b1 (.seq (.readAttr 5) .skip)
def ContrastiveAL_query_b3 : Prog :=
  .seq (.bind 5 (.alias (.sub (.loc 5) 0))) .skip
def ContrastiveAL_query_b4 : Prog :=
  .seq (.bind 5 (.fresh [])) .skip
def ContrastiveAL_query_b5 : Prog :=
  .ite ContrastiveAL_query_b3 ContrastiveAL_query_b4 (.seq (.mutate (.loc 2) []) (.seq (.mutate (.loc 2) []) (.seq (.mutate (.loc 5) []) (.seq (.mutate (.loc 5) []) (.seq (.bind 3 (.fresh [(.sub (.loc 4) 0)])) (.seq (.callFit (.loc 3)) (.seq (.bind 2 (.alias (.sub (.loc 2) 0))) (.seq (.bind 1 (.fresh [])) (.seq (.bind 1 (.fresh [])) .skip)))))))))
def ContrastiveAL_query_b6 : Prog :=
  .seq (.bind 2 (.alias (.sub (.loc 2) 0))) .skip
def ContrastiveAL_query_b7 : Prog :=
  .seq (.bind 2 (.fresh [])) .skip
def ContrastiveAL_query_b8 : Prog :=
  .ite ContrastiveAL_query_b6 ContrastiveAL_query_b7 ContrastiveAL_query_b5
def ContrastiveAL_query_b9 : Prog :=
  .seq (.bind 2 (.fresh [])) (.seq (.bind 5 (.fresh [])) ContrastiveAL_query_b8)
def ContrastiveAL_query_b10 : Prog :=
  .seq (.bind 1 (.fresh [])) .skip
def ContrastiveAL_query_b11 : Prog :=
  .ite ContrastiveAL_query_b9 ContrastiveAL_query_b10 ContrastiveAL_query_b2
def ContrastiveAL_query_b12 : Prog :=
  .seq (.bind 7 (.deep (.loc 6))) (.seq (.callFit (.loc 7)) (.seq (.bind 6 (.alias (.loc 7))) .skip))
def ContrastiveAL_query_b13 : Prog :=
  .seq (.bind 8 (.deep (.loc 6))) (.seq (.callFit (.loc 8)) (.seq (.bind 6 (.alias (.loc 8))) .skip))
def ContrastiveAL_query_b14 : Prog :=
  .ite ContrastiveAL_query_b12 ContrastiveAL_query_b13 .skip
def ContrastiveAL_query_b15 : Prog :=
  .ite ContrastiveAL_query_b14 .skip ContrastiveAL_query_b11
def ContrastiveAL_query_b16 : Prog :=
  .seq (.bind 9 (.fresh [])) .skip
def ContrastiveAL_query_b17 : Prog :=
  .seq (.bind 9 (.copy (.attr 0))) .skip
def ContrastiveAL_query_b18 : Prog :=
  .ite ContrastiveAL_query_b16 ContrastiveAL_query_b17 (.seq (.bind 4 (.alias (.loc 9))) (.seq (.readAttr 6) ContrastiveAL_query_b15))
def ContrastiveAL_query_b19 : Prog :=
  .ite .abort ContrastiveAL_query_b18 .skip
def ContrastiveAL_query_b20 : Prog :=
  .seq (.readAttr 6) .skip
def ContrastiveAL_query_b21 : Prog :=
  .ite ContrastiveAL_query_b20 .skip (.seq (.readAttr 6) ContrastiveAL_query_b19)
def ContrastiveAL_query_b22 : Prog :=
  .seq (.readAttr 6) .skip
def ContrastiveAL_query_b23 : Prog :=
  .ite ContrastiveAL_query_b22 .skip ContrastiveAL_query_b21
def ContrastiveAL_query_b24 : Prog :=
  .seq (.bind 10 (.alias (.loc 11))) .skip
def ContrastiveAL_query_b25 : Prog :=
  .seq (.bind 11 (.deep (.loc 11))) (.seq (.bind 11 (.alias (.loc 11))) (.seq (.bind 12 (.fresh [])) (.seq (.bind 10 (.fresh [(.loc 12)])) .skip)))
def ContrastiveAL_query_b26 : Prog :=
  .ite ContrastiveAL_query_b24 ContrastiveAL_query_b25 (.seq (.writeAttr 5 (.alias (.loc 10))) ContrastiveAL_query_b23)
def ContrastiveAL_query_b27 : Prog :=
  .seq (.bind 13 (.deep (.loc 14))) (.seq (.mutate (.loc 13) []) (.seq (.readAttr 7) .skip))
def ContrastiveAL_query_b28 : Prog :=
  .ite .skip ContrastiveAL_query_b27 .skip
def ContrastiveAL_query_b29 : Prog :=
  .ite ContrastiveAL_query_b28 .skip (.seq (.bind 11 (.alias (.attr 4))) ContrastiveAL_query_b26)
def ContrastiveAL_query_b30 : Prog :=
  .seq (.bind 4 (.fresh [])) (.seq (.bind 11 (.fresh [])) (.seq (.bind 12 (.fresh [])) (.seq (.bind 0 (.fresh [])) (.seq (.bind 1 (.fresh [])) (.seq (.bind 14 (.fresh [])) (.seq (.bind 14 (.fresh [])) (.seq (.writeAttr 7 (.fresh [])) (.seq (.writeAttr 6 (.alias (.attr 3))) (.seq (.readAttr 6) ContrastiveAL_query_b29)))))))))
def ContrastiveAL_query_b31 : Prog :=
  .seq (.bind 9 (.fresh [])) (.seq (.bind 10 (.fresh [])) (.seq (.bind 7 (.fresh [])) (.seq (.bind 8 (.fresh [])) (.seq (.bind 3 (.fresh [])) (.seq (.bind 5 (.fresh [])) (.seq (.bind 2 (.fresh [])) (.seq (.bind 14 (.fresh [])) (.seq (.bind 13 (.fresh [])) ContrastiveAL_query_b30))))))))
def summary_ContrastiveAL_query : Summary :=
  { params := [0, 1, 2, 3, 4], closedAttrs := [7], safeAttrs := [], body := ContrastiveAL_query_b31 }
theorem effects_ContrastiveAL_query : FrameOK summary_ContrastiveAL_query = true := by decide +kernel
theorem query_ContrastiveAL_historyFree : HistoryFree summary_ContrastiveAL_query = true := by decide +kernel

/-! ### GreedyBALD  (skactiveml/pool/_bald.py)
attributes: 0=n_MC_samples 1=eps 2=sample_predictions_method_name 3=sample_predictions_dict 4=missing_label 5=random_state 6=greedy_selection 7=method 8=random_state_ 9=missing_label_ 10=n_features_in_
keys: 0=* 1=estimators_ -/
-- GreedyBALD.query: locals 0=$ret22 1=sample_predictions_dict@_check_ensemble5 2=$ret18 3=ensemble@_check_ensemble5 4=est_arr@_check_ensemble5 5=$t27 6=$t28 7=$t24 8=$t25 9=ensemble 10=X_cand 11=$ret15 12=X@_transform_candidates4 13=candidates@_transform_candidates4 14=X 15=candidates 16=$ret4 17=$ret2 18=candidates@_validate_data1 19=X@_validate_data1 20=$ret10 21=$ret8 22=candidates@_validate_data2 23=X@_validate_data2 24=$ret13 25=random_state@check_random_state3 26=seed@check_random_state3 27=check_candidates_dict@_validate_data2 28=check_X_dict@_validate_data2 29=utilities@batch_bald7 30=sample_dict 31=query_idx@batch_bald7 32=probs_N_K_C@batch_bald7 33=probs_K_N_C@batch_bald7 34=probas@batch_bald7 35=probas@_aggregate_predict_probas6 36=probas 37=nats_N_K_C@_compute_conditional_entropy9 38=batch_utilities_cand 39=batch_utilities 40=$t38 41=$t36 42=$ret32 43=$ret29
def GreedyBALD_query_b0 : Prog :=
  .seq (.bind 4 (.fresh [])) .skip
def GreedyBALD_query_b1 : Prog :=
  .seq (.bind 4 (.alias (.sub (.loc 3) 1))) .skip
def GreedyBALD_query_b2 : Prog :=
  .seq (.bind 4 (.fresh [])) .skip
def GreedyBALD_query_b3 : Prog :=
  .seq (.bind 4 (.fresh [])) .skip
def GreedyBALD_query_b4 : Prog :=
  .ite GreedyBALD_query_b3 .abort .skip
def GreedyBALD_query_b5 : Prog :=
  .ite GreedyBALD_query_b2 GreedyBALD_query_b4 .skip
def GreedyBALD_query_b6 : Prog :=
  .ite GreedyBALD_query_b1 GreedyBALD_query_b5 .skip
def GreedyBALD_query_b7 : Prog :=
  .ite GreedyBALD_query_b0 GreedyBALD_query_b6 (.seq (.bind 2 (.alias (.loc 3))) (.seq (.bind 0 (.alias (.loc 1))) .skip))
def GreedyBALD_query_b8 : Prog :=
  .seq (.bind 1 (.fresh [])) .abort
def GreedyBALD_query_b9 : Prog :=
  .seq (.bind 1 (.copy (.loc 1))) .skip
def GreedyBALD_query_b10 : Prog :=
  .ite GreedyBALD_query_b9 .skip .skip
def GreedyBALD_query_b11 : Prog :=
  .ite GreedyBALD_query_b8 GreedyBALD_query_b10 .skip
def GreedyBALD_query_b12 : Prog :=
  .seq (.bind 1 (.fresh [])) .skip
def GreedyBALD_query_b13 : Prog :=
  .ite GreedyBALD_query_b12 .skip GreedyBALD_query_b11
def GreedyBALD_query_b14 : Prog :=
  .ite .abort GreedyBALD_query_b13 .skip
def GreedyBALD_query_b15 : Prog :=
  .ite .abort .skip .skip
def GreedyBALD_query_b16 : Prog :=
  .ite GreedyBALD_query_b14 GreedyBALD_query_b15 GreedyBALD_query_b7
def GreedyBALD_query_b17 : Prog :=
  .seq (.bind 5 (.deep (.loc 3))) (.seq (.callFit (.loc 5)) (.seq (.bind 3 (.alias (.loc 5))) .skip))
def GreedyBALD_query_b18 : Prog :=
  .seq (.bind 6 (.deep (.loc 3))) (.seq (.callFit (.loc 6)) (.seq (.bind 3 (.alias (.loc 6))) .skip))
def GreedyBALD_query_b19 : Prog :=
  .ite GreedyBALD_query_b17 GreedyBALD_query_b18 .skip
def GreedyBALD_query_b20 : Prog :=
  .ite GreedyBALD_query_b19 .skip GreedyBALD_query_b16
def GreedyBALD_query_b21 : Prog :=
  .seq (.callFit (.sub (.loc 4) 0)) (.seq (.mutate (.loc 4) [(.sub (.loc 4) 0)]) .skip)
def GreedyBALD_query_b22 : Prog :=
  .seq (.callFit (.sub (.loc 4) 0)) (.seq (.mutate (.loc 4) [(.sub (.loc 4) 0)]) .skip)
def GreedyBALD_query_b23 : Prog :=
  .ite GreedyBALD_query_b21 GreedyBALD_query_b22 .skip
def GreedyBALD_query_b24 : Prog :=
  .ite GreedyBALD_query_b23 .skip .skip
def GreedyBALD_query_b25 : Prog :=
  .ite GreedyBALD_query_b24 .skip .skip
def GreedyBALD_query_b26 : Prog :=
  .seq (.callFit (.sub (.loc 4) 0)) (.seq (.mutate (.loc 4) [(.sub (.loc 4) 0)]) .skip)
def GreedyBALD_query_b27 : Prog :=
  .seq (.callFit (.sub (.loc 4) 0)) (.seq (.mutate (.loc 4) [(.sub (.loc 4) 0)]) .skip)
def GreedyBALD_query_b28 : Prog :=
  .ite GreedyBALD_query_b26 GreedyBALD_query_b27 .skip
def GreedyBALD_query_b29 : Prog :=
  .ite GreedyBALD_query_b28 .skip GreedyBALD_query_b25
def GreedyBALD_query_b30 : Prog :=
  .ite GreedyBALD_query_b29 .skip (.seq (.bind 2 (.alias (.loc 3))) (.seq (.bind 0 (.fresh [])) .skip))
def GreedyBALD_query_b31 : Prog :=
  .seq (.bind 4 (.deep (.loc 3))) GreedyBALD_query_b30
def GreedyBALD_query_b32 : Prog :=
  .ite .abort GreedyBALD_query_b31 .skip
def GreedyBALD_query_b33 : Prog :=
  .ite GreedyBALD_query_b32 .skip .skip
def GreedyBALD_query_b34 : Prog :=
  .seq (.bind 3 (.fresh [])) GreedyBALD_query_b33
def GreedyBALD_query_b35 : Prog :=
  .ite GreedyBALD_query_b20 GreedyBALD_query_b34 .skip
def GreedyBALD_query_b36 : Prog :=
  .ite GreedyBALD_query_b35 .skip .skip
def GreedyBALD_query_b37 : Prog :=
  .seq (.bind 4 (.fresh [])) .skip
def GreedyBALD_query_b38 : Prog :=
  .seq (.bind 4 (.alias (.sub (.loc 3) 1))) .skip
def GreedyBALD_query_b39 : Prog :=
  .seq (.bind 4 (.fresh [])) .skip
def GreedyBALD_query_b40 : Prog :=
  .seq (.bind 4 (.fresh [])) .skip
def GreedyBALD_query_b41 : Prog :=
  .ite GreedyBALD_query_b40 .abort .skip
def GreedyBALD_query_b42 : Prog :=
  .ite GreedyBALD_query_b39 GreedyBALD_query_b41 .skip
def GreedyBALD_query_b43 : Prog :=
  .ite GreedyBALD_query_b38 GreedyBALD_query_b42 .skip
def GreedyBALD_query_b44 : Prog :=
  .ite GreedyBALD_query_b37 GreedyBALD_query_b43 (.seq (.bind 2 (.alias (.loc 3))) (.seq (.bind 0 (.alias (.loc 1))) .skip))
def GreedyBALD_query_b45 : Prog :=
  .seq (.bind 1 (.fresh [])) .abort
def GreedyBALD_query_b46 : Prog :=
  .seq (.bind 1 (.copy (.loc 1))) .skip
def GreedyBALD_query_b47 : Prog :=
  .ite GreedyBALD_query_b46 .skip .skip
def GreedyBALD_query_b48 : Prog :=
  .ite GreedyBALD_query_b45 GreedyBALD_query_b47 .skip
def GreedyBALD_query_b49 : Prog :=
  .seq (.bind 1 (.fresh [])) .skip
def GreedyBALD_query_b50 : Prog :=
  .ite GreedyBALD_query_b49 .skip GreedyBALD_query_b48
def GreedyBALD_query_b51 : Prog :=
  .ite .abort GreedyBALD_query_b50 .skip
def GreedyBALD_query_b52 : Prog :=
  .ite .abort .skip .skip
def GreedyBALD_query_b53 : Prog :=
  .ite GreedyBALD_query_b51 GreedyBALD_query_b52 GreedyBALD_query_b44
def GreedyBALD_query_b54 : Prog :=
  .seq (.bind 7 (.deep (.loc 3))) (.seq (.callFit (.loc 7)) (.seq (.bind 3 (.alias (.loc 7))) .skip))
def GreedyBALD_query_b55 : Prog :=
  .seq (.bind 8 (.deep (.loc 3))) (.seq (.callFit (.loc 8)) (.seq (.bind 3 (.alias (.loc 8))) .skip))
def GreedyBALD_query_b56 : Prog :=
  .ite GreedyBALD_query_b54 GreedyBALD_query_b55 .skip
def GreedyBALD_query_b57 : Prog :=
  .ite GreedyBALD_query_b56 .skip GreedyBALD_query_b53
def GreedyBALD_query_b58 : Prog :=
  .seq (.callFit (.sub (.loc 4) 0)) (.seq (.mutate (.loc 4) [(.sub (.loc 4) 0)]) .skip)
def GreedyBALD_query_b59 : Prog :=
  .seq (.callFit (.sub (.loc 4) 0)) (.seq (.mutate (.loc 4) [(.sub (.loc 4) 0)]) .skip)
def GreedyBALD_query_b60 : Prog :=
  .ite GreedyBALD_query_b58 GreedyBALD_query_b59 .skip
def GreedyBALD_query_b61 : Prog :=
  .ite GreedyBALD_query_b60 .skip .skip
def GreedyBALD_query_b62 : Prog :=
  .ite GreedyBALD_query_b61 .skip .skip
def GreedyBALD_query_b63 : Prog :=
  .seq (.callFit (.sub (.loc 4) 0)) (.seq (.mutate (.loc 4) [(.sub (.loc 4) 0)]) .skip)
def GreedyBALD_query_b64 : Prog :=
  .seq (.callFit (.sub (.loc 4) 0)) (.seq (.mutate (.loc 4) [(.sub (.loc 4) 0)]) .skip)
def GreedyBALD_query_b65 : Prog :=
  .ite GreedyBALD_query_b63 GreedyBALD_query_b64 .skip
def GreedyBALD_query_b66 : Prog :=
  .ite GreedyBALD_query_b65 .skip GreedyBALD_query_b62
def GreedyBALD_query_b67 : Prog :=
  .ite GreedyBALD_query_b66 .skip (.seq (.bind 2 (.alias (.loc 3))) (.seq (.bind 0 (.fresh [])) .skip))
def GreedyBALD_query_b68 : Prog :=
  .seq (.bind 4 (.deep (.loc 3))) GreedyBALD_query_b67
def GreedyBALD_query_b69 : Prog :=
  .ite .abort GreedyBALD_query_b68 .skip
def GreedyBALD_query_b70 : Prog :=
  .ite GreedyBALD_query_b69 .skip .skip
def GreedyBALD_query_b71 : Prog :=
  .seq (.bind 3 (.fresh [])) GreedyBALD_query_b70
def GreedyBALD_query_b72 : Prog :=
  .ite GreedyBALD_query_b57 GreedyBALD_query_b71 GreedyBALD_query_b36
def GreedyBALD_query_b73 : Prog :=
  .ite GreedyBALD_query_b72 .skip .abort
def GreedyBALD_query_b74 : Prog :=
  .seq (.readAttr 9) (.seq (.bind 11 (.alias (.sub (.loc 12) 0))) .skip)
def GreedyBALD_query_b75 : Prog :=
  .seq (.bind 11 (.alias (.sub (.loc 12) 0))) .skip
def GreedyBALD_query_b76 : Prog :=
  .seq (.bind 11 (.alias (.loc 13))) .skip
def GreedyBALD_query_b77 : Prog :=
  .ite GreedyBALD_query_b75 GreedyBALD_query_b76 .skip
def GreedyBALD_query_b78 : Prog :=
  .ite GreedyBALD_query_b74 GreedyBALD_query_b77 (.seq (.bind 10 (.alias (.loc 11))) (.seq (.readAttr 9) (.seq (.readAttr 8) (.seq (.bind 3 (.alias (.loc 9))) (.seq (.bind 1 (.alias (.attr 3))) GreedyBALD_query_b73)))))
def GreedyBALD_query_b79 : Prog :=
  .seq (.readAttr 9) .skip
def GreedyBALD_query_b80 : Prog :=
  .ite GreedyBALD_query_b79 .skip (.seq (.bind 17 (.alias (.loc 19))) (.seq (.bind 16 (.alias (.loc 18))) (.seq (.bind 14 (.alias (.loc 17))) (.seq (.bind 15 (.alias (.loc 16))) (.seq (.bind 13 (.alias (.loc 15))) (.seq (.bind 12 (.alias (.loc 14))) GreedyBALD_query_b78))))))
def GreedyBALD_query_b81 : Prog :=
  .seq (.bind 24 (.alias (.loc 25))) .skip
def GreedyBALD_query_b82 : Prog :=
  .seq (.bind 25 (.deep (.loc 25))) (.seq (.bind 25 (.alias (.loc 25))) (.seq (.bind 26 (.fresh [])) (.seq (.bind 24 (.fresh [(.loc 26)])) .skip)))
def GreedyBALD_query_b83 : Prog :=
  .ite GreedyBALD_query_b81 GreedyBALD_query_b82 (.seq (.writeAttr 8 (.alias (.loc 24))) (.seq (.bind 21 (.alias (.loc 23))) (.seq (.bind 20 (.alias (.loc 22))) (.seq (.bind 19 (.alias (.loc 21))) (.seq (.bind 18 (.alias (.loc 20))) GreedyBALD_query_b80)))))
def GreedyBALD_query_b84 : Prog :=
  .seq (.bind 22 (.fresh [])) .skip
def GreedyBALD_query_b85 : Prog :=
  .seq (.bind 27 (.deep (.loc 28))) (.seq (.mutate (.loc 27) []) (.seq (.bind 22 (.alias (.loc 22))) (.seq (.readAttr 10) .skip)))
def GreedyBALD_query_b86 : Prog :=
  .ite GreedyBALD_query_b84 GreedyBALD_query_b85 .skip
def GreedyBALD_query_b87 : Prog :=
  .seq (.bind 22 (.copy (.loc 22))) GreedyBALD_query_b86
def GreedyBALD_query_b88 : Prog :=
  .ite GreedyBALD_query_b87 .skip (.seq (.bind 25 (.alias (.attr 5))) GreedyBALD_query_b83)
def GreedyBALD_query_b89 : Prog :=
  .seq (.bind 19 (.alias (.loc 14))) (.seq (.bind 18 (.alias (.loc 15))) (.seq (.bind 23 (.alias (.loc 19))) (.seq (.bind 22 (.alias (.loc 18))) (.seq (.bind 28 (.fresh [])) (.seq (.bind 28 (.fresh [])) (.seq (.bind 23 (.alias (.loc 23))) (.seq (.writeAttr 10 (.fresh [])) (.seq (.writeAttr 9 (.alias (.attr 4))) (.seq (.readAttr 9) GreedyBALD_query_b88)))))))))
def GreedyBALD_query_b90 : Prog :=
  .seq (.bind 35 (.fresh [])) (.seq (.bind 34 (.fresh [])) (.seq (.bind 33 (.fresh [])) (.seq (.bind 32 (.fresh [])) (.seq (.bind 31 (.fresh [])) (.seq (.bind 25 (.fresh [])) (.seq (.bind 30 (.fresh [])) (.seq (.bind 1 (.fresh [])) (.seq (.bind 26 (.fresh [])) (.seq (.bind 29 (.fresh [])) GreedyBALD_query_b89)))))))))
def GreedyBALD_query_b91 : Prog :=
  .seq (.bind 38 (.fresh [])) (.seq (.bind 13 (.fresh [])) (.seq (.bind 18 (.fresh [])) (.seq (.bind 22 (.fresh [])) (.seq (.bind 28 (.fresh [])) (.seq (.bind 27 (.fresh [])) (.seq (.bind 3 (.fresh [])) (.seq (.bind 4 (.fresh [])) (.seq (.bind 37 (.fresh [])) (.seq (.bind 36 (.fresh [])) GreedyBALD_query_b90)))))))))
def GreedyBALD_query_b92 : Prog :=
  .seq (.bind 8 (.fresh [])) (.seq (.bind 5 (.fresh [])) (.seq (.bind 6 (.fresh [])) (.seq (.bind 41 (.fresh [])) (.seq (.bind 40 (.fresh [])) (.seq (.bind 12 (.fresh [])) (.seq (.bind 19 (.fresh [])) (.seq (.bind 23 (.fresh [])) (.seq (.bind 10 (.fresh [])) (.seq (.bind 39 (.fresh [])) GreedyBALD_query_b91)))))))))
def GreedyBALD_query_b93 : Prog :=
  .seq (.bind 24 (.fresh [])) (.seq (.bind 11 (.fresh [])) (.seq (.bind 2 (.fresh [])) (.seq (.bind 17 (.fresh [])) (.seq (.bind 0 (.fresh [])) (.seq (.bind 43 (.fresh [])) (.seq (.bind 42 (.fresh [])) (.seq (.bind 16 (.fresh [])) (.seq (.bind 21 (.fresh [])) (.seq (.bind 7 (.fresh [])) GreedyBALD_query_b92)))))))))
def GreedyBALD_query_b94 : Prog :=
  .seq (.bind 20 (.fresh [])) GreedyBALD_query_b93
def summary_GreedyBALD_query : Summary :=
  { params := [0, 1, 2, 3, 4, 5, 6, 7], closedAttrs := [10], safeAttrs := [], body := GreedyBALD_query_b94 }
theorem effects_GreedyBALD_query : FrameOK summary_GreedyBALD_query = true := by decide +kernel
theorem query_GreedyBALD_historyFree : HistoryFree summary_GreedyBALD_query = true := by decide +kernel

/-! ### RegressionTreeBasedAL  (skactiveml/pool/_regression_tree_based_al.py)
attributes: 0=method 1=missing_label 2=random_state 3=max_iter_representativity 4=random_state_ 5=missing_label_ 6=n_features_in_
keys: 0=* -/
-- RegressionTreeBasedAL.query: locals 0=utilities 1=batch_utilities 2=batch_utilities_cand 3=query_indices 4=mapping 5=$t26 6=$t25 7=$t24 8=$t23 9=$t32 10=$t31 11=$t29 12=$t28 13=R_cand 14=l_cand 15=$t34 16=n_k_discrete 17=$t33 18=$ret22 19=n_k_discrete@_limit_acquisitions_to_candidates7 20=n_cand_k@_limit_acquisitions_to_candidates7 21=$ret20 22=n_k_discrete@_discretize_acquisitions_per_leaf6 23=add_leaf_counts@_discretize_acquisitions_per_leaf6 24=$t21 25=n_k@_discretize_acquisitions_per_leaf6 26=n_k 27=$ret19 28=n_k@_calc_acquisitions_per_leaf5 29=v_k@_calc_acquisitions_per_leaf5 30=reg 31=$t17 32=$t18 33=$ret16 34=ulbd_idx@_transform_candidates4 35=candidates@_transform_candidates4 36=candidates 37=$ret4 38=candidates@_validate_data1 39=$ret10 40=candidates@_validate_data2 41=$ret13 42=random_state@check_random_state3 43=seed@check_random_state3 44=check_candidates_dict@_validate_data2 45=check_X_dict@_validate_data2
def RegressionTreeBasedAL_query_b0 : Prog :=
  .seq (.bind 0 (.fresh [])) .skip
def RegressionTreeBasedAL_query_b1 : Prog :=
  .seq (.bind 0 (.fresh [])) (.seq (.mutate (.loc 0) []) .skip)
def RegressionTreeBasedAL_query_b2 : Prog :=
  .ite RegressionTreeBasedAL_query_b0 RegressionTreeBasedAL_query_b1 (.seq (.readAttr 4) .skip)
def RegressionTreeBasedAL_query_b3 : Prog :=
  .seq (.bind 1 (.alias (.loc 2))) .skip
def RegressionTreeBasedAL_query_b4 : Prog :=
  .seq (.bind 1 (.fresh [])) (.seq (.mutate (.loc 1) []) (.seq (.bind 3 (.alias (.sub (.loc 4) 0))) .skip))
def RegressionTreeBasedAL_query_b5 : Prog :=
  .ite RegressionTreeBasedAL_query_b3 RegressionTreeBasedAL_query_b4 .skip
def RegressionTreeBasedAL_query_b6 : Prog :=
  .seq (.mutate (.loc 2) []) (.seq (.mutate (.loc 2) []) (.seq (.readAttr 4) (.seq (.bind 5 (.fresh [])) (.seq (.mutate (.loc 5) []) .skip))))
def RegressionTreeBasedAL_query_b7 : Prog :=
  .ite RegressionTreeBasedAL_query_b6 .skip .skip
def RegressionTreeBasedAL_query_b8 : Prog :=
  .seq (.mutate (.loc 2) []) (.seq (.mutate (.loc 2) []) (.seq (.readAttr 4) (.seq (.bind 6 (.fresh [])) (.seq (.mutate (.loc 6) []) RegressionTreeBasedAL_query_b7))))
def RegressionTreeBasedAL_query_b9 : Prog :=
  .ite RegressionTreeBasedAL_query_b8 .skip .skip
def RegressionTreeBasedAL_query_b10 : Prog :=
  .ite RegressionTreeBasedAL_query_b9 .skip .skip
def RegressionTreeBasedAL_query_b11 : Prog :=
  .seq (.mutate (.loc 2) []) (.seq (.mutate (.loc 2) []) (.seq (.readAttr 4) (.seq (.bind 7 (.fresh [])) (.seq (.mutate (.loc 7) []) .skip))))
def RegressionTreeBasedAL_query_b12 : Prog :=
  .ite RegressionTreeBasedAL_query_b11 .skip .skip
def RegressionTreeBasedAL_query_b13 : Prog :=
  .seq (.mutate (.loc 2) []) (.seq (.mutate (.loc 2) []) (.seq (.readAttr 4) (.seq (.bind 8 (.fresh [])) (.seq (.mutate (.loc 8) []) RegressionTreeBasedAL_query_b12))))
def RegressionTreeBasedAL_query_b14 : Prog :=
  .ite RegressionTreeBasedAL_query_b13 .skip RegressionTreeBasedAL_query_b10
def RegressionTreeBasedAL_query_b15 : Prog :=
  .ite RegressionTreeBasedAL_query_b14 .skip .skip
def RegressionTreeBasedAL_query_b16 : Prog :=
  .seq (.bind 2 (.fresh [])) (.seq (.bind 3 (.fresh [])) RegressionTreeBasedAL_query_b15)
def RegressionTreeBasedAL_query_b17 : Prog :=
  .seq (.mutate (.loc 2) []) (.seq (.mutate (.loc 2) []) (.seq (.readAttr 4) (.seq (.bind 9 (.fresh [])) (.seq (.mutate (.loc 9) []) .skip))))
def RegressionTreeBasedAL_query_b18 : Prog :=
  .ite RegressionTreeBasedAL_query_b17 .skip .skip
def RegressionTreeBasedAL_query_b19 : Prog :=
  .seq (.mutate (.loc 2) []) (.seq (.mutate (.loc 2) []) (.seq (.readAttr 4) (.seq (.bind 10 (.fresh [])) (.seq (.mutate (.loc 10) []) RegressionTreeBasedAL_query_b18))))
def RegressionTreeBasedAL_query_b20 : Prog :=
  .ite RegressionTreeBasedAL_query_b19 .skip .skip
def RegressionTreeBasedAL_query_b21 : Prog :=
  .ite RegressionTreeBasedAL_query_b20 .skip .skip
def RegressionTreeBasedAL_query_b22 : Prog :=
  .seq (.mutate (.loc 2) []) (.seq (.mutate (.loc 2) []) (.seq (.readAttr 4) (.seq (.bind 11 (.fresh [])) (.seq (.mutate (.loc 11) []) .skip))))
def RegressionTreeBasedAL_query_b23 : Prog :=
  .ite RegressionTreeBasedAL_query_b22 .skip .skip
def RegressionTreeBasedAL_query_b24 : Prog :=
  .seq (.mutate (.loc 2) []) (.seq (.mutate (.loc 2) []) (.seq (.readAttr 4) (.seq (.bind 12 (.fresh [])) (.seq (.mutate (.loc 12) []) RegressionTreeBasedAL_query_b23))))
def RegressionTreeBasedAL_query_b25 : Prog :=
  .ite RegressionTreeBasedAL_query_b24 .skip RegressionTreeBasedAL_query_b21
def RegressionTreeBasedAL_query_b26 : Prog :=
  .ite RegressionTreeBasedAL_query_b25 .skip .skip
def RegressionTreeBasedAL_query_b27 : Prog :=
  .seq (.bind 2 (.fresh [])) (.seq (.bind 3 (.fresh [])) RegressionTreeBasedAL_query_b26)
def RegressionTreeBasedAL_query_b28 : Prog :=
  .seq (.mutate (.loc 2) []) .skip
def RegressionTreeBasedAL_query_b29 : Prog :=
  .ite RegressionTreeBasedAL_query_b28 .skip .skip
def RegressionTreeBasedAL_query_b30 : Prog :=
  .seq (.mutate (.loc 2) []) RegressionTreeBasedAL_query_b29
def RegressionTreeBasedAL_query_b31 : Prog :=
  .ite RegressionTreeBasedAL_query_b30 .skip .skip
def RegressionTreeBasedAL_query_b32 : Prog :=
  .seq (.mutate (.loc 2) []) (.seq (.readAttr 4) (.seq (.mutate (.loc 3) []) .skip))
def RegressionTreeBasedAL_query_b33 : Prog :=
  .ite RegressionTreeBasedAL_query_b32 .skip .skip
def RegressionTreeBasedAL_query_b34 : Prog :=
  .seq (.mutate (.loc 2) []) (.seq (.readAttr 4) (.seq (.mutate (.loc 3) []) RegressionTreeBasedAL_query_b33))
def RegressionTreeBasedAL_query_b35 : Prog :=
  .ite RegressionTreeBasedAL_query_b34 .skip .skip
def RegressionTreeBasedAL_query_b36 : Prog :=
  .ite RegressionTreeBasedAL_query_b35 .skip .skip
def RegressionTreeBasedAL_query_b37 : Prog :=
  .seq (.mutate (.loc 2) []) (.seq (.readAttr 4) (.seq (.mutate (.loc 3) []) .skip))
def RegressionTreeBasedAL_query_b38 : Prog :=
  .ite RegressionTreeBasedAL_query_b37 .skip .skip
def RegressionTreeBasedAL_query_b39 : Prog :=
  .seq (.mutate (.loc 2) []) (.seq (.readAttr 4) (.seq (.mutate (.loc 3) []) RegressionTreeBasedAL_query_b38))
def RegressionTreeBasedAL_query_b40 : Prog :=
  .ite RegressionTreeBasedAL_query_b39 .skip RegressionTreeBasedAL_query_b36
def RegressionTreeBasedAL_query_b41 : Prog :=
  .ite RegressionTreeBasedAL_query_b40 .skip RegressionTreeBasedAL_query_b31
def RegressionTreeBasedAL_query_b42 : Prog :=
  .seq (.mutate (.loc 13) []) .skip
def RegressionTreeBasedAL_query_b43 : Prog :=
  .ite RegressionTreeBasedAL_query_b42 .skip .skip
def RegressionTreeBasedAL_query_b44 : Prog :=
  .ite RegressionTreeBasedAL_query_b43 .skip .skip
def RegressionTreeBasedAL_query_b45 : Prog :=
  .seq (.mutate (.loc 13) []) .skip
def RegressionTreeBasedAL_query_b46 : Prog :=
  .ite RegressionTreeBasedAL_query_b45 .skip RegressionTreeBasedAL_query_b44
def RegressionTreeBasedAL_query_b47 : Prog :=
  .ite RegressionTreeBasedAL_query_b46 .skip (.seq (.bind 2 (.fresh [])) RegressionTreeBasedAL_query_b41)
def RegressionTreeBasedAL_query_b48 : Prog :=
  .seq (.readAttr 4) (.seq (.bind 15 (.fresh [(.sub (.loc 16) 0), (.attr 4)])) (.seq (.callFit (.loc 15)) (.seq (.mutate (.loc 14) []) (.seq (.mutate (.loc 3) []) .skip))))
def RegressionTreeBasedAL_query_b49 : Prog :=
  .ite RegressionTreeBasedAL_query_b48 .skip .skip
def RegressionTreeBasedAL_query_b50 : Prog :=
  .seq (.readAttr 4) (.seq (.bind 17 (.fresh [(.sub (.loc 16) 0), (.attr 4)])) (.seq (.callFit (.loc 17)) (.seq (.mutate (.loc 14) []) (.seq (.mutate (.loc 3) []) RegressionTreeBasedAL_query_b49))))
def RegressionTreeBasedAL_query_b51 : Prog :=
  .ite RegressionTreeBasedAL_query_b50 .skip (.seq (.bind 13 (.fresh [])) RegressionTreeBasedAL_query_b47)
def RegressionTreeBasedAL_query_b52 : Prog :=
  .seq (.bind 3 (.fresh [])) (.seq (.bind 14 (.fresh [])) RegressionTreeBasedAL_query_b51)
def RegressionTreeBasedAL_query_b53 : Prog :=
  .ite RegressionTreeBasedAL_query_b52 .abort .skip
def RegressionTreeBasedAL_query_b54 : Prog :=
  .ite RegressionTreeBasedAL_query_b27 RegressionTreeBasedAL_query_b53 .skip
def RegressionTreeBasedAL_query_b55 : Prog :=
  .ite RegressionTreeBasedAL_query_b16 RegressionTreeBasedAL_query_b54 RegressionTreeBasedAL_query_b5
def RegressionTreeBasedAL_query_b56 : Prog :=
  .seq (.mutate (.loc 19) []) .skip
def RegressionTreeBasedAL_query_b57 : Prog :=
  .ite .skip RegressionTreeBasedAL_query_b56 .skip
def RegressionTreeBasedAL_query_b58 : Prog :=
  .ite RegressionTreeBasedAL_query_b57 .skip .skip
def RegressionTreeBasedAL_query_b59 : Prog :=
  .seq (.mutate (.loc 19) []) .skip
def RegressionTreeBasedAL_query_b60 : Prog :=
  .ite .skip RegressionTreeBasedAL_query_b59 RegressionTreeBasedAL_query_b58
def RegressionTreeBasedAL_query_b61 : Prog :=
  .ite RegressionTreeBasedAL_query_b60 .skip (.seq (.bind 18 (.alias (.loc 19))) (.seq (.bind 16 (.alias (.loc 18))) RegressionTreeBasedAL_query_b55))
def RegressionTreeBasedAL_query_b62 : Prog :=
  .seq (.bind 23 (.fresh [])) (.seq (.mutate (.loc 22) [(.loc 23)]) .skip)
def RegressionTreeBasedAL_query_b63 : Prog :=
  .ite RegressionTreeBasedAL_query_b62 .skip (.seq (.bind 21 (.copy (.loc 22))) (.seq (.bind 16 (.alias (.loc 21))) (.seq (.readAttr 4) (.seq (.bind 19 (.alias (.loc 16))) (.seq (.bind 20 (.fresh [])) (.seq (.bind 19 (.fresh [(.loc 19), (.loc 20)])) RegressionTreeBasedAL_query_b61))))))
def RegressionTreeBasedAL_query_b64 : Prog :=
  .seq (.bind 28 (.fresh [])) .skip
def RegressionTreeBasedAL_query_b65 : Prog :=
  .seq (.bind 28 (.fresh [])) .skip
def RegressionTreeBasedAL_query_b66 : Prog :=
  .ite RegressionTreeBasedAL_query_b64 RegressionTreeBasedAL_query_b65 (.seq (.bind 27 (.alias (.loc 28))) (.seq (.bind 26 (.alias (.loc 27))) (.seq (.readAttr 4) (.seq (.bind 25 (.alias (.loc 26))) (.seq (.bind 24 (.fresh [(.loc 25)])) (.seq (.bind 22 (.alias (.sub (.loc 24) 0))) RegressionTreeBasedAL_query_b63))))))
def RegressionTreeBasedAL_query_b67 : Prog :=
  .seq (.mutate (.loc 29) []) .skip
def RegressionTreeBasedAL_query_b68 : Prog :=
  .ite RegressionTreeBasedAL_query_b67 .skip .skip
def RegressionTreeBasedAL_query_b69 : Prog :=
  .ite RegressionTreeBasedAL_query_b68 .skip .skip
def RegressionTreeBasedAL_query_b70 : Prog :=
  .seq (.mutate (.loc 29) []) .skip
def RegressionTreeBasedAL_query_b71 : Prog :=
  .ite RegressionTreeBasedAL_query_b70 .skip RegressionTreeBasedAL_query_b69
def RegressionTreeBasedAL_query_b72 : Prog :=
  .ite RegressionTreeBasedAL_query_b71 .skip (.seq (.mutate (.loc 29) []) (.seq (.bind 28 (.fresh [])) RegressionTreeBasedAL_query_b66))
def RegressionTreeBasedAL_query_b73 : Prog :=
  .seq (.bind 31 (.deep (.loc 30))) (.seq (.callFit (.loc 31)) (.seq (.bind 30 (.alias (.loc 31))) .skip))
def RegressionTreeBasedAL_query_b74 : Prog :=
  .seq (.bind 32 (.deep (.loc 30))) (.seq (.callFit (.loc 32)) (.seq (.bind 30 (.alias (.loc 32))) .skip))
def RegressionTreeBasedAL_query_b75 : Prog :=
  .ite RegressionTreeBasedAL_query_b73 RegressionTreeBasedAL_query_b74 .skip
def RegressionTreeBasedAL_query_b76 : Prog :=
  .ite RegressionTreeBasedAL_query_b75 .skip (.seq (.readAttr 5) (.seq (.bind 29 (.fresh [])) RegressionTreeBasedAL_query_b72))
def RegressionTreeBasedAL_query_b77 : Prog :=
  .ite RegressionTreeBasedAL_query_b2 RegressionTreeBasedAL_query_b76 .skip
def RegressionTreeBasedAL_query_b78 : Prog :=
  .seq (.readAttr 5) (.seq (.bind 34 (.fresh [])) (.seq (.bind 33 (.alias (.loc 34))) .skip))
def RegressionTreeBasedAL_query_b79 : Prog :=
  .seq (.bind 33 (.alias (.loc 35))) .skip
def RegressionTreeBasedAL_query_b80 : Prog :=
  .seq (.bind 33 (.fresh [])) .skip
def RegressionTreeBasedAL_query_b81 : Prog :=
  .ite RegressionTreeBasedAL_query_b79 RegressionTreeBasedAL_query_b80 .skip
def RegressionTreeBasedAL_query_b82 : Prog :=
  .ite RegressionTreeBasedAL_query_b78 RegressionTreeBasedAL_query_b81 (.seq (.bind 4 (.alias (.loc 33))) (.seq (.readAttr 5) (.seq (.readAttr 5) RegressionTreeBasedAL_query_b77)))
def RegressionTreeBasedAL_query_b83 : Prog :=
  .seq (.readAttr 5) .skip
def RegressionTreeBasedAL_query_b84 : Prog :=
  .ite RegressionTreeBasedAL_query_b83 .skip (.seq (.bind 37 (.alias (.loc 38))) (.seq (.bind 36 (.alias (.loc 37))) (.seq (.bind 35 (.alias (.loc 36))) RegressionTreeBasedAL_query_b82)))
def RegressionTreeBasedAL_query_b85 : Prog :=
  .seq (.bind 41 (.alias (.loc 42))) .skip
def RegressionTreeBasedAL_query_b86 : Prog :=
  .seq (.bind 42 (.deep (.loc 42))) (.seq (.bind 42 (.alias (.loc 42))) (.seq (.bind 43 (.fresh [])) (.seq (.bind 41 (.fresh [(.loc 43)])) .skip)))
def RegressionTreeBasedAL_query_b87 : Prog :=
  .ite RegressionTreeBasedAL_query_b85 RegressionTreeBasedAL_query_b86 (.seq (.writeAttr 4 (.alias (.loc 41))) (.seq (.bind 39 (.alias (.loc 40))) (.seq (.bind 38 (.alias (.loc 39))) RegressionTreeBasedAL_query_b84)))
def RegressionTreeBasedAL_query_b88 : Prog :=
  .seq (.bind 40 (.fresh [])) .skip
def RegressionTreeBasedAL_query_b89 : Prog :=
  .seq (.bind 44 (.deep (.loc 45))) (.seq (.mutate (.loc 44) []) (.seq (.bind 40 (.alias (.loc 40))) (.seq (.readAttr 6) .skip)))
def RegressionTreeBasedAL_query_b90 : Prog :=
  .ite RegressionTreeBasedAL_query_b88 RegressionTreeBasedAL_query_b89 .skip
def RegressionTreeBasedAL_query_b91 : Prog :=
  .seq (.bind 40 (.copy (.loc 40))) RegressionTreeBasedAL_query_b90
def RegressionTreeBasedAL_query_b92 : Prog :=
  .ite RegressionTreeBasedAL_query_b91 .skip (.seq (.bind 42 (.alias (.attr 2))) RegressionTreeBasedAL_query_b87)
def RegressionTreeBasedAL_query_b93 : Prog :=
  .seq (.bind 34 (.fresh [])) (.seq (.bind 0 (.fresh [])) (.seq (.bind 29 (.fresh [])) (.seq (.bind 38 (.alias (.loc 36))) (.seq (.bind 40 (.alias (.loc 38))) (.seq (.bind 45 (.fresh [])) (.seq (.bind 45 (.fresh [])) (.seq (.writeAttr 6 (.fresh [])) (.seq (.writeAttr 5 (.alias (.attr 1))) (.seq (.readAttr 5) RegressionTreeBasedAL_query_b92)))))))))
def RegressionTreeBasedAL_query_b94 : Prog :=
  .seq (.bind 20 (.fresh [])) (.seq (.bind 26 (.fresh [])) (.seq (.bind 28 (.fresh [])) (.seq (.bind 25 (.fresh [])) (.seq (.bind 16 (.fresh [])) (.seq (.bind 22 (.fresh [])) (.seq (.bind 19 (.fresh [])) (.seq (.bind 3 (.fresh [])) (.seq (.bind 42 (.fresh [])) (.seq (.bind 43 (.fresh [])) RegressionTreeBasedAL_query_b93)))))))))
def RegressionTreeBasedAL_query_b95 : Prog :=
  .seq (.bind 23 (.fresh [])) (.seq (.bind 1 (.fresh [])) (.seq (.bind 2 (.fresh [])) (.seq (.bind 35 (.fresh [])) (.seq (.bind 38 (.fresh [])) (.seq (.bind 40 (.fresh [])) (.seq (.bind 45 (.fresh [])) (.seq (.bind 44 (.fresh [])) (.seq (.bind 14 (.fresh [])) (.seq (.bind 4 (.fresh [])) RegressionTreeBasedAL_query_b94)))))))))
def RegressionTreeBasedAL_query_b96 : Prog :=
  .seq (.bind 7 (.fresh [])) (.seq (.bind 6 (.fresh [])) (.seq (.bind 5 (.fresh [])) (.seq (.bind 12 (.fresh [])) (.seq (.bind 11 (.fresh [])) (.seq (.bind 10 (.fresh [])) (.seq (.bind 9 (.fresh [])) (.seq (.bind 17 (.fresh [])) (.seq (.bind 15 (.fresh [])) (.seq (.bind 13 (.fresh [])) RegressionTreeBasedAL_query_b95)))))))))
def RegressionTreeBasedAL_query_b97 : Prog :=
  .seq (.bind 41 (.fresh [])) (.seq (.bind 33 (.fresh [])) (.seq (.bind 27 (.fresh [])) (.seq (.bind 21 (.fresh [])) (.seq (.bind 18 (.fresh [])) (.seq (.bind 37 (.fresh [])) (.seq (.bind 31 (.fresh [])) (.seq (.bind 32 (.fresh [])) (.seq (.bind 24 (.fresh [])) (.seq (.bind 8 (.fresh [])) RegressionTreeBasedAL_query_b96)))))))))
def RegressionTreeBasedAL_query_b98 : Prog :=
  .seq (.bind 39 (.fresh [])) RegressionTreeBasedAL_query_b97
def summary_RegressionTreeBasedAL_query : Summary :=
  { params := [0, 1, 2, 3], closedAttrs := [6], safeAttrs := [], body := RegressionTreeBasedAL_query_b98 }
theorem effects_RegressionTreeBasedAL_query : FrameOK summary_RegressionTreeBasedAL_query = true := by decide +kernel
theorem query_RegressionTreeBasedAL_historyFree : HistoryFree summary_RegressionTreeBasedAL_query = true := by decide +kernel

/-! ### SubSamplingWrapper  (skactiveml/pool/_wrapper.py)
attributes: 0=query_strategy 1=max_candidates 2=exclude_non_subsample 3=missing_label 4=random_state 5=missing_label_ 6=random_state_ 7=n_features_in_
keys: 0=* -/
-- SubSamplingWrapper.query: locals 0=new_utilities 1=$ret13 2=random_state@check_random_state3 3=seed@check_random_state3 4=check_candidates_dict@_validate_data2 5=check_X_dict@_validate_data2
def SubSamplingWrapper_query_b0 : Prog :=
  .seq (.bind 0 (.fresh [])) (.seq (.mutate (.loc 0) []) (.seq (.mutate (.loc 0) []) .skip))
def SubSamplingWrapper_query_b1 : Prog :=
  .seq (.bind 0 (.fresh [])) (.seq (.mutate (.loc 0) []) (.seq (.mutate (.loc 0) []) .skip))
def SubSamplingWrapper_query_b2 : Prog :=
  .ite SubSamplingWrapper_query_b0 SubSamplingWrapper_query_b1 .skip
def SubSamplingWrapper_query_b3 : Prog :=
  .ite SubSamplingWrapper_query_b2 .skip .skip
def SubSamplingWrapper_query_b4 : Prog :=
  .seq (.bind 0 (.fresh [])) (.seq (.mutate (.loc 0) []) .skip)
def SubSamplingWrapper_query_b5 : Prog :=
  .ite SubSamplingWrapper_query_b4 .skip .skip
def SubSamplingWrapper_query_b6 : Prog :=
  .ite SubSamplingWrapper_query_b5 .skip SubSamplingWrapper_query_b3
def SubSamplingWrapper_query_b7 : Prog :=
  .seq (.readAttr 5) .skip
def SubSamplingWrapper_query_b8 : Prog :=
  .ite SubSamplingWrapper_query_b7 .skip .skip
def SubSamplingWrapper_query_b9 : Prog :=
  .seq (.readAttr 5) SubSamplingWrapper_query_b8
def SubSamplingWrapper_query_b10 : Prog :=
  .ite SubSamplingWrapper_query_b9 .skip (.seq (.callInner (.attr 0)) SubSamplingWrapper_query_b6)
def SubSamplingWrapper_query_b11 : Prog :=
  .seq (.readAttr 5) .skip
def SubSamplingWrapper_query_b12 : Prog :=
  .ite SubSamplingWrapper_query_b11 .skip SubSamplingWrapper_query_b10
def SubSamplingWrapper_query_b13 : Prog :=
  .ite .skip .abort .skip
def SubSamplingWrapper_query_b14 : Prog :=
  .ite .skip SubSamplingWrapper_query_b13 SubSamplingWrapper_query_b12
def SubSamplingWrapper_query_b15 : Prog :=
  .seq (.readAttr 5) SubSamplingWrapper_query_b14
def SubSamplingWrapper_query_b16 : Prog :=
  .ite .abort SubSamplingWrapper_query_b15 .skip
def SubSamplingWrapper_query_b17 : Prog :=
  .seq (.readAttr 5) .skip
def SubSamplingWrapper_query_b18 : Prog :=
  .ite SubSamplingWrapper_query_b17 .skip SubSamplingWrapper_query_b16
def SubSamplingWrapper_query_b19 : Prog :=
  .seq (.bind 1 (.alias (.loc 2))) .skip
def SubSamplingWrapper_query_b20 : Prog :=
  .seq (.bind 2 (.deep (.loc 2))) (.seq (.bind 2 (.alias (.loc 2))) (.seq (.bind 3 (.fresh [])) (.seq (.bind 1 (.fresh [(.loc 3)])) .skip)))
def SubSamplingWrapper_query_b21 : Prog :=
  .ite SubSamplingWrapper_query_b19 SubSamplingWrapper_query_b20 (.seq (.writeAttr 6 (.alias (.loc 1))) SubSamplingWrapper_query_b18)
def SubSamplingWrapper_query_b22 : Prog :=
  .seq (.bind 4 (.deep (.loc 5))) (.seq (.mutate (.loc 4) []) (.seq (.readAttr 7) .skip))
def SubSamplingWrapper_query_b23 : Prog :=
  .ite .skip SubSamplingWrapper_query_b22 .skip
def SubSamplingWrapper_query_b24 : Prog :=
  .ite SubSamplingWrapper_query_b23 .skip (.seq (.bind 2 (.alias (.attr 4))) SubSamplingWrapper_query_b21)
def SubSamplingWrapper_query_b25 : Prog :=
  .seq (.bind 5 (.fresh [])) (.seq (.bind 4 (.fresh [])) (.seq (.bind 0 (.fresh [])) (.seq (.bind 2 (.fresh [])) (.seq (.bind 3 (.fresh [])) (.seq (.bind 5 (.fresh [])) (.seq (.bind 5 (.fresh [])) (.seq (.writeAttr 7 (.fresh [])) (.seq (.writeAttr 5 (.alias (.attr 3))) (.seq (.readAttr 5) SubSamplingWrapper_query_b24)))))))))
def SubSamplingWrapper_query_b26 : Prog :=
  .seq (.bind 1 (.fresh [])) SubSamplingWrapper_query_b25
def summary_SubSamplingWrapper_query : Summary :=
  { params := [0, 1, 2, 3, 4], closedAttrs := [], safeAttrs := [], body := SubSamplingWrapper_query_b26 }
theorem effects_SubSamplingWrapper_query : FrameOK summary_SubSamplingWrapper_query = true := by decide +kernel
theorem query_SubSamplingWrapper_historyFree : HistoryFree summary_SubSamplingWrapper_query = true := by decide +kernel

/-! ### ParallelUtilityEstimationWrapper  (skactiveml/pool/_wrapper.py)
attributes: 0=query_strategy 1=n_jobs 2=parallel_dict 3=missing_label 4=random_state 5=random_state_ 6=missing_label_ 7=n_features_in_
keys: 0=* -/
-- ParallelUtilityEstimationWrapper.query: locals 0=utilities 1=utilities_cand 2=parallel_dict 3=$ret13 4=random_state@check_random_state3 5=seed@check_random_state3 6=check_candidates_dict@_validate_data2 7=check_X_dict@_validate_data2
def ParallelUtilityEstimationWrapper_query_b0 : Prog :=
  .seq (.bind 0 (.alias (.loc 1))) .skip
def ParallelUtilityEstimationWrapper_query_b1 : Prog :=
  .seq (.bind 0 (.fresh [])) (.seq (.mutate (.loc 0) []) .skip)
def ParallelUtilityEstimationWrapper_query_b2 : Prog :=
  .ite ParallelUtilityEstimationWrapper_query_b0 ParallelUtilityEstimationWrapper_query_b1 (.seq (.readAttr 5) .skip)
def ParallelUtilityEstimationWrapper_query_b3 : Prog :=
  .seq (.callInner (.attr 0)) .skip
def ParallelUtilityEstimationWrapper_query_b4 : Prog :=
  .ite ParallelUtilityEstimationWrapper_query_b3 .skip (.seq (.bind 1 (.fresh [])) ParallelUtilityEstimationWrapper_query_b2)
def ParallelUtilityEstimationWrapper_query_b5 : Prog :=
  .seq (.bind 2 (.fresh [])) .skip
def ParallelUtilityEstimationWrapper_query_b6 : Prog :=
  .seq (.bind 2 (.copy (.attr 2))) .skip
def ParallelUtilityEstimationWrapper_query_b7 : Prog :=
  .ite ParallelUtilityEstimationWrapper_query_b6 .abort .skip
def ParallelUtilityEstimationWrapper_query_b8 : Prog :=
  .ite ParallelUtilityEstimationWrapper_query_b5 ParallelUtilityEstimationWrapper_query_b7 (.seq (.mutate (.loc 2) []) ParallelUtilityEstimationWrapper_query_b4)
def ParallelUtilityEstimationWrapper_query_b9 : Prog :=
  .seq (.readAttr 6) .skip
def ParallelUtilityEstimationWrapper_query_b10 : Prog :=
  .ite ParallelUtilityEstimationWrapper_query_b9 .skip ParallelUtilityEstimationWrapper_query_b8
def ParallelUtilityEstimationWrapper_query_b11 : Prog :=
  .ite .abort ParallelUtilityEstimationWrapper_query_b10 .skip
def ParallelUtilityEstimationWrapper_query_b12 : Prog :=
  .ite .abort ParallelUtilityEstimationWrapper_query_b11 .skip
def ParallelUtilityEstimationWrapper_query_b13 : Prog :=
  .seq (.readAttr 6) .skip
def ParallelUtilityEstimationWrapper_query_b14 : Prog :=
  .ite ParallelUtilityEstimationWrapper_query_b13 .skip ParallelUtilityEstimationWrapper_query_b12
def ParallelUtilityEstimationWrapper_query_b15 : Prog :=
  .seq (.bind 3 (.alias (.loc 4))) .skip
def ParallelUtilityEstimationWrapper_query_b16 : Prog :=
  .seq (.bind 4 (.deep (.loc 4))) (.seq (.bind 4 (.alias (.loc 4))) (.seq (.bind 5 (.fresh [])) (.seq (.bind 3 (.fresh [(.loc 5)])) .skip)))
def ParallelUtilityEstimationWrapper_query_b17 : Prog :=
  .ite ParallelUtilityEstimationWrapper_query_b15 ParallelUtilityEstimationWrapper_query_b16 (.seq (.writeAttr 5 (.alias (.loc 3))) ParallelUtilityEstimationWrapper_query_b14)
def ParallelUtilityEstimationWrapper_query_b18 : Prog :=
  .seq (.bind 6 (.deep (.loc 7))) (.seq (.mutate (.loc 6) []) (.seq (.readAttr 7) .skip))
def ParallelUtilityEstimationWrapper_query_b19 : Prog :=
  .ite .skip ParallelUtilityEstimationWrapper_query_b18 .skip
def ParallelUtilityEstimationWrapper_query_b20 : Prog :=
  .ite ParallelUtilityEstimationWrapper_query_b19 .skip (.seq (.bind 4 (.alias (.attr 4))) ParallelUtilityEstimationWrapper_query_b17)
def ParallelUtilityEstimationWrapper_query_b21 : Prog :=
  .seq (.bind 2 (.fresh [])) (.seq (.bind 4 (.fresh [])) (.seq (.bind 5 (.fresh [])) (.seq (.bind 0 (.fresh [])) (.seq (.bind 1 (.fresh [])) (.seq (.bind 7 (.fresh [])) (.seq (.bind 7 (.fresh [])) (.seq (.writeAttr 7 (.fresh [])) (.seq (.writeAttr 6 (.alias (.attr 3))) (.seq (.readAttr 6) ParallelUtilityEstimationWrapper_query_b20)))))))))
def ParallelUtilityEstimationWrapper_query_b22 : Prog :=
  .seq (.bind 3 (.fresh [])) (.seq (.bind 7 (.fresh [])) (.seq (.bind 6 (.fresh [])) ParallelUtilityEstimationWrapper_query_b21))
def summary_ParallelUtilityEstimationWrapper_query : Summary :=
  { params := [0, 1, 2, 3, 4], closedAttrs := [], safeAttrs := [], body := ParallelUtilityEstimationWrapper_query_b22 }
theorem effects_ParallelUtilityEstimationWrapper_query : FrameOK summary_ParallelUtilityEstimationWrapper_query = true := by decide +kernel
theorem query_ParallelUtilityEstimationWrapper_historyFree : HistoryFree summary_ParallelUtilityEstimationWrapper_query = true := by decide +kernel

/-! ### Falcun  (skactiveml/pool/_falcun.py)
attributes: 0=gamma 1=missing_label 2=random_state 3=random_state_ 4=missing_label_ 5=n_features_in_
keys: 0=* 1=0 -/
-- Falcun.query: locals 0=utilities 1=utilities_cand 2=$t23 3=query_idx 4=rel_cand 5=dist_cand 6=dist_new 7=$t21 8=unc_cand 9=$ret19 10=clf 11=$t17 12=$t18 13=$ret13 14=random_state@check_random_state3 15=seed@check_random_state3 16=check_candidates_dict@_validate_data2 17=check_X_dict@_validate_data2
def Falcun_query_b0 : Prog :=
  .seq (.bind 0 (.fresh [])) (.seq (.mutate (.loc 0) []) .skip)
def Falcun_query_b1 : Prog :=
  .seq (.bind 0 (.alias (.loc 1))) .skip
def Falcun_query_b2 : Prog :=
  .ite Falcun_query_b0 Falcun_query_b1 .skip
def Falcun_query_b3 : Prog :=
  .seq (.bind 4 (.fresh [])) (.seq (.mutate (.loc 4) []) .skip)
def Falcun_query_b4 : Prog :=
  .ite Falcun_query_b3 .skip (.seq (.bind 4 (.fresh [])) (.seq (.readAttr 3) (.seq (.bind 3 (.fresh [])) (.seq (.mutate (.loc 4) []) (.seq (.mutate (.loc 1) []) (.seq (.bind 2 (.fresh [])) (.seq (.mutate (.loc 2) [(.sub (.loc 3) 1)]) .skip)))))))
def Falcun_query_b5 : Prog :=
  .seq (.mutate (.loc 5) []) .skip
def Falcun_query_b6 : Prog :=
  .ite Falcun_query_b5 .skip .skip
def Falcun_query_b7 : Prog :=
  .seq (.bind 6 (.fresh [])) (.seq (.bind 5 (.fresh [(.loc 6), (.loc 5)])) (.seq (.mutate (.loc 5) []) Falcun_query_b6))
def Falcun_query_b8 : Prog :=
  .ite Falcun_query_b7 .skip (.seq (.bind 4 (.fresh [])) (.seq (.mutate (.loc 4) []) Falcun_query_b4))
def Falcun_query_b9 : Prog :=
  .ite Falcun_query_b8 .skip .skip
def Falcun_query_b10 : Prog :=
  .seq (.bind 4 (.fresh [])) (.seq (.mutate (.loc 4) []) .skip)
def Falcun_query_b11 : Prog :=
  .ite Falcun_query_b10 .skip (.seq (.bind 4 (.fresh [])) (.seq (.readAttr 3) (.seq (.bind 3 (.fresh [])) (.seq (.mutate (.loc 4) []) (.seq (.mutate (.loc 1) []) (.seq (.bind 7 (.fresh [])) (.seq (.mutate (.loc 7) [(.sub (.loc 3) 1)]) Falcun_query_b9)))))))
def Falcun_query_b12 : Prog :=
  .seq (.mutate (.loc 5) []) .skip
def Falcun_query_b13 : Prog :=
  .ite Falcun_query_b12 .skip .skip
def Falcun_query_b14 : Prog :=
  .seq (.bind 6 (.fresh [])) (.seq (.bind 5 (.fresh [(.loc 6), (.loc 5)])) (.seq (.mutate (.loc 5) []) Falcun_query_b13))
def Falcun_query_b15 : Prog :=
  .ite Falcun_query_b14 .skip (.seq (.bind 4 (.fresh [])) (.seq (.mutate (.loc 4) []) Falcun_query_b11))
def Falcun_query_b16 : Prog :=
  .ite Falcun_query_b15 .skip Falcun_query_b2
def Falcun_query_b17 : Prog :=
  .seq (.bind 9 (.fresh [])) .skip
def Falcun_query_b18 : Prog :=
  .ite .abort Falcun_query_b17 (.seq (.bind 8 (.alias (.loc 9))) (.seq (.bind 5 (.copy (.loc 8))) (.seq (.bind 1 (.fresh [])) Falcun_query_b16)))
def Falcun_query_b19 : Prog :=
  .seq (.bind 11 (.deep (.loc 10))) (.seq (.callFit (.loc 11)) (.seq (.bind 10 (.alias (.loc 11))) .skip))
def Falcun_query_b20 : Prog :=
  .seq (.bind 12 (.deep (.loc 10))) (.seq (.callFit (.loc 12)) (.seq (.bind 10 (.alias (.loc 12))) .skip))
def Falcun_query_b21 : Prog :=
  .ite Falcun_query_b19 Falcun_query_b20 .skip
def Falcun_query_b22 : Prog :=
  .ite Falcun_query_b21 .skip Falcun_query_b18
def Falcun_query_b23 : Prog :=
  .seq (.readAttr 4) .skip
def Falcun_query_b24 : Prog :=
  .ite Falcun_query_b23 .skip (.seq (.readAttr 4) Falcun_query_b22)
def Falcun_query_b25 : Prog :=
  .seq (.readAttr 4) .skip
def Falcun_query_b26 : Prog :=
  .ite Falcun_query_b25 .skip Falcun_query_b24
def Falcun_query_b27 : Prog :=
  .seq (.bind 13 (.alias (.loc 14))) .skip
def Falcun_query_b28 : Prog :=
  .seq (.bind 14 (.deep (.loc 14))) (.seq (.bind 14 (.alias (.loc 14))) (.seq (.bind 15 (.fresh [])) (.seq (.bind 13 (.fresh [(.loc 15)])) .skip)))
def Falcun_query_b29 : Prog :=
  .ite Falcun_query_b27 Falcun_query_b28 (.seq (.writeAttr 3 (.alias (.loc 13))) Falcun_query_b26)
def Falcun_query_b30 : Prog :=
  .seq (.bind 16 (.deep (.loc 17))) (.seq (.mutate (.loc 16) []) (.seq (.readAttr 5) .skip))
def Falcun_query_b31 : Prog :=
  .ite .skip Falcun_query_b30 .skip
def Falcun_query_b32 : Prog :=
  .ite Falcun_query_b31 .skip (.seq (.bind 14 (.alias (.attr 2))) Falcun_query_b29)
def Falcun_query_b33 : Prog :=
  .seq (.bind 4 (.fresh [])) (.seq (.bind 15 (.fresh [])) (.seq (.bind 8 (.fresh [])) (.seq (.bind 0 (.fresh [])) (.seq (.bind 1 (.fresh [])) (.seq (.bind 17 (.fresh [])) (.seq (.bind 17 (.fresh [])) (.seq (.writeAttr 5 (.fresh [])) (.seq (.writeAttr 4 (.alias (.attr 1))) (.seq (.readAttr 4) Falcun_query_b32)))))))))
def Falcun_query_b34 : Prog :=
  .seq (.bind 11 (.fresh [])) (.seq (.bind 12 (.fresh [])) (.seq (.bind 7 (.fresh [])) (.seq (.bind 2 (.fresh [])) (.seq (.bind 17 (.fresh [])) (.seq (.bind 16 (.fresh [])) (.seq (.bind 5 (.fresh [])) (.seq (.bind 6 (.fresh [])) (.seq (.bind 3 (.fresh [])) (.seq (.bind 14 (.fresh [])) Falcun_query_b33)))))))))
def Falcun_query_b35 : Prog :=
  .seq (.bind 13 (.fresh [])) (.seq (.bind 9 (.fresh [])) Falcun_query_b34)
def summary_Falcun_query : Summary :=
  { params := [0, 1, 2], closedAttrs := [5], safeAttrs := [], body := Falcun_query_b35 }
theorem effects_Falcun_query : FrameOK summary_Falcun_query = true := by decide +kernel
theorem query_Falcun_historyFree : HistoryFree summary_Falcun_query = true := by decide +kernel

/-! ### IntervalEstimationThreshold  (skactiveml/pool/multiannotator/_interval_estimation_threshold.py)
attributes: 0=epsilon 1=alpha 2=random_state 3=missing_label 4=random_state_ 5=missing_label_ 6=n_features_in_
keys: 0=* 1=classes_ 2=missing_label -/
-- IntervalEstimationThreshold.query: locals 0=utilities 1=ie_model 2=clf 3=$t20 4=$t21 5=A_cand@_transform_cand_annot4 6=annotators@_transform_cand_annot4 7=unlbd_pairs@_transform_cand_annot4 8=annotators 9=$ret5 10=annotators@_validate_data1 11=$ret15 12=random_state@check_random_state3 13=seed@check_random_state3 14=check_candidates_dict@_validate_data2 15=check_X_dict@_validate_data2 16=annot_arr@_validate_data1
def IntervalEstimationThreshold_query_b0 : Prog :=
  .seq (.bind 0 (.fresh [])) (.seq (.mutate (.loc 0) []) .skip)
def IntervalEstimationThreshold_query_b1 : Prog :=
  .ite IntervalEstimationThreshold_query_b0 .skip (.seq (.readAttr 4) .skip)
def IntervalEstimationThreshold_query_b2 : Prog :=
  .ite .skip .abort .skip
def IntervalEstimationThreshold_query_b3 : Prog :=
  .ite .skip IntervalEstimationThreshold_query_b2 IntervalEstimationThreshold_query_b1
def IntervalEstimationThreshold_query_b4 : Prog :=
  .ite .abort IntervalEstimationThreshold_query_b3 .skip
def IntervalEstimationThreshold_query_b5 : Prog :=
  .ite .abort .skip (.seq (.readAttr 4) (.seq (.bind 1 (.fresh [(.sub (.loc 2) 1), (.sub (.loc 2) 2), (.attr 1), (.attr 4)])) (.seq (.callFit (.loc 1)) (.seq (.bind 0 (.fresh [])) (.seq (.mutate (.loc 0) []) IntervalEstimationThreshold_query_b4)))))
def IntervalEstimationThreshold_query_b6 : Prog :=
  .seq (.bind 3 (.deep (.loc 2))) (.seq (.callFit (.loc 3)) (.seq (.bind 2 (.alias (.loc 3))) .skip))
def IntervalEstimationThreshold_query_b7 : Prog :=
  .seq (.bind 4 (.deep (.loc 2))) (.seq (.callFit (.loc 4)) (.seq (.bind 2 (.alias (.loc 4))) .skip))
def IntervalEstimationThreshold_query_b8 : Prog :=
  .ite IntervalEstimationThreshold_query_b6 IntervalEstimationThreshold_query_b7 .skip
def IntervalEstimationThreshold_query_b9 : Prog :=
  .ite IntervalEstimationThreshold_query_b8 .skip IntervalEstimationThreshold_query_b5
def IntervalEstimationThreshold_query_b10 : Prog :=
  .seq (.bind 5 (.fresh [])) .skip
def IntervalEstimationThreshold_query_b11 : Prog :=
  .seq (.bind 5 (.fresh [])) (.seq (.mutate (.loc 5) []) .skip)
def IntervalEstimationThreshold_query_b12 : Prog :=
  .seq (.bind 5 (.alias (.loc 6))) .skip
def IntervalEstimationThreshold_query_b13 : Prog :=
  .ite IntervalEstimationThreshold_query_b11 IntervalEstimationThreshold_query_b12 .skip
def IntervalEstimationThreshold_query_b14 : Prog :=
  .ite IntervalEstimationThreshold_query_b10 IntervalEstimationThreshold_query_b13 .skip
def IntervalEstimationThreshold_query_b15 : Prog :=
  .seq (.bind 5 (.alias (.sub (.loc 7) 0))) .skip
def IntervalEstimationThreshold_query_b16 : Prog :=
  .seq (.bind 5 (.fresh [])) (.seq (.mutate (.loc 5) []) .skip)
def IntervalEstimationThreshold_query_b17 : Prog :=
  .seq (.bind 5 (.alias (.loc 6))) .skip
def IntervalEstimationThreshold_query_b18 : Prog :=
  .ite IntervalEstimationThreshold_query_b16 IntervalEstimationThreshold_query_b17 .skip
def IntervalEstimationThreshold_query_b19 : Prog :=
  .ite IntervalEstimationThreshold_query_b15 IntervalEstimationThreshold_query_b18 .skip
def IntervalEstimationThreshold_query_b20 : Prog :=
  .seq (.bind 5 (.fresh [])) .skip
def IntervalEstimationThreshold_query_b21 : Prog :=
  .seq (.bind 5 (.fresh [])) (.seq (.mutate (.loc 5) []) .skip)
def IntervalEstimationThreshold_query_b22 : Prog :=
  .seq (.bind 5 (.alias (.loc 6))) .skip
def IntervalEstimationThreshold_query_b23 : Prog :=
  .ite IntervalEstimationThreshold_query_b21 IntervalEstimationThreshold_query_b22 .skip
def IntervalEstimationThreshold_query_b24 : Prog :=
  .ite IntervalEstimationThreshold_query_b20 IntervalEstimationThreshold_query_b23 .skip
def IntervalEstimationThreshold_query_b25 : Prog :=
  .ite IntervalEstimationThreshold_query_b19 IntervalEstimationThreshold_query_b24 .skip
def IntervalEstimationThreshold_query_b26 : Prog :=
  .ite IntervalEstimationThreshold_query_b14 IntervalEstimationThreshold_query_b25 IntervalEstimationThreshold_query_b9
def IntervalEstimationThreshold_query_b27 : Prog :=
  .seq (.bind 10 (.fresh [])) .skip
def IntervalEstimationThreshold_query_b28 : Prog :=
  .seq (.bind 10 (.alias (.loc 10))) .skip
def IntervalEstimationThreshold_query_b29 : Prog :=
  .ite IntervalEstimationThreshold_query_b28 .abort .skip
def IntervalEstimationThreshold_query_b30 : Prog :=
  .ite IntervalEstimationThreshold_query_b27 IntervalEstimationThreshold_query_b29 .skip
def IntervalEstimationThreshold_query_b31 : Prog :=
  .seq (.bind 10 (.alias (.loc 10))) IntervalEstimationThreshold_query_b30
def IntervalEstimationThreshold_query_b32 : Prog :=
  .ite IntervalEstimationThreshold_query_b31 .skip (.seq (.bind 9 (.alias (.loc 10))) (.seq (.bind 8 (.alias (.loc 9))) (.seq (.bind 6 (.alias (.loc 8))) (.seq (.readAttr 5) (.seq (.bind 7 (.fresh [])) IntervalEstimationThreshold_query_b26)))))
def IntervalEstimationThreshold_query_b33 : Prog :=
  .seq (.bind 11 (.alias (.loc 12))) .skip
def IntervalEstimationThreshold_query_b34 : Prog :=
  .seq (.bind 12 (.deep (.loc 12))) (.seq (.bind 12 (.alias (.loc 12))) (.seq (.bind 13 (.fresh [])) (.seq (.bind 11 (.fresh [(.loc 13)])) .skip)))
def IntervalEstimationThreshold_query_b35 : Prog :=
  .ite IntervalEstimationThreshold_query_b33 IntervalEstimationThreshold_query_b34 (.seq (.writeAttr 4 (.alias (.loc 11))) (.seq (.readAttr 5) IntervalEstimationThreshold_query_b32))
def IntervalEstimationThreshold_query_b36 : Prog :=
  .seq (.bind 14 (.deep (.loc 15))) (.seq (.mutate (.loc 14) []) (.seq (.readAttr 6) .skip))
def IntervalEstimationThreshold_query_b37 : Prog :=
  .ite .skip IntervalEstimationThreshold_query_b36 .skip
def IntervalEstimationThreshold_query_b38 : Prog :=
  .ite IntervalEstimationThreshold_query_b37 .skip (.seq (.bind 12 (.alias (.attr 2))) IntervalEstimationThreshold_query_b35)
def IntervalEstimationThreshold_query_b39 : Prog :=
  .seq (.bind 10 (.alias (.sub (.loc 16) 0))) .skip
def IntervalEstimationThreshold_query_b40 : Prog :=
  .ite IntervalEstimationThreshold_query_b39 .skip .skip
def IntervalEstimationThreshold_query_b41 : Prog :=
  .seq (.bind 16 (.alias (.loc 10))) IntervalEstimationThreshold_query_b40
def IntervalEstimationThreshold_query_b42 : Prog :=
  .ite IntervalEstimationThreshold_query_b41 .skip (.seq (.bind 15 (.fresh [])) (.seq (.bind 15 (.fresh [])) (.seq (.writeAttr 6 (.fresh [])) (.seq (.writeAttr 5 (.alias (.attr 3))) (.seq (.readAttr 5) IntervalEstimationThreshold_query_b38)))))
def IntervalEstimationThreshold_query_b43 : Prog :=
  .seq (.bind 6 (.fresh [])) (.seq (.bind 10 (.fresh [])) (.seq (.bind 15 (.fresh [])) (.seq (.bind 14 (.fresh [])) (.seq (.bind 1 (.fresh [])) (.seq (.bind 12 (.fresh [])) (.seq (.bind 13 (.fresh [])) (.seq (.bind 7 (.fresh [])) (.seq (.bind 0 (.fresh [])) (.seq (.bind 10 (.alias (.loc 8))) IntervalEstimationThreshold_query_b42)))))))))
def IntervalEstimationThreshold_query_b44 : Prog :=
  .seq (.bind 11 (.fresh [])) (.seq (.bind 9 (.fresh [])) (.seq (.bind 3 (.fresh [])) (.seq (.bind 4 (.fresh [])) (.seq (.bind 5 (.fresh [])) (.seq (.bind 16 (.fresh [])) IntervalEstimationThreshold_query_b43)))))
def summary_IntervalEstimationThreshold_query : Summary :=
  { params := [0, 1, 2, 3], closedAttrs := [6], safeAttrs := [], body := IntervalEstimationThreshold_query_b44 }
theorem effects_IntervalEstimationThreshold_query : FrameOK summary_IntervalEstimationThreshold_query = true := by decide +kernel
theorem query_IntervalEstimationThreshold_historyFree : HistoryFree summary_IntervalEstimationThreshold_query = true := by decide +kernel

/-! ### SingleAnnotatorWrapper  (skactiveml/pool/multiannotator/_wrapper.py)
attributes: 0=strategy 1=y_aggregate 2=missing_label 3=random_state 4=random_state_ 5=missing_label_ 6=n_features_in_
keys: 0=* -/
-- SingleAnnotatorWrapper.query: locals 0=indices 1=utilities 2=w_utilities 3=re_val 4=$ret25 5=query_indices@_query_annotators7 6=utilities@_query_annotators7 7=s_utilities@_query_annotators7 8=$ret28 9=utilities@_get_order_preserving_s_query8 10=annotator_utilities@_get_order_preserving_s_query8 11=candidate_utilities@_get_order_preserving_s_query8 12=annotator_utilities@_query_annotators7 13=sample_utilities@_query_annotators7 14=annotator_utilities 15=sample_utilities 16=batch_size_sq 17=A_perf 18=n_selectable_candidates 19=A_cand@_transform_cand_annot4 20=annotators@_transform_cand_annot4 21=unlbd_pairs@_transform_cand_annot4 22=annotators 23=$ret5 24=annotators@_validate_data1 25=$ret15 26=random_state@check_random_state3 27=seed@check_random_state3 28=check_candidates_dict@_validate_data2 29=check_X_dict@_validate_data2 30=annot_arr@_validate_data1
def SingleAnnotatorWrapper_query_b0 : Prog :=
  .seq (.bind 2 (.alias (.sub (.loc 3) 0))) (.seq (.bind 1 (.fresh [])) (.seq (.mutate (.loc 1) []) (.seq (.bind 0 (.fresh [])) (.seq (.mutate (.loc 0) []) (.seq (.mutate (.loc 0) []) .skip)))))
def SingleAnnotatorWrapper_query_b1 : Prog :=
  .seq (.bind 0 (.fresh [])) (.seq (.mutate (.loc 0) []) (.seq (.mutate (.loc 0) []) .skip))
def SingleAnnotatorWrapper_query_b2 : Prog :=
  .ite SingleAnnotatorWrapper_query_b0 SingleAnnotatorWrapper_query_b1 .skip
def SingleAnnotatorWrapper_query_b3 : Prog :=
  .ite .skip SingleAnnotatorWrapper_query_b2 .skip
def SingleAnnotatorWrapper_query_b4 : Prog :=
  .seq (.bind 4 (.fresh [(.loc 5), (.loc 6)])) .skip
def SingleAnnotatorWrapper_query_b5 : Prog :=
  .seq (.bind 4 (.alias (.loc 5))) .skip
def SingleAnnotatorWrapper_query_b6 : Prog :=
  .ite SingleAnnotatorWrapper_query_b4 SingleAnnotatorWrapper_query_b5 (.seq (.bind 3 (.alias (.loc 4))) SingleAnnotatorWrapper_query_b3)
def SingleAnnotatorWrapper_query_b7 : Prog :=
  .seq (.mutate (.loc 6) []) (.seq (.mutate (.loc 5) []) (.seq (.mutate (.loc 7) []) .skip))
def SingleAnnotatorWrapper_query_b8 : Prog :=
  .ite SingleAnnotatorWrapper_query_b7 .skip .skip
def SingleAnnotatorWrapper_query_b9 : Prog :=
  .seq (.mutate (.loc 6) []) (.seq (.mutate (.loc 5) []) (.seq (.mutate (.loc 7) []) SingleAnnotatorWrapper_query_b8))
def SingleAnnotatorWrapper_query_b10 : Prog :=
  .ite SingleAnnotatorWrapper_query_b9 .skip SingleAnnotatorWrapper_query_b6
def SingleAnnotatorWrapper_query_b11 : Prog :=
  .seq (.mutate (.loc 11) []) .skip
def SingleAnnotatorWrapper_query_b12 : Prog :=
  .ite SingleAnnotatorWrapper_query_b11 .skip .skip
def SingleAnnotatorWrapper_query_b13 : Prog :=
  .seq (.mutate (.loc 11) []) SingleAnnotatorWrapper_query_b12
def SingleAnnotatorWrapper_query_b14 : Prog :=
  .ite SingleAnnotatorWrapper_query_b13 .skip (.seq (.mutate (.loc 11) []) (.seq (.mutate (.loc 10) []) (.seq (.bind 9 (.fresh [])) (.seq (.bind 8 (.alias (.loc 9))) (.seq (.bind 7 (.alias (.loc 8))) (.seq (.bind 6 (.fresh [])) (.seq (.bind 5 (.fresh [])) SingleAnnotatorWrapper_query_b10)))))))
def SingleAnnotatorWrapper_query_b15 : Prog :=
  .seq (.bind 15 (.alias (.loc 2))) .skip
def SingleAnnotatorWrapper_query_b16 : Prog :=
  .seq (.bind 15 (.alias (.sub (.loc 2) 0))) .skip
def SingleAnnotatorWrapper_query_b17 : Prog :=
  .ite SingleAnnotatorWrapper_query_b15 SingleAnnotatorWrapper_query_b16 (.seq (.bind 13 (.alias (.loc 15))) (.seq (.bind 12 (.alias (.loc 14))) (.seq (.readAttr 4) (.seq (.bind 11 (.alias (.loc 13))) (.seq (.bind 10 (.alias (.loc 12))) (.seq (.mutate (.loc 11) []) (.seq (.bind 11 (.fresh [(.loc 11)])) SingleAnnotatorWrapper_query_b14)))))))
def SingleAnnotatorWrapper_query_b18 : Prog :=
  .seq (.bind 14 (.fresh [(.loc 16)])) .skip
def SingleAnnotatorWrapper_query_b19 : Prog :=
  .seq (.bind 14 (.alias (.sub (.loc 14) 0))) .skip
def SingleAnnotatorWrapper_query_b20 : Prog :=
  .ite SingleAnnotatorWrapper_query_b19 .skip .skip
def SingleAnnotatorWrapper_query_b21 : Prog :=
  .seq (.bind 14 (.fresh [(.sub (.loc 17) 0), (.loc 16)])) SingleAnnotatorWrapper_query_b20
def SingleAnnotatorWrapper_query_b22 : Prog :=
  .seq (.bind 14 (.fresh [(.sub (.loc 17) 0), (.loc 18), (.loc 16)])) .skip
def SingleAnnotatorWrapper_query_b23 : Prog :=
  .ite SingleAnnotatorWrapper_query_b22 .abort .skip
def SingleAnnotatorWrapper_query_b24 : Prog :=
  .ite SingleAnnotatorWrapper_query_b21 SingleAnnotatorWrapper_query_b23 .skip
def SingleAnnotatorWrapper_query_b25 : Prog :=
  .seq (.bind 17 (.fresh [])) .skip
def SingleAnnotatorWrapper_query_b26 : Prog :=
  .seq (.bind 17 (.fresh [])) .skip
def SingleAnnotatorWrapper_query_b27 : Prog :=
  .ite SingleAnnotatorWrapper_query_b25 SingleAnnotatorWrapper_query_b26 SingleAnnotatorWrapper_query_b24
def SingleAnnotatorWrapper_query_b28 : Prog :=
  .seq (.bind 17 (.alias (.loc 17))) SingleAnnotatorWrapper_query_b27
def SingleAnnotatorWrapper_query_b29 : Prog :=
  .ite SingleAnnotatorWrapper_query_b28 .abort .skip
def SingleAnnotatorWrapper_query_b30 : Prog :=
  .ite SingleAnnotatorWrapper_query_b18 SingleAnnotatorWrapper_query_b29 (.seq (.callInner (.attr 0)) (.seq (.bind 2 (.fresh [])) SingleAnnotatorWrapper_query_b17))
def SingleAnnotatorWrapper_query_b31 : Prog :=
  .ite .abort .skip .skip
def SingleAnnotatorWrapper_query_b32 : Prog :=
  .ite SingleAnnotatorWrapper_query_b31 .abort .skip
def SingleAnnotatorWrapper_query_b33 : Prog :=
  .ite .skip SingleAnnotatorWrapper_query_b32 SingleAnnotatorWrapper_query_b30
def SingleAnnotatorWrapper_query_b34 : Prog :=
  .seq (.readAttr 5) (.seq (.bind 18 (.fresh [])) (.seq (.bind 16 (.fresh [])) SingleAnnotatorWrapper_query_b33))
def SingleAnnotatorWrapper_query_b35 : Prog :=
  .ite .abort SingleAnnotatorWrapper_query_b34 .skip
def SingleAnnotatorWrapper_query_b36 : Prog :=
  .ite .abort SingleAnnotatorWrapper_query_b35 .skip
def SingleAnnotatorWrapper_query_b37 : Prog :=
  .seq (.readAttr 5) .skip
def SingleAnnotatorWrapper_query_b38 : Prog :=
  .ite SingleAnnotatorWrapper_query_b37 .skip .skip
def SingleAnnotatorWrapper_query_b39 : Prog :=
  .ite SingleAnnotatorWrapper_query_b38 .skip SingleAnnotatorWrapper_query_b36
def SingleAnnotatorWrapper_query_b40 : Prog :=
  .ite .abort SingleAnnotatorWrapper_query_b39 .skip
def SingleAnnotatorWrapper_query_b41 : Prog :=
  .seq (.bind 19 (.fresh [])) .skip
def SingleAnnotatorWrapper_query_b42 : Prog :=
  .seq (.bind 19 (.fresh [])) (.seq (.mutate (.loc 19) []) .skip)
def SingleAnnotatorWrapper_query_b43 : Prog :=
  .seq (.bind 19 (.alias (.loc 20))) .skip
def SingleAnnotatorWrapper_query_b44 : Prog :=
  .ite SingleAnnotatorWrapper_query_b42 SingleAnnotatorWrapper_query_b43 .skip
def SingleAnnotatorWrapper_query_b45 : Prog :=
  .ite SingleAnnotatorWrapper_query_b41 SingleAnnotatorWrapper_query_b44 .skip
def SingleAnnotatorWrapper_query_b46 : Prog :=
  .seq (.bind 19 (.alias (.sub (.loc 21) 0))) .skip
def SingleAnnotatorWrapper_query_b47 : Prog :=
  .seq (.bind 19 (.fresh [])) (.seq (.mutate (.loc 19) []) .skip)
def SingleAnnotatorWrapper_query_b48 : Prog :=
  .seq (.bind 19 (.alias (.loc 20))) .skip
def SingleAnnotatorWrapper_query_b49 : Prog :=
  .ite SingleAnnotatorWrapper_query_b47 SingleAnnotatorWrapper_query_b48 .skip
def SingleAnnotatorWrapper_query_b50 : Prog :=
  .ite SingleAnnotatorWrapper_query_b46 SingleAnnotatorWrapper_query_b49 .skip
def SingleAnnotatorWrapper_query_b51 : Prog :=
  .seq (.bind 19 (.fresh [])) .skip
def SingleAnnotatorWrapper_query_b52 : Prog :=
  .seq (.bind 19 (.fresh [])) (.seq (.mutate (.loc 19) []) .skip)
def SingleAnnotatorWrapper_query_b53 : Prog :=
  .seq (.bind 19 (.alias (.loc 20))) .skip
def SingleAnnotatorWrapper_query_b54 : Prog :=
  .ite SingleAnnotatorWrapper_query_b52 SingleAnnotatorWrapper_query_b53 .skip
def SingleAnnotatorWrapper_query_b55 : Prog :=
  .ite SingleAnnotatorWrapper_query_b51 SingleAnnotatorWrapper_query_b54 .skip
def SingleAnnotatorWrapper_query_b56 : Prog :=
  .ite SingleAnnotatorWrapper_query_b50 SingleAnnotatorWrapper_query_b55 .skip
def SingleAnnotatorWrapper_query_b57 : Prog :=
  .ite SingleAnnotatorWrapper_query_b45 SingleAnnotatorWrapper_query_b56 (.seq (.readAttr 4) SingleAnnotatorWrapper_query_b40)
def SingleAnnotatorWrapper_query_b58 : Prog :=
  .seq (.bind 24 (.fresh [])) .skip
def SingleAnnotatorWrapper_query_b59 : Prog :=
  .seq (.bind 24 (.alias (.loc 24))) .skip
def SingleAnnotatorWrapper_query_b60 : Prog :=
  .ite SingleAnnotatorWrapper_query_b59 .abort .skip
def SingleAnnotatorWrapper_query_b61 : Prog :=
  .ite SingleAnnotatorWrapper_query_b58 SingleAnnotatorWrapper_query_b60 .skip
def SingleAnnotatorWrapper_query_b62 : Prog :=
  .seq (.bind 24 (.alias (.loc 24))) SingleAnnotatorWrapper_query_b61
def SingleAnnotatorWrapper_query_b63 : Prog :=
  .ite SingleAnnotatorWrapper_query_b62 .skip (.seq (.bind 23 (.alias (.loc 24))) (.seq (.bind 22 (.alias (.loc 23))) (.seq (.bind 20 (.alias (.loc 22))) (.seq (.readAttr 5) (.seq (.bind 21 (.fresh [])) SingleAnnotatorWrapper_query_b57)))))
def SingleAnnotatorWrapper_query_b64 : Prog :=
  .seq (.bind 25 (.alias (.loc 26))) .skip
def SingleAnnotatorWrapper_query_b65 : Prog :=
  .seq (.bind 26 (.deep (.loc 26))) (.seq (.bind 26 (.alias (.loc 26))) (.seq (.bind 27 (.fresh [])) (.seq (.bind 25 (.fresh [(.loc 27)])) .skip)))
def SingleAnnotatorWrapper_query_b66 : Prog :=
  .ite SingleAnnotatorWrapper_query_b64 SingleAnnotatorWrapper_query_b65 (.seq (.writeAttr 4 (.alias (.loc 25))) (.seq (.readAttr 5) SingleAnnotatorWrapper_query_b63))
def SingleAnnotatorWrapper_query_b67 : Prog :=
  .seq (.bind 28 (.deep (.loc 29))) (.seq (.mutate (.loc 28) []) (.seq (.readAttr 6) .skip))
def SingleAnnotatorWrapper_query_b68 : Prog :=
  .ite .skip SingleAnnotatorWrapper_query_b67 .skip
def SingleAnnotatorWrapper_query_b69 : Prog :=
  .ite SingleAnnotatorWrapper_query_b68 .skip (.seq (.bind 26 (.alias (.attr 3))) SingleAnnotatorWrapper_query_b66)
def SingleAnnotatorWrapper_query_b70 : Prog :=
  .seq (.bind 24 (.alias (.sub (.loc 30) 0))) .skip
def SingleAnnotatorWrapper_query_b71 : Prog :=
  .ite SingleAnnotatorWrapper_query_b70 .skip .skip
def SingleAnnotatorWrapper_query_b72 : Prog :=
  .seq (.bind 30 (.alias (.loc 24))) SingleAnnotatorWrapper_query_b71
def SingleAnnotatorWrapper_query_b73 : Prog :=
  .ite SingleAnnotatorWrapper_query_b72 .skip (.seq (.bind 29 (.fresh [])) (.seq (.bind 29 (.fresh [])) (.seq (.writeAttr 6 (.fresh [])) (.seq (.writeAttr 5 (.alias (.attr 2))) (.seq (.readAttr 5) SingleAnnotatorWrapper_query_b69)))))
def SingleAnnotatorWrapper_query_b74 : Prog :=
  .seq (.bind 7 (.fresh [])) (.seq (.bind 15 (.fresh [])) (.seq (.bind 13 (.fresh [])) (.seq (.bind 27 (.fresh [])) (.seq (.bind 21 (.fresh [])) (.seq (.bind 1 (.fresh [])) (.seq (.bind 9 (.fresh [])) (.seq (.bind 6 (.fresh [])) (.seq (.bind 2 (.fresh [])) (.seq (.bind 24 (.alias (.loc 22))) SingleAnnotatorWrapper_query_b73)))))))))
def SingleAnnotatorWrapper_query_b75 : Prog :=
  .seq (.bind 24 (.fresh [])) (.seq (.bind 16 (.fresh [])) (.seq (.bind 11 (.fresh [])) (.seq (.bind 29 (.fresh [])) (.seq (.bind 28 (.fresh [])) (.seq (.bind 0 (.fresh [])) (.seq (.bind 18 (.fresh [])) (.seq (.bind 5 (.fresh [])) (.seq (.bind 26 (.fresh [])) (.seq (.bind 3 (.fresh [])) SingleAnnotatorWrapper_query_b74)))))))))
def SingleAnnotatorWrapper_query_b76 : Prog :=
  .seq (.bind 25 (.fresh [])) (.seq (.bind 4 (.fresh [])) (.seq (.bind 8 (.fresh [])) (.seq (.bind 23 (.fresh [])) (.seq (.bind 19 (.fresh [])) (.seq (.bind 30 (.fresh [])) (.seq (.bind 14 (.fresh [])) (.seq (.bind 10 (.fresh [])) (.seq (.bind 12 (.fresh [])) (.seq (.bind 20 (.fresh [])) SingleAnnotatorWrapper_query_b75)))))))))
def summary_SingleAnnotatorWrapper_query : Summary :=
  { params := [0, 1, 2, 3], closedAttrs := [], safeAttrs := [], body := SingleAnnotatorWrapper_query_b76 }
theorem effects_SingleAnnotatorWrapper_query : FrameOK summary_SingleAnnotatorWrapper_query = true := by decide +kernel
theorem query_SingleAnnotatorWrapper_historyFree : HistoryFree summary_SingleAnnotatorWrapper_query = true := by decide +kernel

end Ska.Gen.C05
