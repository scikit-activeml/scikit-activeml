import SkaModel.Core.Effects

/-! GENERATED by `harness/translate` from the current source tree — do not edit.
Property C13; one summary per class and public method, one `decide`d obligation each. -/

namespace Ska.Gen.C13
open Ska.Effects

/-! ### ParzenWindowClassifier  (skactiveml/classifier/_parzen_window_classifier.py)
attributes: 0=n_neighbors 1=metric 2=metric_dict 3=classes 4=missing_label 5=cost_matrix 6=class_prior 7=random_state 8=metric_dict_ 9=V_ 10=classes_ 11=n_features_in_ 12=X_ 13=class_prior_ 14=cost_matrix_ 15=_le 16=random_state_
keys: 0=* 1=classes_ -/
-- ParzenWindowClassifier.fit: locals 0=X 1=gamma 2=$ret12 3=gamma@_calculate_mean_gamma4 4=$c11 5=$ret2 6=X@_validate_data1 7=$ret6 8=X@_validate_data2 9=$c10 10=check_X_dict@_validate_data2 11=$ret9 12=random_state@check_random_state3
def ParzenWindowClassifier_fit_b0 : Prog :=
  .seq (.writeAttr 8 (.fresh [])) .abort
def ParzenWindowClassifier_fit_b1 : Prog :=
  .seq (.writeAttr 9 (.fresh [])) .skip
def ParzenWindowClassifier_fit_b2 : Prog :=
  .seq (.readAttr 10) (.seq (.writeAttr 9 (.fresh [])) .skip)
def ParzenWindowClassifier_fit_b3 : Prog :=
  .ite ParzenWindowClassifier_fit_b1 ParzenWindowClassifier_fit_b2 .skip
def ParzenWindowClassifier_fit_b4 : Prog :=
  .seq (.writeAttr 12 (.copy (.loc 0))) (.seq (.readAttr 11) ParzenWindowClassifier_fit_b3)
def ParzenWindowClassifier_fit_b5 : Prog :=
  .ite ParzenWindowClassifier_fit_b0 ParzenWindowClassifier_fit_b4 .skip
def ParzenWindowClassifier_fit_b6 : Prog :=
  .seq (.bind 3 (.fresh [])) .skip
def ParzenWindowClassifier_fit_b7 : Prog :=
  .seq (.bind 3 (.fresh [])) .skip
def ParzenWindowClassifier_fit_b8 : Prog :=
  .ite ParzenWindowClassifier_fit_b6 ParzenWindowClassifier_fit_b7 (.seq (.bind 2 (.alias (.loc 3))) (.seq (.bind 1 (.alias (.loc 2))) (.seq (.readAttr 8) (.seq (.mutate (.attr 8) [(.loc 1)]) .skip))))
def ParzenWindowClassifier_fit_b9 : Prog :=
  .ite ParzenWindowClassifier_fit_b8 .skip (.seq (.readAttr 8) ParzenWindowClassifier_fit_b5)
def ParzenWindowClassifier_fit_b10 : Prog :=
  .seq (.readAttr 8) (.seq (.writeAttr 8 (.copy (.attr 8))) .skip)
def ParzenWindowClassifier_fit_b11 : Prog :=
  .seq (.writeAttr 8 (.fresh [])) .skip
def ParzenWindowClassifier_fit_b12 : Prog :=
  .ite ParzenWindowClassifier_fit_b10 ParzenWindowClassifier_fit_b11 (.seq (.readAttr 8) ParzenWindowClassifier_fit_b9)
def ParzenWindowClassifier_fit_b13 : Prog :=
  .seq (.bind 4 (.alias (.attr 2))) .skip
def ParzenWindowClassifier_fit_b14 : Prog :=
  .seq (.bind 4 (.fresh [])) .skip
def ParzenWindowClassifier_fit_b15 : Prog :=
  .ite ParzenWindowClassifier_fit_b13 ParzenWindowClassifier_fit_b14 (.seq (.writeAttr 8 (.alias (.loc 4))) (.seq (.readAttr 8) ParzenWindowClassifier_fit_b12))
def ParzenWindowClassifier_fit_b16 : Prog :=
  .ite .abort ParzenWindowClassifier_fit_b15 .skip
def ParzenWindowClassifier_fit_b17 : Prog :=
  .seq (.readAttr 14) (.seq (.writeAttr 14 (.alias (.sub (.attr 14) 0))) (.seq (.readAttr 14) (.seq (.writeAttr 14 (.alias (.sub (.attr 14) 0))) .skip)))
def ParzenWindowClassifier_fit_b18 : Prog :=
  .ite ParzenWindowClassifier_fit_b17 .skip (.seq (.bind 7 (.alias (.loc 8))) (.seq (.bind 6 (.alias (.loc 7))) (.seq (.readAttr 10) (.seq (.writeAttr 13 (.fresh [])) (.seq (.bind 5 (.alias (.loc 6))) (.seq (.bind 0 (.alias (.loc 5))) ParzenWindowClassifier_fit_b16))))))
def ParzenWindowClassifier_fit_b19 : Prog :=
  .seq (.readAttr 10) (.seq (.bind 9 (.fresh [])) .skip)
def ParzenWindowClassifier_fit_b20 : Prog :=
  .seq (.bind 9 (.alias (.attr 5))) .skip
def ParzenWindowClassifier_fit_b21 : Prog :=
  .ite ParzenWindowClassifier_fit_b19 ParzenWindowClassifier_fit_b20 (.seq (.writeAttr 14 (.alias (.loc 9))) (.seq (.readAttr 14) (.seq (.readAttr 10) (.seq (.writeAttr 14 (.fresh [])) ParzenWindowClassifier_fit_b18))))
def ParzenWindowClassifier_fit_b22 : Prog :=
  .ite .abort .skip .skip
def ParzenWindowClassifier_fit_b23 : Prog :=
  .ite ParzenWindowClassifier_fit_b22 .skip ParzenWindowClassifier_fit_b21
def ParzenWindowClassifier_fit_b24 : Prog :=
  .ite .abort .skip .skip
def ParzenWindowClassifier_fit_b25 : Prog :=
  .seq (.readAttr 15) (.seq (.callFit (.attr 15)) (.seq (.readAttr 15) ParzenWindowClassifier_fit_b24))
def ParzenWindowClassifier_fit_b26 : Prog :=
  .seq (.readAttr 15) (.seq (.callFit (.attr 15)) (.seq (.mutate (.loc 10) []) .skip))
def ParzenWindowClassifier_fit_b27 : Prog :=
  .ite .abort ParzenWindowClassifier_fit_b26 .skip
def ParzenWindowClassifier_fit_b28 : Prog :=
  .ite ParzenWindowClassifier_fit_b25 ParzenWindowClassifier_fit_b27 (.seq (.bind 8 (.alias (.loc 8))) (.seq (.writeAttr 11 (.fresh [])) (.seq (.readAttr 15) (.seq (.writeAttr 10 (.alias (.sub (.attr 15) 1))) ParzenWindowClassifier_fit_b23))))
def ParzenWindowClassifier_fit_b29 : Prog :=
  .seq (.bind 3 (.fresh [])) (.seq (.bind 12 (.fresh [])) (.seq (.bind 6 (.alias (.loc 0))) (.seq (.bind 8 (.alias (.loc 6))) (.seq (.bind 10 (.fresh [])) (.seq (.bind 10 (.fresh [])) (.seq (.bind 12 (.alias (.attr 7))) (.seq (.bind 11 (.alias (.loc 12))) (.seq (.writeAttr 16 (.alias (.loc 11))) (.seq (.writeAttr 15 (.fresh [(.attr 3), (.attr 4)])) ParzenWindowClassifier_fit_b28)))))))))
def ParzenWindowClassifier_fit_b30 : Prog :=
  .seq (.bind 9 (.fresh [])) (.seq (.bind 4 (.fresh [])) (.seq (.bind 2 (.fresh [])) (.seq (.bind 5 (.fresh [])) (.seq (.bind 7 (.fresh [])) (.seq (.bind 11 (.fresh [])) (.seq (.bind 6 (.fresh [])) (.seq (.bind 8 (.fresh [])) (.seq (.bind 10 (.fresh [])) (.seq (.bind 1 (.fresh [])) ParzenWindowClassifier_fit_b29)))))))))
def summary_ParzenWindowClassifier_fit : Summary :=
  { params := [0, 1, 2, 3, 4, 5, 6, 7], closedAttrs := [9, 13, 14, 11], safeAttrs := [12, 15, 8], body := ParzenWindowClassifier_fit_b30 }
theorem effects_ParzenWindowClassifier_fit : FrameOK summary_ParzenWindowClassifier_fit = true := by decide +kernel
theorem fit_ParzenWindowClassifier_historyFree : HistoryFree summary_ParzenWindowClassifier_fit = true := by decide +kernel

-- ParzenWindowClassifier.predict_freq: locals 0=F
def ParzenWindowClassifier_predict_freq_b0 : Prog :=
  .seq (.readAttr 10) .skip
def ParzenWindowClassifier_predict_freq_b1 : Prog :=
  .seq (.readAttr 9) (.seq (.bind 0 (.fresh [])) .skip)
def ParzenWindowClassifier_predict_freq_b2 : Prog :=
  .seq (.readAttr 9) (.seq (.mutate (.loc 0) []) .skip)
def ParzenWindowClassifier_predict_freq_b3 : Prog :=
  .ite ParzenWindowClassifier_predict_freq_b2 .skip .skip
def ParzenWindowClassifier_predict_freq_b4 : Prog :=
  .seq (.readAttr 9) (.seq (.mutate (.loc 0) []) ParzenWindowClassifier_predict_freq_b3)
def ParzenWindowClassifier_predict_freq_b5 : Prog :=
  .ite ParzenWindowClassifier_predict_freq_b4 .skip .skip
def ParzenWindowClassifier_predict_freq_b6 : Prog :=
  .seq (.readAttr 10) (.seq (.bind 0 (.fresh [])) ParzenWindowClassifier_predict_freq_b5)
def ParzenWindowClassifier_predict_freq_b7 : Prog :=
  .ite ParzenWindowClassifier_predict_freq_b1 ParzenWindowClassifier_predict_freq_b6 .skip
def ParzenWindowClassifier_predict_freq_b8 : Prog :=
  .ite .abort .skip .skip
def ParzenWindowClassifier_predict_freq_b9 : Prog :=
  .seq (.readAttr 12) ParzenWindowClassifier_predict_freq_b8
def ParzenWindowClassifier_predict_freq_b10 : Prog :=
  .seq (.readAttr 11) (.seq (.readAttr 12) (.seq (.readAttr 8) .skip))
def ParzenWindowClassifier_predict_freq_b11 : Prog :=
  .ite ParzenWindowClassifier_predict_freq_b9 ParzenWindowClassifier_predict_freq_b10 (.seq (.readAttr 12) ParzenWindowClassifier_predict_freq_b7)
def ParzenWindowClassifier_predict_freq_b12 : Prog :=
  .ite ParzenWindowClassifier_predict_freq_b0 ParzenWindowClassifier_predict_freq_b11 .skip
def ParzenWindowClassifier_predict_freq_b13 : Prog :=
  .seq (.bind 0 (.fresh [])) (.seq (.readAttr 11) ParzenWindowClassifier_predict_freq_b12)
def summary_ParzenWindowClassifier_predict_freq : Summary :=
  { params := [0, 1, 2, 3, 4, 5, 6, 7], closedAttrs := [9, 13, 14, 11], safeAttrs := [12, 15, 8], body := ParzenWindowClassifier_predict_freq_b13 }
theorem effects_ParzenWindowClassifier_predict_freq : FrameOK summary_ParzenWindowClassifier_predict_freq = true := by decide +kernel
theorem pure_ParzenWindowClassifier_predict_freq : pureReader summary_ParzenWindowClassifier_predict_freq.body = true := by decide +kernel

-- ParzenWindowClassifier.predict_proba: locals 0=P 1=F@predict_freq1
def ParzenWindowClassifier_predict_proba_b0 : Prog :=
  .seq (.readAttr 10) .skip
def ParzenWindowClassifier_predict_proba_b1 : Prog :=
  .seq (.readAttr 9) (.seq (.bind 1 (.fresh [])) .skip)
def ParzenWindowClassifier_predict_proba_b2 : Prog :=
  .seq (.readAttr 9) (.seq (.mutate (.loc 1) []) .skip)
def ParzenWindowClassifier_predict_proba_b3 : Prog :=
  .ite ParzenWindowClassifier_predict_proba_b2 .skip .skip
def ParzenWindowClassifier_predict_proba_b4 : Prog :=
  .seq (.readAttr 9) (.seq (.mutate (.loc 1) []) ParzenWindowClassifier_predict_proba_b3)
def ParzenWindowClassifier_predict_proba_b5 : Prog :=
  .ite ParzenWindowClassifier_predict_proba_b4 .skip .skip
def ParzenWindowClassifier_predict_proba_b6 : Prog :=
  .seq (.readAttr 10) (.seq (.bind 1 (.fresh [])) ParzenWindowClassifier_predict_proba_b5)
def ParzenWindowClassifier_predict_proba_b7 : Prog :=
  .ite ParzenWindowClassifier_predict_proba_b1 ParzenWindowClassifier_predict_proba_b6 .skip
def ParzenWindowClassifier_predict_proba_b8 : Prog :=
  .ite .abort .skip .skip
def ParzenWindowClassifier_predict_proba_b9 : Prog :=
  .seq (.readAttr 12) ParzenWindowClassifier_predict_proba_b8
def ParzenWindowClassifier_predict_proba_b10 : Prog :=
  .seq (.readAttr 11) (.seq (.readAttr 12) (.seq (.readAttr 8) .skip))
def ParzenWindowClassifier_predict_proba_b11 : Prog :=
  .ite ParzenWindowClassifier_predict_proba_b9 ParzenWindowClassifier_predict_proba_b10 (.seq (.readAttr 12) ParzenWindowClassifier_predict_proba_b7)
def ParzenWindowClassifier_predict_proba_b12 : Prog :=
  .ite ParzenWindowClassifier_predict_proba_b0 ParzenWindowClassifier_predict_proba_b11 (.seq (.readAttr 13) (.seq (.bind 0 (.fresh [])) (.seq (.mutate (.loc 0) []) (.seq (.readAttr 10) (.seq (.mutate (.loc 0) []) .skip)))))
def ParzenWindowClassifier_predict_proba_b13 : Prog :=
  .seq (.bind 1 (.fresh [])) (.seq (.bind 0 (.fresh [])) (.seq (.readAttr 11) ParzenWindowClassifier_predict_proba_b12))
def summary_ParzenWindowClassifier_predict_proba : Summary :=
  { params := [0, 1, 2, 3, 4, 5, 6, 7], closedAttrs := [9, 13, 14, 11], safeAttrs := [12, 15, 8], body := ParzenWindowClassifier_predict_proba_b13 }
theorem effects_ParzenWindowClassifier_predict_proba : FrameOK summary_ParzenWindowClassifier_predict_proba = true := by decide +kernel
theorem pure_ParzenWindowClassifier_predict_proba : pureReader summary_ParzenWindowClassifier_predict_proba.body = true := by decide +kernel

-- ParzenWindowClassifier.sample_proba: locals 0=R 1=random_state 2=alphas 3=n_samples 4=F@predict_freq2 5=$ret1 6=random_state@check_random_state1
def ParzenWindowClassifier_sample_proba_b0 : Prog :=
  .seq (.bind 0 (.fresh [(.loc 1), (.loc 2)])) (.seq (.mutate (.loc 0) []) .skip)
def ParzenWindowClassifier_sample_proba_b1 : Prog :=
  .ite .abort ParzenWindowClassifier_sample_proba_b0 .skip
def ParzenWindowClassifier_sample_proba_b2 : Prog :=
  .seq (.readAttr 10) .skip
def ParzenWindowClassifier_sample_proba_b3 : Prog :=
  .seq (.readAttr 9) (.seq (.bind 4 (.fresh [])) .skip)
def ParzenWindowClassifier_sample_proba_b4 : Prog :=
  .seq (.readAttr 9) (.seq (.mutate (.loc 4) []) .skip)
def ParzenWindowClassifier_sample_proba_b5 : Prog :=
  .ite ParzenWindowClassifier_sample_proba_b4 .skip .skip
def ParzenWindowClassifier_sample_proba_b6 : Prog :=
  .seq (.readAttr 9) (.seq (.mutate (.loc 4) []) ParzenWindowClassifier_sample_proba_b5)
def ParzenWindowClassifier_sample_proba_b7 : Prog :=
  .ite ParzenWindowClassifier_sample_proba_b6 .skip .skip
def ParzenWindowClassifier_sample_proba_b8 : Prog :=
  .seq (.readAttr 10) (.seq (.bind 4 (.fresh [])) ParzenWindowClassifier_sample_proba_b7)
def ParzenWindowClassifier_sample_proba_b9 : Prog :=
  .ite ParzenWindowClassifier_sample_proba_b3 ParzenWindowClassifier_sample_proba_b8 .skip
def ParzenWindowClassifier_sample_proba_b10 : Prog :=
  .ite .abort .skip .skip
def ParzenWindowClassifier_sample_proba_b11 : Prog :=
  .seq (.readAttr 12) ParzenWindowClassifier_sample_proba_b10
def ParzenWindowClassifier_sample_proba_b12 : Prog :=
  .seq (.readAttr 11) (.seq (.readAttr 12) (.seq (.readAttr 8) .skip))
def ParzenWindowClassifier_sample_proba_b13 : Prog :=
  .ite ParzenWindowClassifier_sample_proba_b11 ParzenWindowClassifier_sample_proba_b12 (.seq (.readAttr 12) ParzenWindowClassifier_sample_proba_b9)
def ParzenWindowClassifier_sample_proba_b14 : Prog :=
  .ite ParzenWindowClassifier_sample_proba_b2 ParzenWindowClassifier_sample_proba_b13 (.seq (.readAttr 13) (.seq (.bind 2 (.fresh [])) (.seq (.bind 2 (.fresh [(.loc 2), (.loc 3)])) ParzenWindowClassifier_sample_proba_b1)))
def ParzenWindowClassifier_sample_proba_b15 : Prog :=
  .seq (.bind 5 (.fresh [])) (.seq (.bind 4 (.fresh [])) (.seq (.bind 0 (.fresh [])) (.seq (.bind 2 (.fresh [])) (.seq (.bind 6 (.fresh [])) (.seq (.bind 6 (.alias (.loc 1))) (.seq (.bind 5 (.alias (.loc 6))) (.seq (.bind 1 (.alias (.loc 5))) (.seq (.readAttr 11) ParzenWindowClassifier_sample_proba_b14))))))))
def summary_ParzenWindowClassifier_sample_proba : Summary :=
  { params := [0, 1, 2, 3, 4, 5, 6, 7], closedAttrs := [9, 13, 14, 11], safeAttrs := [12, 15, 8], body := ParzenWindowClassifier_sample_proba_b15 }
theorem effects_ParzenWindowClassifier_sample_proba : FrameOK summary_ParzenWindowClassifier_sample_proba = true := by decide +kernel
theorem pure_ParzenWindowClassifier_sample_proba : pureReader summary_ParzenWindowClassifier_sample_proba.body = true := by decide +kernel

-- ParzenWindowClassifier.predict: locals 0=P@predict_proba1 1=F@predict_freq2
def ParzenWindowClassifier_predict_b0 : Prog :=
  .seq (.readAttr 10) .skip
def ParzenWindowClassifier_predict_b1 : Prog :=
  .seq (.readAttr 9) (.seq (.bind 1 (.fresh [])) .skip)
def ParzenWindowClassifier_predict_b2 : Prog :=
  .seq (.readAttr 9) (.seq (.mutate (.loc 1) []) .skip)
def ParzenWindowClassifier_predict_b3 : Prog :=
  .ite ParzenWindowClassifier_predict_b2 .skip .skip
def ParzenWindowClassifier_predict_b4 : Prog :=
  .seq (.readAttr 9) (.seq (.mutate (.loc 1) []) ParzenWindowClassifier_predict_b3)
def ParzenWindowClassifier_predict_b5 : Prog :=
  .ite ParzenWindowClassifier_predict_b4 .skip .skip
def ParzenWindowClassifier_predict_b6 : Prog :=
  .seq (.readAttr 10) (.seq (.bind 1 (.fresh [])) ParzenWindowClassifier_predict_b5)
def ParzenWindowClassifier_predict_b7 : Prog :=
  .ite ParzenWindowClassifier_predict_b1 ParzenWindowClassifier_predict_b6 .skip
def ParzenWindowClassifier_predict_b8 : Prog :=
  .ite .abort .skip .skip
def ParzenWindowClassifier_predict_b9 : Prog :=
  .seq (.readAttr 12) ParzenWindowClassifier_predict_b8
def ParzenWindowClassifier_predict_b10 : Prog :=
  .seq (.readAttr 11) (.seq (.readAttr 12) (.seq (.readAttr 8) .skip))
def ParzenWindowClassifier_predict_b11 : Prog :=
  .ite ParzenWindowClassifier_predict_b9 ParzenWindowClassifier_predict_b10 (.seq (.readAttr 12) ParzenWindowClassifier_predict_b7)
def ParzenWindowClassifier_predict_b12 : Prog :=
  .ite ParzenWindowClassifier_predict_b0 ParzenWindowClassifier_predict_b11 (.seq (.readAttr 13) (.seq (.bind 0 (.fresh [])) (.seq (.mutate (.loc 0) []) (.seq (.readAttr 10) (.seq (.mutate (.loc 0) []) (.seq (.readAttr 14) (.seq (.readAttr 16) (.seq (.readAttr 15) (.seq (.readAttr 10) .skip)))))))))
def ParzenWindowClassifier_predict_b13 : Prog :=
  .seq (.bind 1 (.fresh [])) (.seq (.bind 0 (.fresh [])) (.seq (.readAttr 11) ParzenWindowClassifier_predict_b12))
def summary_ParzenWindowClassifier_predict : Summary :=
  { params := [0, 1, 2, 3, 4, 5, 6, 7], closedAttrs := [9, 13, 14, 11], safeAttrs := [12, 15, 8], body := ParzenWindowClassifier_predict_b13 }
theorem effects_ParzenWindowClassifier_predict : FrameOK summary_ParzenWindowClassifier_predict = true := by decide +kernel
theorem pure_ParzenWindowClassifier_predict : pureReader summary_ParzenWindowClassifier_predict.body = true := by decide +kernel

/-! ### MixtureModelClassifier  (skactiveml/classifier/_mixture_model_classifier.py)
attributes: 0=mixture_model 1=weight_mode 2=classes 3=missing_label 4=cost_matrix 5=class_prior 6=random_state 7=F_components_ 8=mixture_model_ 9=classes_ 10=n_features_in_ 11=random_state_ 12=class_prior_ 13=cost_matrix_ 14=_le
keys: 0=* 1=classes_ -/
-- MixtureModelClassifier.fit: locals 0=bgm 1=$c10 2=check_X_dict@_validate_data2 3=$ret9 4=random_state@check_random_state3
def MixtureModelClassifier_fit_b0 : Prog :=
  .seq (.writeAttr 7 (.fresh [])) .skip
def MixtureModelClassifier_fit_b1 : Prog :=
  .seq (.readAttr 8) .skip
def MixtureModelClassifier_fit_b2 : Prog :=
  .seq (.readAttr 8) .skip
def MixtureModelClassifier_fit_b3 : Prog :=
  .ite MixtureModelClassifier_fit_b2 .skip (.seq (.readAttr 8) (.seq (.callFit (.attr 8)) (.seq (.writeAttr 8 (.alias (.attr 8))) .skip)))
def MixtureModelClassifier_fit_b4 : Prog :=
  .ite MixtureModelClassifier_fit_b1 MixtureModelClassifier_fit_b3 (.seq (.readAttr 9) (.seq (.readAttr 8) (.seq (.writeAttr 7 (.fresh [])) .skip)))
def MixtureModelClassifier_fit_b5 : Prog :=
  .ite MixtureModelClassifier_fit_b0 MixtureModelClassifier_fit_b4 .skip
def MixtureModelClassifier_fit_b6 : Prog :=
  .seq (.readAttr 10) MixtureModelClassifier_fit_b5
def MixtureModelClassifier_fit_b7 : Prog :=
  .ite .abort MixtureModelClassifier_fit_b6 .skip
def MixtureModelClassifier_fit_b8 : Prog :=
  .seq (.readAttr 9) (.seq (.readAttr 11) (.seq (.bind 0 (.fresh [(.attr 11)])) (.seq (.writeAttr 8 (.alias (.loc 0))) .skip)))
def MixtureModelClassifier_fit_b9 : Prog :=
  .seq (.writeAttr 8 (.deep (.attr 0))) .skip
def MixtureModelClassifier_fit_b10 : Prog :=
  .ite .abort MixtureModelClassifier_fit_b9 .skip
def MixtureModelClassifier_fit_b11 : Prog :=
  .ite MixtureModelClassifier_fit_b8 MixtureModelClassifier_fit_b10 MixtureModelClassifier_fit_b7
def MixtureModelClassifier_fit_b12 : Prog :=
  .seq (.readAttr 13) (.seq (.writeAttr 13 (.alias (.sub (.attr 13) 0))) (.seq (.readAttr 13) (.seq (.writeAttr 13 (.alias (.sub (.attr 13) 0))) .skip)))
def MixtureModelClassifier_fit_b13 : Prog :=
  .ite MixtureModelClassifier_fit_b12 .skip (.seq (.readAttr 9) (.seq (.writeAttr 12 (.fresh [])) MixtureModelClassifier_fit_b11))
def MixtureModelClassifier_fit_b14 : Prog :=
  .seq (.readAttr 9) (.seq (.bind 1 (.fresh [])) .skip)
def MixtureModelClassifier_fit_b15 : Prog :=
  .seq (.bind 1 (.alias (.attr 4))) .skip
def MixtureModelClassifier_fit_b16 : Prog :=
  .ite MixtureModelClassifier_fit_b14 MixtureModelClassifier_fit_b15 (.seq (.writeAttr 13 (.alias (.loc 1))) (.seq (.readAttr 13) (.seq (.readAttr 9) (.seq (.writeAttr 13 (.fresh [])) MixtureModelClassifier_fit_b13))))
def MixtureModelClassifier_fit_b17 : Prog :=
  .ite .abort .skip .skip
def MixtureModelClassifier_fit_b18 : Prog :=
  .ite MixtureModelClassifier_fit_b17 .skip MixtureModelClassifier_fit_b16
def MixtureModelClassifier_fit_b19 : Prog :=
  .ite .abort .skip .skip
def MixtureModelClassifier_fit_b20 : Prog :=
  .seq (.readAttr 14) (.seq (.callFit (.attr 14)) (.seq (.readAttr 14) MixtureModelClassifier_fit_b19))
def MixtureModelClassifier_fit_b21 : Prog :=
  .seq (.readAttr 14) (.seq (.callFit (.attr 14)) (.seq (.mutate (.loc 2) []) .skip))
def MixtureModelClassifier_fit_b22 : Prog :=
  .ite .abort MixtureModelClassifier_fit_b21 .skip
def MixtureModelClassifier_fit_b23 : Prog :=
  .ite MixtureModelClassifier_fit_b20 MixtureModelClassifier_fit_b22 (.seq (.writeAttr 10 (.fresh [])) (.seq (.readAttr 14) (.seq (.writeAttr 9 (.alias (.sub (.attr 14) 1))) MixtureModelClassifier_fit_b18)))
def MixtureModelClassifier_fit_b24 : Prog :=
  .seq (.bind 3 (.fresh [])) (.seq (.bind 0 (.fresh [])) (.seq (.bind 2 (.fresh [])) (.seq (.bind 4 (.fresh [])) (.seq (.bind 2 (.fresh [])) (.seq (.bind 2 (.fresh [])) (.seq (.bind 4 (.alias (.attr 6))) (.seq (.bind 3 (.alias (.loc 4))) (.seq (.writeAttr 11 (.alias (.loc 3))) (.seq (.writeAttr 14 (.fresh [(.attr 2), (.attr 3)])) MixtureModelClassifier_fit_b23)))))))))
def MixtureModelClassifier_fit_b25 : Prog :=
  .seq (.bind 1 (.fresh [])) MixtureModelClassifier_fit_b24
def summary_MixtureModelClassifier_fit : Summary :=
  { params := [0, 1, 2, 3, 4, 5, 6], closedAttrs := [7, 12, 13, 10], safeAttrs := [14, 8], body := MixtureModelClassifier_fit_b25 }
theorem effects_MixtureModelClassifier_fit : FrameOK summary_MixtureModelClassifier_fit = true := by decide +kernel
theorem fit_MixtureModelClassifier_historyFree : HistoryFree summary_MixtureModelClassifier_fit = true := by decide +kernel

-- MixtureModelClassifier.predict_freq: locals 
def MixtureModelClassifier_predict_freq_b0 : Prog :=
  .seq (.readAttr 8) (.seq (.readAttr 8) .skip)
def MixtureModelClassifier_predict_freq_b1 : Prog :=
  .ite MixtureModelClassifier_predict_freq_b0 .skip .skip
def MixtureModelClassifier_predict_freq_b2 : Prog :=
  .seq (.readAttr 8) .skip
def MixtureModelClassifier_predict_freq_b3 : Prog :=
  .ite MixtureModelClassifier_predict_freq_b1 MixtureModelClassifier_predict_freq_b2 (.seq (.readAttr 7) .skip)
def MixtureModelClassifier_predict_freq_b4 : Prog :=
  .seq (.readAttr 9) .skip
def MixtureModelClassifier_predict_freq_b5 : Prog :=
  .ite MixtureModelClassifier_predict_freq_b3 MixtureModelClassifier_predict_freq_b4 .skip
def MixtureModelClassifier_predict_freq_b6 : Prog :=
  .seq (.readAttr 10) (.seq (.readAttr 7) MixtureModelClassifier_predict_freq_b5)
def summary_MixtureModelClassifier_predict_freq : Summary :=
  { params := [0, 1, 2, 3, 4, 5, 6], closedAttrs := [7, 12, 13, 10], safeAttrs := [14, 8], body := MixtureModelClassifier_predict_freq_b6 }
theorem effects_MixtureModelClassifier_predict_freq : FrameOK summary_MixtureModelClassifier_predict_freq = true := by decide +kernel
theorem pure_MixtureModelClassifier_predict_freq : pureReader summary_MixtureModelClassifier_predict_freq.body = true := by decide +kernel

-- MixtureModelClassifier.predict_proba: locals 0=P
def MixtureModelClassifier_predict_proba_b0 : Prog :=
  .seq (.readAttr 8) (.seq (.readAttr 8) .skip)
def MixtureModelClassifier_predict_proba_b1 : Prog :=
  .ite MixtureModelClassifier_predict_proba_b0 .skip .skip
def MixtureModelClassifier_predict_proba_b2 : Prog :=
  .seq (.readAttr 8) .skip
def MixtureModelClassifier_predict_proba_b3 : Prog :=
  .ite MixtureModelClassifier_predict_proba_b1 MixtureModelClassifier_predict_proba_b2 (.seq (.readAttr 7) .skip)
def MixtureModelClassifier_predict_proba_b4 : Prog :=
  .seq (.readAttr 9) .skip
def MixtureModelClassifier_predict_proba_b5 : Prog :=
  .ite MixtureModelClassifier_predict_proba_b3 MixtureModelClassifier_predict_proba_b4 (.seq (.readAttr 12) (.seq (.bind 0 (.fresh [])) (.seq (.mutate (.loc 0) []) (.seq (.readAttr 9) (.seq (.mutate (.loc 0) []) .skip)))))
def MixtureModelClassifier_predict_proba_b6 : Prog :=
  .seq (.bind 0 (.fresh [])) (.seq (.readAttr 10) (.seq (.readAttr 7) MixtureModelClassifier_predict_proba_b5))
def summary_MixtureModelClassifier_predict_proba : Summary :=
  { params := [0, 1, 2, 3, 4, 5, 6], closedAttrs := [7, 12, 13, 10], safeAttrs := [14, 8], body := MixtureModelClassifier_predict_proba_b6 }
theorem effects_MixtureModelClassifier_predict_proba : FrameOK summary_MixtureModelClassifier_predict_proba = true := by decide +kernel
theorem pure_MixtureModelClassifier_predict_proba : pureReader summary_MixtureModelClassifier_predict_proba.body = true := by decide +kernel

-- MixtureModelClassifier.sample_proba: locals 0=R 1=random_state 2=alphas 3=n_samples 4=$ret1 5=random_state@check_random_state1
def MixtureModelClassifier_sample_proba_b0 : Prog :=
  .seq (.bind 0 (.fresh [(.loc 1), (.loc 2)])) (.seq (.mutate (.loc 0) []) .skip)
def MixtureModelClassifier_sample_proba_b1 : Prog :=
  .ite .abort MixtureModelClassifier_sample_proba_b0 .skip
def MixtureModelClassifier_sample_proba_b2 : Prog :=
  .seq (.readAttr 8) (.seq (.readAttr 8) .skip)
def MixtureModelClassifier_sample_proba_b3 : Prog :=
  .ite MixtureModelClassifier_sample_proba_b2 .skip .skip
def MixtureModelClassifier_sample_proba_b4 : Prog :=
  .seq (.readAttr 8) .skip
def MixtureModelClassifier_sample_proba_b5 : Prog :=
  .ite MixtureModelClassifier_sample_proba_b3 MixtureModelClassifier_sample_proba_b4 (.seq (.readAttr 7) .skip)
def MixtureModelClassifier_sample_proba_b6 : Prog :=
  .seq (.readAttr 9) .skip
def MixtureModelClassifier_sample_proba_b7 : Prog :=
  .ite MixtureModelClassifier_sample_proba_b5 MixtureModelClassifier_sample_proba_b6 (.seq (.readAttr 12) (.seq (.bind 2 (.fresh [])) (.seq (.bind 2 (.fresh [(.loc 2), (.loc 3)])) MixtureModelClassifier_sample_proba_b1)))
def MixtureModelClassifier_sample_proba_b8 : Prog :=
  .seq (.bind 4 (.fresh [])) (.seq (.bind 0 (.fresh [])) (.seq (.bind 2 (.fresh [])) (.seq (.bind 5 (.fresh [])) (.seq (.bind 5 (.alias (.loc 1))) (.seq (.bind 4 (.alias (.loc 5))) (.seq (.bind 1 (.alias (.loc 4))) (.seq (.readAttr 10) (.seq (.readAttr 7) MixtureModelClassifier_sample_proba_b7))))))))
def summary_MixtureModelClassifier_sample_proba : Summary :=
  { params := [0, 1, 2, 3, 4, 5, 6], closedAttrs := [7, 12, 13, 10], safeAttrs := [14, 8], body := MixtureModelClassifier_sample_proba_b8 }
theorem effects_MixtureModelClassifier_sample_proba : FrameOK summary_MixtureModelClassifier_sample_proba = true := by decide +kernel
theorem pure_MixtureModelClassifier_sample_proba : pureReader summary_MixtureModelClassifier_sample_proba.body = true := by decide +kernel

-- MixtureModelClassifier.predict: locals 0=P@predict_proba1
def MixtureModelClassifier_predict_b0 : Prog :=
  .seq (.readAttr 8) (.seq (.readAttr 8) .skip)
def MixtureModelClassifier_predict_b1 : Prog :=
  .ite MixtureModelClassifier_predict_b0 .skip .skip
def MixtureModelClassifier_predict_b2 : Prog :=
  .seq (.readAttr 8) .skip
def MixtureModelClassifier_predict_b3 : Prog :=
  .ite MixtureModelClassifier_predict_b1 MixtureModelClassifier_predict_b2 (.seq (.readAttr 7) .skip)
def MixtureModelClassifier_predict_b4 : Prog :=
  .seq (.readAttr 9) .skip
def MixtureModelClassifier_predict_b5 : Prog :=
  .ite MixtureModelClassifier_predict_b3 MixtureModelClassifier_predict_b4 (.seq (.readAttr 12) (.seq (.bind 0 (.fresh [])) (.seq (.mutate (.loc 0) []) (.seq (.readAttr 9) (.seq (.mutate (.loc 0) []) (.seq (.readAttr 13) (.seq (.readAttr 11) (.seq (.readAttr 14) (.seq (.readAttr 9) .skip)))))))))
def MixtureModelClassifier_predict_b6 : Prog :=
  .seq (.bind 0 (.fresh [])) (.seq (.readAttr 10) (.seq (.readAttr 7) MixtureModelClassifier_predict_b5))
def summary_MixtureModelClassifier_predict : Summary :=
  { params := [0, 1, 2, 3, 4, 5, 6], closedAttrs := [7, 12, 13, 10], safeAttrs := [14, 8], body := MixtureModelClassifier_predict_b6 }
theorem effects_MixtureModelClassifier_predict : FrameOK summary_MixtureModelClassifier_predict = true := by decide +kernel
theorem pure_MixtureModelClassifier_predict : pureReader summary_MixtureModelClassifier_predict.body = true := by decide +kernel

/-! ### SklearnClassifier  (skactiveml/classifier/_wrapper.py)
attributes: 0=estimator 1=classes 2=missing_label 3=cost_matrix 4=random_state 5=is_fitted_ 6=estimator_ 7=_le 8=_label_counts 9=cost_matrix_ 10=classes_ 11=n_features_in_ 12=random_state_ 13=check_X_dict_
keys: 0=* 1=classes_ -/
-- SklearnClassifier.fit: locals 0=fit_kwargs@_fit1 1=sample_weight@_fit1 2=$comp8 3=$ret5 4=sample_weight@_validate_data2 5=$c7 6=check_X_dict@_validate_data2 7=$ret6 8=random_state@check_random_state3 9=fit_kwargs 10=sample_weight 11=$caller
def SklearnClassifier_fit_b0 : Prog :=
  .seq (.readAttr 6) (.seq (.callFit (.attr 6)) .skip)
def SklearnClassifier_fit_b1 : Prog :=
  .seq (.mutate (.loc 0) [(.sub (.loc 1) 0)]) (.seq (.readAttr 6) (.seq (.callFit (.attr 6)) .skip))
def SklearnClassifier_fit_b2 : Prog :=
  .ite SklearnClassifier_fit_b0 SklearnClassifier_fit_b1 (.seq (.writeAttr 5 (.fresh [])) .skip)
def SklearnClassifier_fit_b3 : Prog :=
  .ite .abort SklearnClassifier_fit_b2 .skip
def SklearnClassifier_fit_b4 : Prog :=
  .seq (.readAttr 7) SklearnClassifier_fit_b3
def SklearnClassifier_fit_b5 : Prog :=
  .seq (.readAttr 6) (.seq (.callFit (.attr 6)) .skip)
def SklearnClassifier_fit_b6 : Prog :=
  .seq (.mutate (.loc 0) [(.sub (.loc 1) 0)]) (.seq (.readAttr 6) (.seq (.callFit (.attr 6)) .skip))
def SklearnClassifier_fit_b7 : Prog :=
  .ite SklearnClassifier_fit_b5 SklearnClassifier_fit_b6 (.seq (.writeAttr 5 (.fresh [])) .skip)
def SklearnClassifier_fit_b8 : Prog :=
  .ite .skip SklearnClassifier_fit_b7 .skip
def SklearnClassifier_fit_b9 : Prog :=
  .seq (.readAttr 7) SklearnClassifier_fit_b8
def SklearnClassifier_fit_b10 : Prog :=
  .ite SklearnClassifier_fit_b9 .skip (.seq (.writeAttr 5 (.fresh [])) (.seq (.readAttr 8) .skip))
def SklearnClassifier_fit_b11 : Prog :=
  .ite SklearnClassifier_fit_b4 SklearnClassifier_fit_b10 .skip
def SklearnClassifier_fit_b12 : Prog :=
  .seq (.readAttr 7) (.seq (.bind 2 (.fresh [])) .skip)
def SklearnClassifier_fit_b13 : Prog :=
  .ite SklearnClassifier_fit_b12 .skip (.seq (.writeAttr 8 (.alias (.loc 2))) SklearnClassifier_fit_b11)
def SklearnClassifier_fit_b14 : Prog :=
  .seq (.writeAttr 6 (.deep (.attr 0))) (.seq (.bind 2 (.fresh [])) SklearnClassifier_fit_b13)
def SklearnClassifier_fit_b15 : Prog :=
  .ite .abort SklearnClassifier_fit_b14 .skip
def SklearnClassifier_fit_b16 : Prog :=
  .ite .abort SklearnClassifier_fit_b15 .skip
def SklearnClassifier_fit_b17 : Prog :=
  .seq (.readAttr 9) (.seq (.writeAttr 9 (.alias (.sub (.attr 9) 0))) (.seq (.readAttr 9) (.seq (.writeAttr 9 (.alias (.sub (.attr 9) 0))) .skip)))
def SklearnClassifier_fit_b18 : Prog :=
  .ite SklearnClassifier_fit_b17 .skip (.seq (.bind 3 (.alias (.loc 4))) (.seq (.bind 1 (.alias (.loc 3))) SklearnClassifier_fit_b16))
def SklearnClassifier_fit_b19 : Prog :=
  .seq (.readAttr 10) (.seq (.bind 5 (.fresh [])) .skip)
def SklearnClassifier_fit_b20 : Prog :=
  .seq (.bind 5 (.alias (.attr 3))) .skip
def SklearnClassifier_fit_b21 : Prog :=
  .ite SklearnClassifier_fit_b19 SklearnClassifier_fit_b20 (.seq (.writeAttr 9 (.alias (.loc 5))) (.seq (.readAttr 9) (.seq (.readAttr 10) (.seq (.writeAttr 9 (.fresh [])) SklearnClassifier_fit_b18))))
def SklearnClassifier_fit_b22 : Prog :=
  .ite .abort .skip .skip
def SklearnClassifier_fit_b23 : Prog :=
  .seq (.bind 4 (.alias (.loc 4))) SklearnClassifier_fit_b22
def SklearnClassifier_fit_b24 : Prog :=
  .ite SklearnClassifier_fit_b23 .skip SklearnClassifier_fit_b21
def SklearnClassifier_fit_b25 : Prog :=
  .ite .abort .skip .skip
def SklearnClassifier_fit_b26 : Prog :=
  .seq (.readAttr 7) (.seq (.callFit (.attr 7)) (.seq (.readAttr 7) SklearnClassifier_fit_b25))
def SklearnClassifier_fit_b27 : Prog :=
  .seq (.readAttr 7) (.seq (.callFit (.attr 7)) (.seq (.mutate (.loc 6) []) .skip))
def SklearnClassifier_fit_b28 : Prog :=
  .ite .abort SklearnClassifier_fit_b27 .skip
def SklearnClassifier_fit_b29 : Prog :=
  .ite SklearnClassifier_fit_b26 SklearnClassifier_fit_b28 (.seq (.writeAttr 11 (.fresh [])) (.seq (.readAttr 7) (.seq (.writeAttr 10 (.alias (.sub (.attr 7) 1))) SklearnClassifier_fit_b24)))
def SklearnClassifier_fit_b30 : Prog :=
  .seq (.bind 6 (.fresh [])) .skip
def SklearnClassifier_fit_b31 : Prog :=
  .ite SklearnClassifier_fit_b30 .skip (.seq (.bind 8 (.alias (.attr 4))) (.seq (.bind 7 (.alias (.loc 8))) (.seq (.writeAttr 12 (.alias (.loc 7))) (.seq (.writeAttr 7 (.fresh [(.attr 1), (.attr 2)])) SklearnClassifier_fit_b29))))
def SklearnClassifier_fit_b32 : Prog :=
  .seq (.bind 8 (.fresh [])) (.seq (.bind 1 (.fresh [])) (.seq (.bind 4 (.fresh [])) (.seq (.bind 9 (.fresh [(.loc 11)])) (.seq (.bind 1 (.alias (.loc 10))) (.seq (.bind 0 (.fresh [(.sub (.loc 9) 0)])) (.seq (.writeAttr 13 (.fresh [])) (.seq (.readAttr 13) (.seq (.bind 4 (.alias (.loc 1))) (.seq (.bind 6 (.alias (.attr 13))) SklearnClassifier_fit_b31)))))))))
def SklearnClassifier_fit_b33 : Prog :=
  .seq (.bind 5 (.fresh [])) (.seq (.bind 2 (.fresh [])) (.seq (.bind 3 (.fresh [])) (.seq (.bind 7 (.fresh [])) (.seq (.bind 6 (.fresh [])) (.seq (.bind 0 (.fresh [])) SklearnClassifier_fit_b32)))))
def summary_SklearnClassifier_fit : Summary :=
  { params := [0, 1, 2, 3, 4], closedAttrs := [8, 13, 9, 6, 5, 11], safeAttrs := [7], body := SklearnClassifier_fit_b33 }
theorem effects_SklearnClassifier_fit : FrameOK summary_SklearnClassifier_fit = true := by decide +kernel
theorem fit_SklearnClassifier_historyFree : HistoryFree summary_SklearnClassifier_fit = true := by decide +kernel

-- SklearnClassifier.partial_fit: locals 0=fit_kwargs@_fit1 1=sample_weight@_fit1 2=$comp8 3=$ret5 4=sample_weight@_validate_data2 5=$c7 6=check_X_dict@_validate_data2 7=$ret6 8=random_state@check_random_state3 9=fit_kwargs 10=sample_weight 11=$caller
def SklearnClassifier_partial_fit_b0 : Prog :=
  .seq (.readAttr 10) (.seq (.mutate (.loc 0) [(.attr 10)]) (.seq (.readAttr 6) (.seq (.callFit (.attr 6)) .skip)))
def SklearnClassifier_partial_fit_b1 : Prog :=
  .seq (.readAttr 10) (.seq (.mutate (.loc 0) [(.attr 10)]) (.seq (.mutate (.loc 0) [(.sub (.loc 1) 0)]) (.seq (.readAttr 6) (.seq (.callFit (.attr 6)) .skip))))
def SklearnClassifier_partial_fit_b2 : Prog :=
  .ite SklearnClassifier_partial_fit_b0 SklearnClassifier_partial_fit_b1 (.seq (.writeAttr 5 (.fresh [])) .skip)
def SklearnClassifier_partial_fit_b3 : Prog :=
  .ite .abort SklearnClassifier_partial_fit_b2 .skip
def SklearnClassifier_partial_fit_b4 : Prog :=
  .seq (.readAttr 7) SklearnClassifier_partial_fit_b3
def SklearnClassifier_partial_fit_b5 : Prog :=
  .seq (.readAttr 10) (.seq (.mutate (.loc 0) [(.attr 10)]) (.seq (.readAttr 6) (.seq (.callFit (.attr 6)) .skip)))
def SklearnClassifier_partial_fit_b6 : Prog :=
  .seq (.readAttr 10) (.seq (.mutate (.loc 0) [(.attr 10)]) (.seq (.mutate (.loc 0) [(.sub (.loc 1) 0)]) (.seq (.readAttr 6) (.seq (.callFit (.attr 6)) .skip))))
def SklearnClassifier_partial_fit_b7 : Prog :=
  .ite SklearnClassifier_partial_fit_b5 SklearnClassifier_partial_fit_b6 (.seq (.writeAttr 5 (.fresh [])) .skip)
def SklearnClassifier_partial_fit_b8 : Prog :=
  .ite .skip SklearnClassifier_partial_fit_b7 .skip
def SklearnClassifier_partial_fit_b9 : Prog :=
  .seq (.readAttr 7) SklearnClassifier_partial_fit_b8
def SklearnClassifier_partial_fit_b10 : Prog :=
  .ite SklearnClassifier_partial_fit_b9 .skip (.seq (.writeAttr 5 (.fresh [])) (.seq (.readAttr 8) .skip))
def SklearnClassifier_partial_fit_b11 : Prog :=
  .ite SklearnClassifier_partial_fit_b4 SklearnClassifier_partial_fit_b10 .skip
def SklearnClassifier_partial_fit_b12 : Prog :=
  .seq (.readAttr 7) (.seq (.bind 2 (.fresh [])) .skip)
def SklearnClassifier_partial_fit_b13 : Prog :=
  .ite SklearnClassifier_partial_fit_b12 .skip (.seq (.writeAttr 8 (.alias (.loc 2))) SklearnClassifier_partial_fit_b11)
def SklearnClassifier_partial_fit_b14 : Prog :=
  .seq (.writeAttr 6 (.deep (.attr 0))) .skip
def SklearnClassifier_partial_fit_b15 : Prog :=
  .ite .skip SklearnClassifier_partial_fit_b14 (.seq (.bind 2 (.fresh [])) SklearnClassifier_partial_fit_b13)
def SklearnClassifier_partial_fit_b16 : Prog :=
  .seq (.readAttr 6) SklearnClassifier_partial_fit_b15
def SklearnClassifier_partial_fit_b17 : Prog :=
  .ite .abort SklearnClassifier_partial_fit_b16 .skip
def SklearnClassifier_partial_fit_b18 : Prog :=
  .ite .abort SklearnClassifier_partial_fit_b17 .skip
def SklearnClassifier_partial_fit_b19 : Prog :=
  .seq (.readAttr 9) (.seq (.writeAttr 9 (.alias (.sub (.attr 9) 0))) (.seq (.readAttr 9) (.seq (.writeAttr 9 (.alias (.sub (.attr 9) 0))) .skip)))
def SklearnClassifier_partial_fit_b20 : Prog :=
  .ite SklearnClassifier_partial_fit_b19 .skip (.seq (.bind 3 (.alias (.loc 4))) (.seq (.bind 1 (.alias (.loc 3))) SklearnClassifier_partial_fit_b18))
def SklearnClassifier_partial_fit_b21 : Prog :=
  .seq (.readAttr 10) (.seq (.bind 5 (.fresh [])) .skip)
def SklearnClassifier_partial_fit_b22 : Prog :=
  .seq (.bind 5 (.alias (.attr 3))) .skip
def SklearnClassifier_partial_fit_b23 : Prog :=
  .ite SklearnClassifier_partial_fit_b21 SklearnClassifier_partial_fit_b22 (.seq (.writeAttr 9 (.alias (.loc 5))) (.seq (.readAttr 9) (.seq (.readAttr 10) (.seq (.writeAttr 9 (.fresh [])) SklearnClassifier_partial_fit_b20))))
def SklearnClassifier_partial_fit_b24 : Prog :=
  .ite .abort .skip .skip
def SklearnClassifier_partial_fit_b25 : Prog :=
  .seq (.bind 4 (.alias (.loc 4))) SklearnClassifier_partial_fit_b24
def SklearnClassifier_partial_fit_b26 : Prog :=
  .ite SklearnClassifier_partial_fit_b25 .skip SklearnClassifier_partial_fit_b23
def SklearnClassifier_partial_fit_b27 : Prog :=
  .seq (.writeAttr 11 (.fresh [])) .skip
def SklearnClassifier_partial_fit_b28 : Prog :=
  .seq (.readAttr 11) .skip
def SklearnClassifier_partial_fit_b29 : Prog :=
  .ite SklearnClassifier_partial_fit_b27 SklearnClassifier_partial_fit_b28 (.seq (.readAttr 7) (.seq (.writeAttr 10 (.alias (.sub (.attr 7) 1))) SklearnClassifier_partial_fit_b26))
def SklearnClassifier_partial_fit_b30 : Prog :=
  .ite .abort .skip .skip
def SklearnClassifier_partial_fit_b31 : Prog :=
  .seq (.readAttr 7) (.seq (.callFit (.attr 7)) (.seq (.readAttr 7) SklearnClassifier_partial_fit_b30))
def SklearnClassifier_partial_fit_b32 : Prog :=
  .seq (.readAttr 7) (.seq (.callFit (.attr 7)) (.seq (.mutate (.loc 6) []) .skip))
def SklearnClassifier_partial_fit_b33 : Prog :=
  .ite .abort SklearnClassifier_partial_fit_b32 .skip
def SklearnClassifier_partial_fit_b34 : Prog :=
  .ite SklearnClassifier_partial_fit_b31 SklearnClassifier_partial_fit_b33 SklearnClassifier_partial_fit_b29
def SklearnClassifier_partial_fit_b35 : Prog :=
  .seq (.bind 6 (.fresh [])) .skip
def SklearnClassifier_partial_fit_b36 : Prog :=
  .ite SklearnClassifier_partial_fit_b35 .skip (.seq (.bind 8 (.alias (.attr 4))) (.seq (.bind 7 (.alias (.loc 8))) (.seq (.writeAttr 12 (.alias (.loc 7))) (.seq (.writeAttr 7 (.fresh [(.attr 1), (.attr 2)])) SklearnClassifier_partial_fit_b34))))
def SklearnClassifier_partial_fit_b37 : Prog :=
  .seq (.bind 1 (.fresh [])) (.seq (.bind 4 (.fresh [])) (.seq (.bind 9 (.fresh [(.loc 11)])) (.seq (.bind 1 (.alias (.loc 10))) (.seq (.bind 0 (.fresh [(.sub (.loc 9) 0)])) (.seq (.writeAttr 13 (.fresh [])) (.seq (.readAttr 13) (.seq (.readAttr 11) (.seq (.bind 4 (.alias (.loc 1))) (.seq (.bind 6 (.alias (.attr 13))) SklearnClassifier_partial_fit_b36)))))))))
def SklearnClassifier_partial_fit_b38 : Prog :=
  .seq (.bind 5 (.fresh [])) (.seq (.bind 2 (.fresh [])) (.seq (.bind 3 (.fresh [])) (.seq (.bind 7 (.fresh [])) (.seq (.bind 6 (.fresh [])) (.seq (.bind 0 (.fresh [])) (.seq (.bind 8 (.fresh [])) SklearnClassifier_partial_fit_b37))))))
def summary_SklearnClassifier_partial_fit : Summary :=
  { params := [0, 1, 2, 3, 4], closedAttrs := [8, 13, 9, 6, 5, 11], safeAttrs := [7], body := SklearnClassifier_partial_fit_b38 }
theorem effects_SklearnClassifier_partial_fit : FrameOK summary_SklearnClassifier_partial_fit = true := by decide +kernel

-- SklearnClassifier.predict: locals 0=P_ext@predict_proba1 1=P_ext@predict_proba2
def SklearnClassifier_predict_b0 : Prog :=
  .seq (.readAttr 6) .skip
def SklearnClassifier_predict_b1 : Prog :=
  .seq (.readAttr 10) .skip
def SklearnClassifier_predict_b2 : Prog :=
  .seq (.readAttr 8) .skip
def SklearnClassifier_predict_b3 : Prog :=
  .ite SklearnClassifier_predict_b1 SklearnClassifier_predict_b2 (.seq (.readAttr 9) (.seq (.readAttr 12) (.seq (.readAttr 7) .skip)))
def SklearnClassifier_predict_b4 : Prog :=
  .seq (.readAttr 10) (.seq (.bind 0 (.fresh [])) (.seq (.readAttr 6) (.seq (.readAttr 10) (.seq (.readAttr 10) (.seq (.mutate (.loc 0) []) .skip)))))
def SklearnClassifier_predict_b5 : Prog :=
  .ite SklearnClassifier_predict_b4 .skip .skip
def SklearnClassifier_predict_b6 : Prog :=
  .seq (.readAttr 6) (.seq (.readAttr 10) SklearnClassifier_predict_b5)
def SklearnClassifier_predict_b7 : Prog :=
  .ite SklearnClassifier_predict_b6 .skip (.seq (.readAttr 8) SklearnClassifier_predict_b3)
def SklearnClassifier_predict_b8 : Prog :=
  .seq (.readAttr 13) (.seq (.readAttr 11) (.seq (.readAttr 5) SklearnClassifier_predict_b7))
def SklearnClassifier_predict_b9 : Prog :=
  .ite SklearnClassifier_predict_b0 SklearnClassifier_predict_b8 .skip
def SklearnClassifier_predict_b10 : Prog :=
  .seq (.readAttr 10) .skip
def SklearnClassifier_predict_b11 : Prog :=
  .seq (.readAttr 8) .skip
def SklearnClassifier_predict_b12 : Prog :=
  .ite SklearnClassifier_predict_b10 SklearnClassifier_predict_b11 (.seq (.readAttr 9) (.seq (.readAttr 12) (.seq (.readAttr 7) .skip)))
def SklearnClassifier_predict_b13 : Prog :=
  .seq (.readAttr 10) (.seq (.bind 1 (.fresh [])) (.seq (.readAttr 6) (.seq (.readAttr 10) (.seq (.readAttr 10) (.seq (.mutate (.loc 1) []) .skip)))))
def SklearnClassifier_predict_b14 : Prog :=
  .ite SklearnClassifier_predict_b13 .skip .skip
def SklearnClassifier_predict_b15 : Prog :=
  .seq (.readAttr 6) (.seq (.readAttr 10) SklearnClassifier_predict_b14)
def SklearnClassifier_predict_b16 : Prog :=
  .ite SklearnClassifier_predict_b15 .skip (.seq (.readAttr 8) SklearnClassifier_predict_b12)
def SklearnClassifier_predict_b17 : Prog :=
  .seq (.readAttr 13) (.seq (.readAttr 11) (.seq (.readAttr 5) SklearnClassifier_predict_b16))
def SklearnClassifier_predict_b18 : Prog :=
  .ite SklearnClassifier_predict_b9 SklearnClassifier_predict_b17 (.seq (.readAttr 10) .skip)
def SklearnClassifier_predict_b19 : Prog :=
  .seq (.bind 0 (.fresh [])) (.seq (.bind 1 (.fresh [])) (.seq (.readAttr 13) (.seq (.readAttr 11) (.seq (.readAttr 5) SklearnClassifier_predict_b18))))
def summary_SklearnClassifier_predict : Summary :=
  { params := [0, 1, 2, 3, 4], closedAttrs := [8, 13, 9, 6, 5, 11], safeAttrs := [7], body := SklearnClassifier_predict_b19 }
theorem effects_SklearnClassifier_predict : FrameOK summary_SklearnClassifier_predict = true := by decide +kernel
theorem pure_SklearnClassifier_predict : pureReader summary_SklearnClassifier_predict.body = true := by decide +kernel

-- SklearnClassifier.predict_proba: locals 0=P_ext
def SklearnClassifier_predict_proba_b0 : Prog :=
  .seq (.readAttr 10) .skip
def SklearnClassifier_predict_proba_b1 : Prog :=
  .seq (.readAttr 8) .skip
def SklearnClassifier_predict_proba_b2 : Prog :=
  .ite SklearnClassifier_predict_proba_b0 SklearnClassifier_predict_proba_b1 .skip
def SklearnClassifier_predict_proba_b3 : Prog :=
  .seq (.readAttr 10) (.seq (.bind 0 (.fresh [])) (.seq (.readAttr 6) (.seq (.readAttr 10) (.seq (.readAttr 10) (.seq (.mutate (.loc 0) []) .skip)))))
def SklearnClassifier_predict_proba_b4 : Prog :=
  .ite SklearnClassifier_predict_proba_b3 .skip .skip
def SklearnClassifier_predict_proba_b5 : Prog :=
  .seq (.readAttr 6) (.seq (.readAttr 10) SklearnClassifier_predict_proba_b4)
def SklearnClassifier_predict_proba_b6 : Prog :=
  .ite SklearnClassifier_predict_proba_b5 .skip (.seq (.readAttr 8) SklearnClassifier_predict_proba_b2)
def SklearnClassifier_predict_proba_b7 : Prog :=
  .seq (.bind 0 (.fresh [])) (.seq (.readAttr 13) (.seq (.readAttr 11) (.seq (.readAttr 5) SklearnClassifier_predict_proba_b6)))
def summary_SklearnClassifier_predict_proba : Summary :=
  { params := [0, 1, 2, 3, 4], closedAttrs := [8, 13, 9, 6, 5, 11], safeAttrs := [7], body := SklearnClassifier_predict_proba_b7 }
theorem effects_SklearnClassifier_predict_proba : FrameOK summary_SklearnClassifier_predict_proba = true := by decide +kernel
theorem pure_SklearnClassifier_predict_proba : pureReader summary_SklearnClassifier_predict_proba.body = true := by decide +kernel

/-! ### SlidingWindowClassifier  (skactiveml/classifier/_wrapper.py)
attributes: 0=estimator 1=classes 2=missing_label 3=cost_matrix 4=window_size 5=only_labeled 6=random_state 7=estimator_ 8=sample_weight_train_ 9=y_train_ 10=X_train_ 11=random_state_ 12=check_X_dict_
keys: 0=* -/
-- SlidingWindowClassifier.fit: locals 0=fit_kwargs@_fit4 1=sample_weight@_fit4 2=fit_kwargs 3=sample_weight_train 4=sample_weight@_add_samples3 5=y@_add_samples3 6=X@_add_samples3 7=sample_weight 8=y 9=X 10=$ret4 11=$ret3 12=$ret2 13=sample_weight@_validate_data1 14=y@_validate_data1 15=X@_validate_data1 16=$ret5 17=random_state@check_random_state2 18=check_X_dict@_validate_data1 19=$caller
def SlidingWindowClassifier_fit_b0 : Prog :=
  .seq (.mutate (.loc 0) [(.loc 1)]) .skip
def SlidingWindowClassifier_fit_b1 : Prog :=
  .ite SlidingWindowClassifier_fit_b0 .skip (.seq (.readAttr 7) (.seq (.callFit (.attr 7)) .skip))
def SlidingWindowClassifier_fit_b2 : Prog :=
  .seq (.writeAttr 7 (.deep (.attr 0))) SlidingWindowClassifier_fit_b1
def SlidingWindowClassifier_fit_b3 : Prog :=
  .ite .abort SlidingWindowClassifier_fit_b2 .skip
def SlidingWindowClassifier_fit_b4 : Prog :=
  .seq (.readAttr 8) (.seq (.bind 3 (.copy (.attr 8))) .skip)
def SlidingWindowClassifier_fit_b5 : Prog :=
  .ite SlidingWindowClassifier_fit_b4 .skip (.seq (.bind 1 (.alias (.loc 3))) (.seq (.bind 0 (.fresh [(.sub (.loc 2) 0)])) SlidingWindowClassifier_fit_b3))
def SlidingWindowClassifier_fit_b6 : Prog :=
  .seq (.readAttr 8) (.seq (.mutate (.attr 8) [(.loc 4)]) .skip)
def SlidingWindowClassifier_fit_b7 : Prog :=
  .seq (.writeAttr 8 (.fresh [])) .skip
def SlidingWindowClassifier_fit_b8 : Prog :=
  .ite SlidingWindowClassifier_fit_b6 SlidingWindowClassifier_fit_b7 (.seq (.readAttr 10) (.seq (.readAttr 9) (.seq (.bind 3 (.fresh [])) (.seq (.readAttr 8) SlidingWindowClassifier_fit_b5))))
def SlidingWindowClassifier_fit_b9 : Prog :=
  .seq (.bind 4 (.alias (.sub (.loc 4) 0))) .skip
def SlidingWindowClassifier_fit_b10 : Prog :=
  .seq (.bind 4 (.fresh [])) .skip
def SlidingWindowClassifier_fit_b11 : Prog :=
  .ite SlidingWindowClassifier_fit_b9 SlidingWindowClassifier_fit_b10 .skip
def SlidingWindowClassifier_fit_b12 : Prog :=
  .seq (.bind 6 (.alias (.sub (.loc 6) 0))) (.seq (.bind 5 (.alias (.sub (.loc 5) 0))) SlidingWindowClassifier_fit_b11)
def SlidingWindowClassifier_fit_b13 : Prog :=
  .ite SlidingWindowClassifier_fit_b12 .skip (.seq (.writeAttr 10 (.fresh [])) (.seq (.writeAttr 9 (.fresh [])) (.seq (.writeAttr 8 (.fresh [])) (.seq (.readAttr 10) (.seq (.mutate (.attr 10) [(.loc 6)]) (.seq (.readAttr 9) (.seq (.mutate (.attr 9) [(.loc 5)]) SlidingWindowClassifier_fit_b8)))))))
def SlidingWindowClassifier_fit_b14 : Prog :=
  .seq (.writeAttr 8 (.fresh [])) .skip
def SlidingWindowClassifier_fit_b15 : Prog :=
  .ite SlidingWindowClassifier_fit_b14 .skip SlidingWindowClassifier_fit_b13
def SlidingWindowClassifier_fit_b16 : Prog :=
  .seq (.writeAttr 9 (.fresh [])) .skip
def SlidingWindowClassifier_fit_b17 : Prog :=
  .ite SlidingWindowClassifier_fit_b16 .skip SlidingWindowClassifier_fit_b15
def SlidingWindowClassifier_fit_b18 : Prog :=
  .seq (.writeAttr 10 (.fresh [])) .skip
def SlidingWindowClassifier_fit_b19 : Prog :=
  .ite SlidingWindowClassifier_fit_b18 .skip SlidingWindowClassifier_fit_b17
def SlidingWindowClassifier_fit_b20 : Prog :=
  .seq (.bind 17 (.alias (.attr 6))) (.seq (.bind 16 (.alias (.loc 17))) (.seq (.writeAttr 11 (.alias (.loc 16))) (.seq (.bind 12 (.alias (.loc 15))) (.seq (.bind 11 (.alias (.loc 14))) (.seq (.bind 10 (.alias (.loc 13))) .skip)))))
def SlidingWindowClassifier_fit_b21 : Prog :=
  .ite .abort SlidingWindowClassifier_fit_b20 .skip
def SlidingWindowClassifier_fit_b22 : Prog :=
  .ite .abort SlidingWindowClassifier_fit_b21 (.seq (.bind 9 (.alias (.loc 12))) (.seq (.bind 8 (.alias (.loc 11))) (.seq (.bind 7 (.alias (.loc 10))) (.seq (.bind 6 (.alias (.loc 9))) (.seq (.bind 5 (.alias (.loc 8))) (.seq (.bind 4 (.alias (.loc 7))) SlidingWindowClassifier_fit_b19))))))
def SlidingWindowClassifier_fit_b23 : Prog :=
  .ite .abort .skip .skip
def SlidingWindowClassifier_fit_b24 : Prog :=
  .seq (.bind 13 (.alias (.loc 13))) SlidingWindowClassifier_fit_b23
def SlidingWindowClassifier_fit_b25 : Prog :=
  .ite SlidingWindowClassifier_fit_b24 .skip SlidingWindowClassifier_fit_b22
def SlidingWindowClassifier_fit_b26 : Prog :=
  .seq (.mutate (.loc 18) []) .skip
def SlidingWindowClassifier_fit_b27 : Prog :=
  .ite SlidingWindowClassifier_fit_b26 .skip (.seq (.bind 15 (.alias (.loc 15))) SlidingWindowClassifier_fit_b25)
def SlidingWindowClassifier_fit_b28 : Prog :=
  .seq (.writeAttr 12 (.fresh [])) (.seq (.readAttr 12) (.seq (.bind 15 (.alias (.loc 9))) (.seq (.bind 14 (.alias (.loc 8))) (.seq (.bind 13 (.alias (.loc 7))) (.seq (.bind 18 (.alias (.attr 12))) (.seq (.bind 14 (.alias (.loc 14))) SlidingWindowClassifier_fit_b27))))))
def SlidingWindowClassifier_fit_b29 : Prog :=
  .ite .abort SlidingWindowClassifier_fit_b28 .skip
def SlidingWindowClassifier_fit_b30 : Prog :=
  .seq (.bind 18 (.fresh [])) (.seq (.bind 0 (.fresh [])) (.seq (.bind 17 (.fresh [])) (.seq (.bind 4 (.fresh [])) (.seq (.bind 1 (.fresh [])) (.seq (.bind 13 (.fresh [])) (.seq (.bind 3 (.fresh [])) (.seq (.bind 5 (.fresh [])) (.seq (.bind 14 (.fresh [])) (.seq (.bind 2 (.fresh [(.loc 19)])) SlidingWindowClassifier_fit_b29)))))))))
def SlidingWindowClassifier_fit_b31 : Prog :=
  .seq (.bind 12 (.fresh [])) (.seq (.bind 11 (.fresh [])) (.seq (.bind 10 (.fresh [])) (.seq (.bind 16 (.fresh [])) (.seq (.bind 6 (.fresh [])) (.seq (.bind 15 (.fresh [])) SlidingWindowClassifier_fit_b30)))))
def summary_SlidingWindowClassifier_fit : Summary :=
  { params := [0, 1, 2, 3, 4, 5, 6], closedAttrs := [], safeAttrs := [10, 12, 7, 8, 9], body := SlidingWindowClassifier_fit_b31 }
theorem effects_SlidingWindowClassifier_fit : FrameOK summary_SlidingWindowClassifier_fit = true := by decide +kernel
theorem fit_SlidingWindowClassifier_historyFree : HistoryFree summary_SlidingWindowClassifier_fit = true := by decide +kernel

-- SlidingWindowClassifier.partial_fit: locals 0=fit_kwargs@_fit4 1=sample_weight@_fit4 2=fit_kwargs 3=sample_weight_train 4=sample_weight@_add_samples3 5=y@_add_samples3 6=X@_add_samples3 7=sample_weight 8=y 9=X 10=$ret4 11=$ret3 12=$ret2 13=sample_weight@_validate_data1 14=y@_validate_data1 15=X@_validate_data1 16=$ret5 17=random_state@check_random_state2 18=check_X_dict@_validate_data1 19=$caller
def SlidingWindowClassifier_partial_fit_b0 : Prog :=
  .seq (.mutate (.loc 0) [(.loc 1)]) .skip
def SlidingWindowClassifier_partial_fit_b1 : Prog :=
  .ite SlidingWindowClassifier_partial_fit_b0 .skip (.seq (.readAttr 7) (.seq (.callFit (.attr 7)) .skip))
def SlidingWindowClassifier_partial_fit_b2 : Prog :=
  .seq (.writeAttr 7 (.deep (.attr 0))) SlidingWindowClassifier_partial_fit_b1
def SlidingWindowClassifier_partial_fit_b3 : Prog :=
  .ite .abort SlidingWindowClassifier_partial_fit_b2 .skip
def SlidingWindowClassifier_partial_fit_b4 : Prog :=
  .seq (.readAttr 8) (.seq (.bind 3 (.copy (.attr 8))) .skip)
def SlidingWindowClassifier_partial_fit_b5 : Prog :=
  .ite SlidingWindowClassifier_partial_fit_b4 .skip (.seq (.bind 1 (.alias (.loc 3))) (.seq (.bind 0 (.fresh [(.sub (.loc 2) 0)])) SlidingWindowClassifier_partial_fit_b3))
def SlidingWindowClassifier_partial_fit_b6 : Prog :=
  .seq (.readAttr 8) (.seq (.mutate (.attr 8) [(.loc 4)]) .skip)
def SlidingWindowClassifier_partial_fit_b7 : Prog :=
  .seq (.writeAttr 8 (.fresh [])) .skip
def SlidingWindowClassifier_partial_fit_b8 : Prog :=
  .ite SlidingWindowClassifier_partial_fit_b6 SlidingWindowClassifier_partial_fit_b7 .skip
def SlidingWindowClassifier_partial_fit_b9 : Prog :=
  .seq (.readAttr 10) (.seq (.mutate (.attr 10) [(.loc 6)]) (.seq (.readAttr 9) (.seq (.mutate (.attr 9) [(.loc 5)]) SlidingWindowClassifier_partial_fit_b8)))
def SlidingWindowClassifier_partial_fit_b10 : Prog :=
  .ite .abort SlidingWindowClassifier_partial_fit_b9 (.seq (.readAttr 10) (.seq (.readAttr 9) (.seq (.bind 3 (.fresh [])) (.seq (.readAttr 8) SlidingWindowClassifier_partial_fit_b5))))
def SlidingWindowClassifier_partial_fit_b11 : Prog :=
  .seq (.bind 4 (.alias (.sub (.loc 4) 0))) .skip
def SlidingWindowClassifier_partial_fit_b12 : Prog :=
  .seq (.bind 4 (.fresh [])) .skip
def SlidingWindowClassifier_partial_fit_b13 : Prog :=
  .ite SlidingWindowClassifier_partial_fit_b11 SlidingWindowClassifier_partial_fit_b12 .skip
def SlidingWindowClassifier_partial_fit_b14 : Prog :=
  .seq (.bind 6 (.alias (.sub (.loc 6) 0))) (.seq (.bind 5 (.alias (.sub (.loc 5) 0))) SlidingWindowClassifier_partial_fit_b13)
def SlidingWindowClassifier_partial_fit_b15 : Prog :=
  .ite SlidingWindowClassifier_partial_fit_b14 .skip (.seq (.readAttr 8) SlidingWindowClassifier_partial_fit_b10)
def SlidingWindowClassifier_partial_fit_b16 : Prog :=
  .seq (.writeAttr 8 (.fresh [])) .skip
def SlidingWindowClassifier_partial_fit_b17 : Prog :=
  .ite SlidingWindowClassifier_partial_fit_b16 .skip SlidingWindowClassifier_partial_fit_b15
def SlidingWindowClassifier_partial_fit_b18 : Prog :=
  .seq (.writeAttr 9 (.fresh [])) .skip
def SlidingWindowClassifier_partial_fit_b19 : Prog :=
  .ite SlidingWindowClassifier_partial_fit_b18 .skip SlidingWindowClassifier_partial_fit_b17
def SlidingWindowClassifier_partial_fit_b20 : Prog :=
  .seq (.writeAttr 10 (.fresh [])) .skip
def SlidingWindowClassifier_partial_fit_b21 : Prog :=
  .ite SlidingWindowClassifier_partial_fit_b20 .skip SlidingWindowClassifier_partial_fit_b19
def SlidingWindowClassifier_partial_fit_b22 : Prog :=
  .seq (.bind 17 (.alias (.attr 6))) (.seq (.bind 16 (.alias (.loc 17))) (.seq (.writeAttr 11 (.alias (.loc 16))) (.seq (.bind 12 (.alias (.loc 15))) (.seq (.bind 11 (.alias (.loc 14))) (.seq (.bind 10 (.alias (.loc 13))) .skip)))))
def SlidingWindowClassifier_partial_fit_b23 : Prog :=
  .ite .abort SlidingWindowClassifier_partial_fit_b22 .skip
def SlidingWindowClassifier_partial_fit_b24 : Prog :=
  .ite .abort SlidingWindowClassifier_partial_fit_b23 (.seq (.bind 9 (.alias (.loc 12))) (.seq (.bind 8 (.alias (.loc 11))) (.seq (.bind 7 (.alias (.loc 10))) (.seq (.bind 6 (.alias (.loc 9))) (.seq (.bind 5 (.alias (.loc 8))) (.seq (.bind 4 (.alias (.loc 7))) SlidingWindowClassifier_partial_fit_b21))))))
def SlidingWindowClassifier_partial_fit_b25 : Prog :=
  .ite .abort .skip .skip
def SlidingWindowClassifier_partial_fit_b26 : Prog :=
  .seq (.bind 13 (.alias (.loc 13))) SlidingWindowClassifier_partial_fit_b25
def SlidingWindowClassifier_partial_fit_b27 : Prog :=
  .ite SlidingWindowClassifier_partial_fit_b26 .skip SlidingWindowClassifier_partial_fit_b24
def SlidingWindowClassifier_partial_fit_b28 : Prog :=
  .seq (.mutate (.loc 18) []) .skip
def SlidingWindowClassifier_partial_fit_b29 : Prog :=
  .ite SlidingWindowClassifier_partial_fit_b28 .skip (.seq (.bind 15 (.alias (.loc 15))) SlidingWindowClassifier_partial_fit_b27)
def SlidingWindowClassifier_partial_fit_b30 : Prog :=
  .seq (.writeAttr 12 (.fresh [])) (.seq (.readAttr 12) (.seq (.bind 15 (.alias (.loc 9))) (.seq (.bind 14 (.alias (.loc 8))) (.seq (.bind 13 (.alias (.loc 7))) (.seq (.bind 18 (.alias (.attr 12))) (.seq (.bind 14 (.alias (.loc 14))) SlidingWindowClassifier_partial_fit_b29))))))
def SlidingWindowClassifier_partial_fit_b31 : Prog :=
  .ite .abort SlidingWindowClassifier_partial_fit_b30 .skip
def SlidingWindowClassifier_partial_fit_b32 : Prog :=
  .seq (.bind 18 (.fresh [])) (.seq (.bind 0 (.fresh [])) (.seq (.bind 17 (.fresh [])) (.seq (.bind 4 (.fresh [])) (.seq (.bind 1 (.fresh [])) (.seq (.bind 13 (.fresh [])) (.seq (.bind 3 (.fresh [])) (.seq (.bind 5 (.fresh [])) (.seq (.bind 14 (.fresh [])) (.seq (.bind 2 (.fresh [(.loc 19)])) SlidingWindowClassifier_partial_fit_b31)))))))))
def SlidingWindowClassifier_partial_fit_b33 : Prog :=
  .seq (.bind 12 (.fresh [])) (.seq (.bind 11 (.fresh [])) (.seq (.bind 10 (.fresh [])) (.seq (.bind 16 (.fresh [])) (.seq (.bind 6 (.fresh [])) (.seq (.bind 15 (.fresh [])) SlidingWindowClassifier_partial_fit_b32)))))
def summary_SlidingWindowClassifier_partial_fit : Summary :=
  { params := [0, 1, 2, 3, 4, 5, 6], closedAttrs := [], safeAttrs := [10, 12, 7, 8, 9], body := SlidingWindowClassifier_partial_fit_b33 }
theorem effects_SlidingWindowClassifier_partial_fit : FrameOK summary_SlidingWindowClassifier_partial_fit = true := by decide +kernel

-- SlidingWindowClassifier.predict: locals 
def SlidingWindowClassifier_predict_b0 : Prog :=
  .seq (.readAttr 7) .skip
def summary_SlidingWindowClassifier_predict : Summary :=
  { params := [0, 1, 2, 3, 4, 5, 6], closedAttrs := [], safeAttrs := [10, 12, 7, 8, 9], body := SlidingWindowClassifier_predict_b0 }
theorem effects_SlidingWindowClassifier_predict : FrameOK summary_SlidingWindowClassifier_predict = true := by decide +kernel
theorem pure_SlidingWindowClassifier_predict : pureReader summary_SlidingWindowClassifier_predict.body = true := by decide +kernel

-- SlidingWindowClassifier.predict_proba: locals 
def SlidingWindowClassifier_predict_proba_b0 : Prog :=
  .seq (.readAttr 7) .skip
def summary_SlidingWindowClassifier_predict_proba : Summary :=
  { params := [0, 1, 2, 3, 4, 5, 6], closedAttrs := [], safeAttrs := [10, 12, 7, 8, 9], body := SlidingWindowClassifier_predict_proba_b0 }
theorem effects_SlidingWindowClassifier_predict_proba : FrameOK summary_SlidingWindowClassifier_predict_proba = true := by decide +kernel
theorem pure_SlidingWindowClassifier_predict_proba : pureReader summary_SlidingWindowClassifier_predict_proba.body = true := by decide +kernel

-- SlidingWindowClassifier.predict_freq: locals 
def SlidingWindowClassifier_predict_freq_b0 : Prog :=
  .seq (.readAttr 7) .skip
def summary_SlidingWindowClassifier_predict_freq : Summary :=
  { params := [0, 1, 2, 3, 4, 5, 6], closedAttrs := [], safeAttrs := [10, 12, 7, 8, 9], body := SlidingWindowClassifier_predict_freq_b0 }
theorem effects_SlidingWindowClassifier_predict_freq : FrameOK summary_SlidingWindowClassifier_predict_freq = true := by decide +kernel
theorem pure_SlidingWindowClassifier_predict_freq : pureReader summary_SlidingWindowClassifier_predict_freq.body = true := by decide +kernel

/-! ### AnnotatorLogisticRegression  (skactiveml/classifier/multiannotator/_annotator_logistic_regression.py)
attributes: 0=n_annotators 1=tol 2=max_iter 3=fit_intercept 4=annot_prior_full 5=annot_prior_diag 6=weights_prior 7=solver 8=solver_dict 9=classes 10=cost_matrix 11=missing_label 12=random_state 13=n_annotators_ 14=Alpha_ 15=W_ 16=n_features_in_ 17=classes_ 18=cost_matrix_ 19=_le 20=random_state_
keys: 0=* 1=x 2=shape 3=1 4=classes_ -/
-- AnnotatorLogisticRegression.fit: locals 0=A_norm 1=res 2=error 3=hessp 4=solver_dict 5=reg_Hv@hessp6 6=reg_grad@error5 7=loss@error5 8=Alpha 9=Alpha_sum 10=Mu 11=Mu_sum 12=U 13=reg_Hv@hessp4 14=reg_grad@error3 15=loss@error3 16=n_weights 17=y 18=A_obs 19=A_obs_sum 20=A 21=$t13 22=prior_array 23=prior 24=$el11 25=$t10 26=$el8 27=$c7 28=$ret3 29=y@_validate_data1 30=$c6 31=check_X_dict@_validate_data1 32=$ret5 33=random_state@check_random_state2
def AnnotatorLogisticRegression_fit_b0 : Prog :=
  .seq (.readAttr 13) .abort
def AnnotatorLogisticRegression_fit_b1 : Prog :=
  .seq (.writeAttr 15 (.fresh [])) (.seq (.writeAttr 14 (.alias (.loc 0))) .skip)
def AnnotatorLogisticRegression_fit_b2 : Prog :=
  .seq (.writeAttr 14 (.alias (.loc 0))) .skip
def AnnotatorLogisticRegression_fit_b3 : Prog :=
  .seq (.bind 5 (.fresh [])) (.seq (.mutate (.loc 5) []) .skip)
def AnnotatorLogisticRegression_fit_b4 : Prog :=
  .seq (.bind 5 (.fresh [])) .skip
def AnnotatorLogisticRegression_fit_b5 : Prog :=
  .ite AnnotatorLogisticRegression_fit_b3 AnnotatorLogisticRegression_fit_b4 .skip
def AnnotatorLogisticRegression_fit_b6 : Prog :=
  .ite AnnotatorLogisticRegression_fit_b5 .skip (.seq (.bind 1 (.fresh [(.loc 2), (.attr 7), (.attr 1), (.loc 3), (.loc 4)])) (.seq (.writeAttr 15 (.alias (.sub (.loc 1) 1))) .skip))
def AnnotatorLogisticRegression_fit_b7 : Prog :=
  .seq (.bind 6 (.fresh [])) (.seq (.mutate (.loc 6) []) .skip)
def AnnotatorLogisticRegression_fit_b8 : Prog :=
  .seq (.bind 6 (.fresh [])) .skip
def AnnotatorLogisticRegression_fit_b9 : Prog :=
  .ite AnnotatorLogisticRegression_fit_b7 AnnotatorLogisticRegression_fit_b8 .skip
def AnnotatorLogisticRegression_fit_b10 : Prog :=
  .seq (.mutate (.loc 7) []) .skip
def AnnotatorLogisticRegression_fit_b11 : Prog :=
  .seq (.mutate (.loc 7) []) .skip
def AnnotatorLogisticRegression_fit_b12 : Prog :=
  .ite AnnotatorLogisticRegression_fit_b10 AnnotatorLogisticRegression_fit_b11 AnnotatorLogisticRegression_fit_b9
def AnnotatorLogisticRegression_fit_b13 : Prog :=
  .seq (.bind 7 (.fresh [])) AnnotatorLogisticRegression_fit_b12
def AnnotatorLogisticRegression_fit_b14 : Prog :=
  .ite AnnotatorLogisticRegression_fit_b13 .skip (.seq (.bind 3 (.fresh [])) AnnotatorLogisticRegression_fit_b6)
def AnnotatorLogisticRegression_fit_b15 : Prog :=
  .seq (.mutate (.loc 8) []) .skip
def AnnotatorLogisticRegression_fit_b16 : Prog :=
  .ite AnnotatorLogisticRegression_fit_b15 .skip .skip
def AnnotatorLogisticRegression_fit_b17 : Prog :=
  .seq (.mutate (.loc 8) []) AnnotatorLogisticRegression_fit_b16
def AnnotatorLogisticRegression_fit_b18 : Prog :=
  .ite AnnotatorLogisticRegression_fit_b17 .skip (.seq (.bind 9 (.fresh [])) (.seq (.writeAttr 14 (.fresh [(.loc 8), (.loc 9)])) (.seq (.bind 2 (.fresh [])) AnnotatorLogisticRegression_fit_b14)))
def AnnotatorLogisticRegression_fit_b19 : Prog :=
  .seq (.bind 10 (.fresh [])) (.seq (.mutate (.loc 10) []) .skip)
def AnnotatorLogisticRegression_fit_b20 : Prog :=
  .seq (.readAttr 14) (.seq (.mutate (.loc 12) []) .skip)
def AnnotatorLogisticRegression_fit_b21 : Prog :=
  .ite AnnotatorLogisticRegression_fit_b20 .skip .skip
def AnnotatorLogisticRegression_fit_b22 : Prog :=
  .seq (.readAttr 14) (.seq (.mutate (.loc 12) []) AnnotatorLogisticRegression_fit_b21)
def AnnotatorLogisticRegression_fit_b23 : Prog :=
  .ite AnnotatorLogisticRegression_fit_b22 .skip .skip
def AnnotatorLogisticRegression_fit_b24 : Prog :=
  .ite AnnotatorLogisticRegression_fit_b23 .skip .skip
def AnnotatorLogisticRegression_fit_b25 : Prog :=
  .seq (.readAttr 14) (.seq (.mutate (.loc 12) []) .skip)
def AnnotatorLogisticRegression_fit_b26 : Prog :=
  .ite AnnotatorLogisticRegression_fit_b25 .skip .skip
def AnnotatorLogisticRegression_fit_b27 : Prog :=
  .seq (.readAttr 14) (.seq (.mutate (.loc 12) []) AnnotatorLogisticRegression_fit_b26)
def AnnotatorLogisticRegression_fit_b28 : Prog :=
  .ite AnnotatorLogisticRegression_fit_b27 .skip AnnotatorLogisticRegression_fit_b24
def AnnotatorLogisticRegression_fit_b29 : Prog :=
  .ite AnnotatorLogisticRegression_fit_b28 .skip (.seq (.bind 10 (.fresh [])) (.seq (.bind 11 (.fresh [])) (.seq (.bind 10 (.fresh [(.loc 10), (.loc 11)])) (.seq (.readAttr 15) (.seq (.readAttr 14) .skip)))))
def AnnotatorLogisticRegression_fit_b30 : Prog :=
  .seq (.bind 12 (.fresh [])) AnnotatorLogisticRegression_fit_b29
def AnnotatorLogisticRegression_fit_b31 : Prog :=
  .ite AnnotatorLogisticRegression_fit_b19 AnnotatorLogisticRegression_fit_b30 (.seq (.readAttr 13) (.seq (.bind 8 (.fresh [])) (.seq (.readAttr 13) AnnotatorLogisticRegression_fit_b18)))
def AnnotatorLogisticRegression_fit_b32 : Prog :=
  .seq (.readAttr 15) AnnotatorLogisticRegression_fit_b31
def AnnotatorLogisticRegression_fit_b33 : Prog :=
  .ite AnnotatorLogisticRegression_fit_b32 .skip .skip
def AnnotatorLogisticRegression_fit_b34 : Prog :=
  .seq (.bind 13 (.fresh [])) (.seq (.mutate (.loc 13) []) .skip)
def AnnotatorLogisticRegression_fit_b35 : Prog :=
  .seq (.bind 13 (.fresh [])) .skip
def AnnotatorLogisticRegression_fit_b36 : Prog :=
  .ite AnnotatorLogisticRegression_fit_b34 AnnotatorLogisticRegression_fit_b35 .skip
def AnnotatorLogisticRegression_fit_b37 : Prog :=
  .ite AnnotatorLogisticRegression_fit_b36 .skip (.seq (.bind 1 (.fresh [(.loc 2), (.attr 7), (.attr 1), (.loc 3), (.loc 4)])) (.seq (.writeAttr 15 (.alias (.sub (.loc 1) 1))) AnnotatorLogisticRegression_fit_b33))
def AnnotatorLogisticRegression_fit_b38 : Prog :=
  .seq (.bind 14 (.fresh [])) (.seq (.mutate (.loc 14) []) .skip)
def AnnotatorLogisticRegression_fit_b39 : Prog :=
  .seq (.bind 14 (.fresh [])) .skip
def AnnotatorLogisticRegression_fit_b40 : Prog :=
  .ite AnnotatorLogisticRegression_fit_b38 AnnotatorLogisticRegression_fit_b39 .skip
def AnnotatorLogisticRegression_fit_b41 : Prog :=
  .seq (.mutate (.loc 15) []) .skip
def AnnotatorLogisticRegression_fit_b42 : Prog :=
  .seq (.mutate (.loc 15) []) .skip
def AnnotatorLogisticRegression_fit_b43 : Prog :=
  .ite AnnotatorLogisticRegression_fit_b41 AnnotatorLogisticRegression_fit_b42 AnnotatorLogisticRegression_fit_b40
def AnnotatorLogisticRegression_fit_b44 : Prog :=
  .seq (.bind 15 (.fresh [])) AnnotatorLogisticRegression_fit_b43
def AnnotatorLogisticRegression_fit_b45 : Prog :=
  .ite AnnotatorLogisticRegression_fit_b44 .skip (.seq (.bind 3 (.fresh [])) AnnotatorLogisticRegression_fit_b37)
def AnnotatorLogisticRegression_fit_b46 : Prog :=
  .seq (.mutate (.loc 8) []) .skip
def AnnotatorLogisticRegression_fit_b47 : Prog :=
  .ite AnnotatorLogisticRegression_fit_b46 .skip .skip
def AnnotatorLogisticRegression_fit_b48 : Prog :=
  .seq (.mutate (.loc 8) []) AnnotatorLogisticRegression_fit_b47
def AnnotatorLogisticRegression_fit_b49 : Prog :=
  .ite AnnotatorLogisticRegression_fit_b48 .skip (.seq (.bind 9 (.fresh [])) (.seq (.writeAttr 14 (.fresh [(.loc 8), (.loc 9)])) (.seq (.bind 2 (.fresh [])) AnnotatorLogisticRegression_fit_b45)))
def AnnotatorLogisticRegression_fit_b50 : Prog :=
  .seq (.readAttr 15) (.seq (.bind 10 (.fresh [])) (.seq (.mutate (.loc 10) []) (.seq (.readAttr 13) (.seq (.bind 8 (.fresh [])) (.seq (.readAttr 13) AnnotatorLogisticRegression_fit_b49)))))
def AnnotatorLogisticRegression_fit_b51 : Prog :=
  .ite AnnotatorLogisticRegression_fit_b50 .skip .skip
def AnnotatorLogisticRegression_fit_b52 : Prog :=
  .ite AnnotatorLogisticRegression_fit_b2 AnnotatorLogisticRegression_fit_b51 .skip
def AnnotatorLogisticRegression_fit_b53 : Prog :=
  .seq (.mutate (.loc 16) []) .skip
def AnnotatorLogisticRegression_fit_b54 : Prog :=
  .ite AnnotatorLogisticRegression_fit_b53 .skip (.seq (.writeAttr 15 (.fresh [])) AnnotatorLogisticRegression_fit_b52)
def AnnotatorLogisticRegression_fit_b55 : Prog :=
  .seq (.bind 17 (.alias (.sub (.loc 17) 0))) (.seq (.readAttr 16) (.seq (.bind 16 (.alias (.attr 16))) AnnotatorLogisticRegression_fit_b54))
def AnnotatorLogisticRegression_fit_b56 : Prog :=
  .ite AnnotatorLogisticRegression_fit_b1 AnnotatorLogisticRegression_fit_b55 .skip
def AnnotatorLogisticRegression_fit_b57 : Prog :=
  .seq (.mutate (.loc 20) []) (.seq (.mutate (.loc 20) []) .skip)
def AnnotatorLogisticRegression_fit_b58 : Prog :=
  .ite AnnotatorLogisticRegression_fit_b57 .skip .skip
def AnnotatorLogisticRegression_fit_b59 : Prog :=
  .seq (.mutate (.loc 20) []) (.seq (.mutate (.loc 20) []) AnnotatorLogisticRegression_fit_b58)
def AnnotatorLogisticRegression_fit_b60 : Prog :=
  .ite AnnotatorLogisticRegression_fit_b59 .skip (.seq (.bind 18 (.fresh [])) (.seq (.bind 19 (.fresh [])) (.seq (.bind 0 (.fresh [(.loc 18), (.loc 19)])) (.seq (.readAttr 16) AnnotatorLogisticRegression_fit_b56))))
def AnnotatorLogisticRegression_fit_b61 : Prog :=
  .seq (.bind 21 (.fresh [])) (.seq (.mutate (.loc 21) [(.loc 22)]) .skip)
def AnnotatorLogisticRegression_fit_b62 : Prog :=
  .ite .abort AnnotatorLogisticRegression_fit_b61 .skip
def AnnotatorLogisticRegression_fit_b63 : Prog :=
  .seq (.readAttr 13) (.seq (.bind 22 (.fresh [])) .skip)
def AnnotatorLogisticRegression_fit_b64 : Prog :=
  .seq (.bind 23 (.fresh [])) (.seq (.bind 22 (.alias (.loc 23))) .skip)
def AnnotatorLogisticRegression_fit_b65 : Prog :=
  .ite AnnotatorLogisticRegression_fit_b63 AnnotatorLogisticRegression_fit_b64 (.seq (.readAttr 13) AnnotatorLogisticRegression_fit_b62)
def AnnotatorLogisticRegression_fit_b66 : Prog :=
  .seq (.bind 24 (.fresh [(.attr 5)])) .skip
def AnnotatorLogisticRegression_fit_b67 : Prog :=
  .ite AnnotatorLogisticRegression_fit_b66 .skip (.seq (.bind 23 (.alias (.sub (.loc 24) 0))) AnnotatorLogisticRegression_fit_b65)
def AnnotatorLogisticRegression_fit_b68 : Prog :=
  .seq (.bind 24 (.fresh [(.attr 4)])) AnnotatorLogisticRegression_fit_b67
def AnnotatorLogisticRegression_fit_b69 : Prog :=
  .ite AnnotatorLogisticRegression_fit_b68 .skip .skip
def AnnotatorLogisticRegression_fit_b70 : Prog :=
  .seq (.bind 25 (.fresh [])) (.seq (.mutate (.loc 25) [(.loc 22)]) .skip)
def AnnotatorLogisticRegression_fit_b71 : Prog :=
  .ite .abort AnnotatorLogisticRegression_fit_b70 AnnotatorLogisticRegression_fit_b69
def AnnotatorLogisticRegression_fit_b72 : Prog :=
  .seq (.readAttr 13) (.seq (.bind 22 (.fresh [])) .skip)
def AnnotatorLogisticRegression_fit_b73 : Prog :=
  .seq (.bind 23 (.fresh [])) (.seq (.bind 22 (.alias (.loc 23))) .skip)
def AnnotatorLogisticRegression_fit_b74 : Prog :=
  .ite AnnotatorLogisticRegression_fit_b72 AnnotatorLogisticRegression_fit_b73 (.seq (.readAttr 13) AnnotatorLogisticRegression_fit_b71)
def AnnotatorLogisticRegression_fit_b75 : Prog :=
  .seq (.bind 26 (.fresh [(.attr 5)])) .skip
def AnnotatorLogisticRegression_fit_b76 : Prog :=
  .ite AnnotatorLogisticRegression_fit_b75 .skip (.seq (.bind 23 (.alias (.sub (.loc 26) 0))) AnnotatorLogisticRegression_fit_b74)
def AnnotatorLogisticRegression_fit_b77 : Prog :=
  .seq (.bind 26 (.fresh [(.attr 4)])) AnnotatorLogisticRegression_fit_b76
def AnnotatorLogisticRegression_fit_b78 : Prog :=
  .ite AnnotatorLogisticRegression_fit_b77 .skip (.seq (.readAttr 13) (.seq (.bind 20 (.fresh [])) (.seq (.readAttr 13) AnnotatorLogisticRegression_fit_b60)))
def AnnotatorLogisticRegression_fit_b79 : Prog :=
  .ite AnnotatorLogisticRegression_fit_b0 AnnotatorLogisticRegression_fit_b78 .skip
def AnnotatorLogisticRegression_fit_b80 : Prog :=
  .seq (.writeAttr 13 (.alias (.sub (.sub (.loc 17) 2) 3))) .skip
def AnnotatorLogisticRegression_fit_b81 : Prog :=
  .ite .abort AnnotatorLogisticRegression_fit_b80 .skip
def AnnotatorLogisticRegression_fit_b82 : Prog :=
  .seq (.writeAttr 13 (.alias (.attr 0))) .skip
def AnnotatorLogisticRegression_fit_b83 : Prog :=
  .ite .abort AnnotatorLogisticRegression_fit_b82 .skip
def AnnotatorLogisticRegression_fit_b84 : Prog :=
  .ite AnnotatorLogisticRegression_fit_b81 AnnotatorLogisticRegression_fit_b83 (.seq (.readAttr 13) AnnotatorLogisticRegression_fit_b79)
def AnnotatorLogisticRegression_fit_b85 : Prog :=
  .seq (.bind 27 (.fresh [])) .skip
def AnnotatorLogisticRegression_fit_b86 : Prog :=
  .seq (.bind 27 (.alias (.attr 8))) .skip
def AnnotatorLogisticRegression_fit_b87 : Prog :=
  .ite AnnotatorLogisticRegression_fit_b85 AnnotatorLogisticRegression_fit_b86 (.seq (.bind 4 (.alias (.loc 27))) (.seq (.readAttr 17) (.seq (.readAttr 16) AnnotatorLogisticRegression_fit_b84)))
def AnnotatorLogisticRegression_fit_b88 : Prog :=
  .seq (.readAttr 18) (.seq (.writeAttr 18 (.alias (.sub (.attr 18) 0))) (.seq (.readAttr 18) (.seq (.writeAttr 18 (.alias (.sub (.attr 18) 0))) .skip)))
def AnnotatorLogisticRegression_fit_b89 : Prog :=
  .ite AnnotatorLogisticRegression_fit_b88 .skip (.seq (.bind 28 (.alias (.loc 29))) (.seq (.bind 17 (.alias (.loc 28))) AnnotatorLogisticRegression_fit_b87))
def AnnotatorLogisticRegression_fit_b90 : Prog :=
  .seq (.readAttr 17) (.seq (.bind 30 (.fresh [])) .skip)
def AnnotatorLogisticRegression_fit_b91 : Prog :=
  .seq (.bind 30 (.alias (.attr 10))) .skip
def AnnotatorLogisticRegression_fit_b92 : Prog :=
  .ite AnnotatorLogisticRegression_fit_b90 AnnotatorLogisticRegression_fit_b91 (.seq (.writeAttr 18 (.alias (.loc 30))) (.seq (.readAttr 18) (.seq (.readAttr 17) (.seq (.writeAttr 18 (.fresh [])) AnnotatorLogisticRegression_fit_b89))))
def AnnotatorLogisticRegression_fit_b93 : Prog :=
  .ite .abort .skip .skip
def AnnotatorLogisticRegression_fit_b94 : Prog :=
  .ite AnnotatorLogisticRegression_fit_b93 .skip AnnotatorLogisticRegression_fit_b92
def AnnotatorLogisticRegression_fit_b95 : Prog :=
  .ite .abort .skip .skip
def AnnotatorLogisticRegression_fit_b96 : Prog :=
  .seq (.bind 29 (.alias (.loc 29))) (.seq (.readAttr 19) (.seq (.callFit (.attr 19)) (.seq (.bind 29 (.fresh [])) (.seq (.readAttr 19) AnnotatorLogisticRegression_fit_b95))))
def AnnotatorLogisticRegression_fit_b97 : Prog :=
  .seq (.readAttr 19) (.seq (.callFit (.attr 19)) (.seq (.mutate (.loc 31) []) .skip))
def AnnotatorLogisticRegression_fit_b98 : Prog :=
  .ite .abort AnnotatorLogisticRegression_fit_b97 .skip
def AnnotatorLogisticRegression_fit_b99 : Prog :=
  .ite AnnotatorLogisticRegression_fit_b96 AnnotatorLogisticRegression_fit_b98 (.seq (.writeAttr 16 (.fresh [])) (.seq (.readAttr 19) (.seq (.writeAttr 17 (.alias (.sub (.attr 19) 4))) AnnotatorLogisticRegression_fit_b94)))
def AnnotatorLogisticRegression_fit_b100 : Prog :=
  .seq (.bind 4 (.fresh [])) (.seq (.bind 29 (.fresh [])) (.seq (.bind 29 (.alias (.loc 17))) (.seq (.bind 31 (.fresh [])) (.seq (.bind 31 (.fresh [])) (.seq (.bind 33 (.alias (.attr 12))) (.seq (.bind 32 (.alias (.loc 33))) (.seq (.writeAttr 20 (.alias (.loc 32))) (.seq (.writeAttr 19 (.fresh [(.attr 9), (.attr 11)])) (.seq (.bind 29 (.alias (.loc 29))) AnnotatorLogisticRegression_fit_b99)))))))))
def AnnotatorLogisticRegression_fit_b101 : Prog :=
  .seq (.bind 7 (.fresh [])) (.seq (.bind 16 (.fresh [])) (.seq (.bind 23 (.fresh [])) (.seq (.bind 22 (.fresh [])) (.seq (.bind 33 (.fresh [])) (.seq (.bind 13 (.fresh [])) (.seq (.bind 5 (.fresh [])) (.seq (.bind 14 (.fresh [])) (.seq (.bind 6 (.fresh [])) (.seq (.bind 1 (.fresh [])) AnnotatorLogisticRegression_fit_b100)))))))))
def AnnotatorLogisticRegression_fit_b102 : Prog :=
  .seq (.bind 19 (.fresh [])) (.seq (.bind 8 (.fresh [])) (.seq (.bind 9 (.fresh [])) (.seq (.bind 10 (.fresh [])) (.seq (.bind 11 (.fresh [])) (.seq (.bind 12 (.fresh [])) (.seq (.bind 31 (.fresh [])) (.seq (.bind 2 (.fresh [])) (.seq (.bind 3 (.fresh [])) (.seq (.bind 15 (.fresh [])) AnnotatorLogisticRegression_fit_b101)))))))))
def AnnotatorLogisticRegression_fit_b103 : Prog :=
  .seq (.bind 27 (.fresh [])) (.seq (.bind 24 (.fresh [])) (.seq (.bind 26 (.fresh [])) (.seq (.bind 28 (.fresh [])) (.seq (.bind 32 (.fresh [])) (.seq (.bind 25 (.fresh [])) (.seq (.bind 21 (.fresh [])) (.seq (.bind 20 (.fresh [])) (.seq (.bind 0 (.fresh [])) (.seq (.bind 18 (.fresh [])) AnnotatorLogisticRegression_fit_b102)))))))))
def AnnotatorLogisticRegression_fit_b104 : Prog :=
  .seq (.bind 30 (.fresh [])) AnnotatorLogisticRegression_fit_b103
def summary_AnnotatorLogisticRegression_fit : Summary :=
  { params := [0, 1, 2, 3, 4, 5, 6, 7, 8, 9, 10, 11, 12], closedAttrs := [14, 18, 16], safeAttrs := [19], body := AnnotatorLogisticRegression_fit_b104 }
theorem effects_AnnotatorLogisticRegression_fit : FrameOK summary_AnnotatorLogisticRegression_fit = true := by decide +kernel
-- lead: conditional-write Alpha_  skactiveml/classifier/multiannotator/_annotator_logistic_regression.py:390  self.Alpha_ = np.divide(Alpha, Alpha_sum, out=np.full_like(Alpha, 1 / n_classes, dtype=flo
theorem fit_AnnotatorLogisticRegression_historyFree : HistoryFree summary_AnnotatorLogisticRegression_fit = false := by decide +kernel

-- AnnotatorLogisticRegression.predict_proba: locals 
def AnnotatorLogisticRegression_predict_proba_b0 : Prog :=
  .seq (.readAttr 15) .skip
def AnnotatorLogisticRegression_predict_proba_b1 : Prog :=
  .seq (.readAttr 17) .skip
def AnnotatorLogisticRegression_predict_proba_b2 : Prog :=
  .ite AnnotatorLogisticRegression_predict_proba_b0 AnnotatorLogisticRegression_predict_proba_b1 .skip
def AnnotatorLogisticRegression_predict_proba_b3 : Prog :=
  .seq (.readAttr 16) (.seq (.readAttr 15) AnnotatorLogisticRegression_predict_proba_b2)
def summary_AnnotatorLogisticRegression_predict_proba : Summary :=
  { params := [0, 1, 2, 3, 4, 5, 6, 7, 8, 9, 10, 11, 12], closedAttrs := [14, 18, 16], safeAttrs := [19], body := AnnotatorLogisticRegression_predict_proba_b3 }
theorem effects_AnnotatorLogisticRegression_predict_proba : FrameOK summary_AnnotatorLogisticRegression_predict_proba = true := by decide +kernel
theorem pure_AnnotatorLogisticRegression_predict_proba : pureReader summary_AnnotatorLogisticRegression_predict_proba.body = true := by decide +kernel

-- AnnotatorLogisticRegression.predict_annotator_perf: locals 
def AnnotatorLogisticRegression_predict_annotator_perf_b0 : Prog :=
  .seq (.readAttr 14) (.seq (.readAttr 14) .skip)
def AnnotatorLogisticRegression_predict_annotator_perf_b1 : Prog :=
  .ite AnnotatorLogisticRegression_predict_annotator_perf_b0 .skip .skip
def AnnotatorLogisticRegression_predict_annotator_perf_b2 : Prog :=
  .seq (.readAttr 15) .skip
def AnnotatorLogisticRegression_predict_annotator_perf_b3 : Prog :=
  .seq (.readAttr 17) .skip
def AnnotatorLogisticRegression_predict_annotator_perf_b4 : Prog :=
  .ite AnnotatorLogisticRegression_predict_annotator_perf_b2 AnnotatorLogisticRegression_predict_annotator_perf_b3 AnnotatorLogisticRegression_predict_annotator_perf_b1
def AnnotatorLogisticRegression_predict_annotator_perf_b5 : Prog :=
  .seq (.readAttr 16) (.seq (.readAttr 15) AnnotatorLogisticRegression_predict_annotator_perf_b4)
def summary_AnnotatorLogisticRegression_predict_annotator_perf : Summary :=
  { params := [0, 1, 2, 3, 4, 5, 6, 7, 8, 9, 10, 11, 12], closedAttrs := [14, 18, 16], safeAttrs := [19], body := AnnotatorLogisticRegression_predict_annotator_perf_b5 }
theorem effects_AnnotatorLogisticRegression_predict_annotator_perf : FrameOK summary_AnnotatorLogisticRegression_predict_annotator_perf = true := by decide +kernel
theorem pure_AnnotatorLogisticRegression_predict_annotator_perf : pureReader summary_AnnotatorLogisticRegression_predict_annotator_perf.body = true := by decide +kernel

-- AnnotatorLogisticRegression.predict: locals 
def AnnotatorLogisticRegression_predict_b0 : Prog :=
  .seq (.readAttr 15) .skip
def AnnotatorLogisticRegression_predict_b1 : Prog :=
  .seq (.readAttr 17) .skip
def AnnotatorLogisticRegression_predict_b2 : Prog :=
  .ite AnnotatorLogisticRegression_predict_b0 AnnotatorLogisticRegression_predict_b1 (.seq (.readAttr 18) (.seq (.readAttr 20) (.seq (.readAttr 19) (.seq (.readAttr 17) .skip))))
def AnnotatorLogisticRegression_predict_b3 : Prog :=
  .seq (.readAttr 16) (.seq (.readAttr 15) AnnotatorLogisticRegression_predict_b2)
def summary_AnnotatorLogisticRegression_predict : Summary :=
  { params := [0, 1, 2, 3, 4, 5, 6, 7, 8, 9, 10, 11, 12], closedAttrs := [14, 18, 16], safeAttrs := [19], body := AnnotatorLogisticRegression_predict_b3 }
theorem effects_AnnotatorLogisticRegression_predict : FrameOK summary_AnnotatorLogisticRegression_predict = true := by decide +kernel
theorem pure_AnnotatorLogisticRegression_predict : pureReader summary_AnnotatorLogisticRegression_predict.body = true := by decide +kernel

/-! ### AnnotatorEnsembleClassifier  (skactiveml/classifier/multiannotator/_annotator_ensemble_classifier.py)
attributes: 0=estimators 1=voting 2=classes 3=missing_label 4=cost_matrix 5=random_state 6=classes_ 7=estimators_ 8=n_features_in_ 9=cost_matrix_ 10=_le 11=random_state_ 12=check_X_dict_
keys: 0=* 1=1 2=classes_ -/
-- AnnotatorEnsembleClassifier.fit: locals 0=est 1=$c9 2=check_X_dict@_validate_data2 3=$ret8 4=random_state@check_random_state3
def AnnotatorEnsembleClassifier_fit_b0 : Prog :=
  .seq (.callFit (.sub (.loc 0) 1)) .skip
def AnnotatorEnsembleClassifier_fit_b1 : Prog :=
  .seq (.callFit (.sub (.loc 0) 1)) .skip
def AnnotatorEnsembleClassifier_fit_b2 : Prog :=
  .ite AnnotatorEnsembleClassifier_fit_b0 AnnotatorEnsembleClassifier_fit_b1 .skip
def AnnotatorEnsembleClassifier_fit_b3 : Prog :=
  .seq (.readAttr 7) (.seq (.bind 0 (.alias (.sub (.attr 7) 0))) (.seq (.callFit (.sub (.loc 0) 1)) (.seq (.readAttr 6) (.seq (.callFit (.sub (.loc 0) 1)) AnnotatorEnsembleClassifier_fit_b2))))
def AnnotatorEnsembleClassifier_fit_b4 : Prog :=
  .ite AnnotatorEnsembleClassifier_fit_b3 .skip .skip
def AnnotatorEnsembleClassifier_fit_b5 : Prog :=
  .seq (.callFit (.sub (.loc 0) 1)) .skip
def AnnotatorEnsembleClassifier_fit_b6 : Prog :=
  .seq (.callFit (.sub (.loc 0) 1)) .skip
def AnnotatorEnsembleClassifier_fit_b7 : Prog :=
  .ite AnnotatorEnsembleClassifier_fit_b5 AnnotatorEnsembleClassifier_fit_b6 AnnotatorEnsembleClassifier_fit_b4
def AnnotatorEnsembleClassifier_fit_b8 : Prog :=
  .seq (.readAttr 7) (.seq (.bind 0 (.alias (.sub (.attr 7) 0))) (.seq (.callFit (.sub (.loc 0) 1)) (.seq (.readAttr 6) (.seq (.callFit (.sub (.loc 0) 1)) AnnotatorEnsembleClassifier_fit_b7))))
def AnnotatorEnsembleClassifier_fit_b9 : Prog :=
  .ite AnnotatorEnsembleClassifier_fit_b8 .skip .skip
def AnnotatorEnsembleClassifier_fit_b10 : Prog :=
  .seq (.readAttr 7) AnnotatorEnsembleClassifier_fit_b9
def AnnotatorEnsembleClassifier_fit_b11 : Prog :=
  .ite .abort AnnotatorEnsembleClassifier_fit_b10 .skip
def AnnotatorEnsembleClassifier_fit_b12 : Prog :=
  .ite .abort AnnotatorEnsembleClassifier_fit_b11 .skip
def AnnotatorEnsembleClassifier_fit_b13 : Prog :=
  .ite .skip AnnotatorEnsembleClassifier_fit_b12 .skip
def AnnotatorEnsembleClassifier_fit_b14 : Prog :=
  .seq (.readAttr 9) (.seq (.writeAttr 9 (.alias (.sub (.attr 9) 0))) (.seq (.readAttr 9) (.seq (.writeAttr 9 (.alias (.sub (.attr 9) 0))) .skip)))
def AnnotatorEnsembleClassifier_fit_b15 : Prog :=
  .ite AnnotatorEnsembleClassifier_fit_b14 .skip (.seq (.writeAttr 7 (.deep (.attr 0))) (.seq (.readAttr 8) AnnotatorEnsembleClassifier_fit_b13))
def AnnotatorEnsembleClassifier_fit_b16 : Prog :=
  .seq (.readAttr 6) (.seq (.bind 1 (.fresh [])) .skip)
def AnnotatorEnsembleClassifier_fit_b17 : Prog :=
  .seq (.bind 1 (.alias (.attr 4))) .skip
def AnnotatorEnsembleClassifier_fit_b18 : Prog :=
  .ite AnnotatorEnsembleClassifier_fit_b16 AnnotatorEnsembleClassifier_fit_b17 (.seq (.writeAttr 9 (.alias (.loc 1))) (.seq (.readAttr 9) (.seq (.readAttr 6) (.seq (.writeAttr 9 (.fresh [])) AnnotatorEnsembleClassifier_fit_b15))))
def AnnotatorEnsembleClassifier_fit_b19 : Prog :=
  .ite .abort .skip .skip
def AnnotatorEnsembleClassifier_fit_b20 : Prog :=
  .ite AnnotatorEnsembleClassifier_fit_b19 .skip AnnotatorEnsembleClassifier_fit_b18
def AnnotatorEnsembleClassifier_fit_b21 : Prog :=
  .ite .abort .skip .skip
def AnnotatorEnsembleClassifier_fit_b22 : Prog :=
  .seq (.readAttr 10) (.seq (.callFit (.attr 10)) (.seq (.readAttr 10) AnnotatorEnsembleClassifier_fit_b21))
def AnnotatorEnsembleClassifier_fit_b23 : Prog :=
  .seq (.readAttr 10) (.seq (.callFit (.attr 10)) (.seq (.mutate (.loc 2) []) .skip))
def AnnotatorEnsembleClassifier_fit_b24 : Prog :=
  .ite .abort AnnotatorEnsembleClassifier_fit_b23 .skip
def AnnotatorEnsembleClassifier_fit_b25 : Prog :=
  .ite AnnotatorEnsembleClassifier_fit_b22 AnnotatorEnsembleClassifier_fit_b24 (.seq (.writeAttr 8 (.fresh [])) (.seq (.readAttr 10) (.seq (.writeAttr 6 (.alias (.sub (.attr 10) 2))) AnnotatorEnsembleClassifier_fit_b20)))
def AnnotatorEnsembleClassifier_fit_b26 : Prog :=
  .seq (.bind 2 (.fresh [])) .skip
def AnnotatorEnsembleClassifier_fit_b27 : Prog :=
  .ite AnnotatorEnsembleClassifier_fit_b26 .skip (.seq (.bind 4 (.alias (.attr 5))) (.seq (.bind 3 (.alias (.loc 4))) (.seq (.writeAttr 11 (.alias (.loc 3))) (.seq (.writeAttr 10 (.fresh [(.attr 2), (.attr 3)])) AnnotatorEnsembleClassifier_fit_b25))))
def AnnotatorEnsembleClassifier_fit_b28 : Prog :=
  .ite .abort .skip .skip
def AnnotatorEnsembleClassifier_fit_b29 : Prog :=
  .ite .abort AnnotatorEnsembleClassifier_fit_b28 .skip
def AnnotatorEnsembleClassifier_fit_b30 : Prog :=
  .ite .abort .skip .skip
def AnnotatorEnsembleClassifier_fit_b31 : Prog :=
  .ite AnnotatorEnsembleClassifier_fit_b30 .abort AnnotatorEnsembleClassifier_fit_b29
def AnnotatorEnsembleClassifier_fit_b32 : Prog :=
  .ite .abort AnnotatorEnsembleClassifier_fit_b31 .skip
def AnnotatorEnsembleClassifier_fit_b33 : Prog :=
  .ite .abort AnnotatorEnsembleClassifier_fit_b32 .skip
def AnnotatorEnsembleClassifier_fit_b34 : Prog :=
  .ite AnnotatorEnsembleClassifier_fit_b33 .skip .skip
def AnnotatorEnsembleClassifier_fit_b35 : Prog :=
  .ite .abort .skip .skip
def AnnotatorEnsembleClassifier_fit_b36 : Prog :=
  .ite .abort AnnotatorEnsembleClassifier_fit_b35 .skip
def AnnotatorEnsembleClassifier_fit_b37 : Prog :=
  .ite .abort .skip .skip
def AnnotatorEnsembleClassifier_fit_b38 : Prog :=
  .ite AnnotatorEnsembleClassifier_fit_b37 .abort AnnotatorEnsembleClassifier_fit_b36
def AnnotatorEnsembleClassifier_fit_b39 : Prog :=
  .ite .abort AnnotatorEnsembleClassifier_fit_b38 .skip
def AnnotatorEnsembleClassifier_fit_b40 : Prog :=
  .ite .abort AnnotatorEnsembleClassifier_fit_b39 AnnotatorEnsembleClassifier_fit_b34
def AnnotatorEnsembleClassifier_fit_b41 : Prog :=
  .ite AnnotatorEnsembleClassifier_fit_b40 .skip (.seq (.writeAttr 12 (.fresh [])) (.seq (.readAttr 12) (.seq (.bind 2 (.alias (.attr 12))) AnnotatorEnsembleClassifier_fit_b27)))
def AnnotatorEnsembleClassifier_fit_b42 : Prog :=
  .seq (.bind 1 (.fresh [])) (.seq (.bind 3 (.fresh [])) (.seq (.bind 2 (.fresh [])) (.seq (.bind 0 (.fresh [])) (.seq (.bind 4 (.fresh [])) AnnotatorEnsembleClassifier_fit_b41))))
def summary_AnnotatorEnsembleClassifier_fit : Summary :=
  { params := [0, 1, 2, 3, 4, 5], closedAttrs := [12, 9, 7, 8], safeAttrs := [10], body := AnnotatorEnsembleClassifier_fit_b42 }
theorem effects_AnnotatorEnsembleClassifier_fit : FrameOK summary_AnnotatorEnsembleClassifier_fit = true := by decide +kernel
theorem fit_AnnotatorEnsembleClassifier_historyFree : HistoryFree summary_AnnotatorEnsembleClassifier_fit = true := by decide +kernel

-- AnnotatorEnsembleClassifier.predict_proba: locals 0=P 1=$comp3
def AnnotatorEnsembleClassifier_predict_proba_b0 : Prog :=
  .seq (.readAttr 6) .skip
def AnnotatorEnsembleClassifier_predict_proba_b1 : Prog :=
  .seq (.readAttr 7) .skip
def AnnotatorEnsembleClassifier_predict_proba_b2 : Prog :=
  .ite AnnotatorEnsembleClassifier_predict_proba_b1 .skip (.seq (.readAttr 6) (.seq (.bind 0 (.fresh [])) .skip))
def AnnotatorEnsembleClassifier_predict_proba_b3 : Prog :=
  .seq (.readAttr 7) (.seq (.bind 1 (.fresh [])) .skip)
def AnnotatorEnsembleClassifier_predict_proba_b4 : Prog :=
  .ite AnnotatorEnsembleClassifier_predict_proba_b3 .skip (.seq (.bind 0 (.copy (.loc 1))) (.seq (.bind 0 (.fresh [])) (.seq (.mutate (.loc 0) []) .skip)))
def AnnotatorEnsembleClassifier_predict_proba_b5 : Prog :=
  .seq (.bind 1 (.fresh [])) AnnotatorEnsembleClassifier_predict_proba_b4
def AnnotatorEnsembleClassifier_predict_proba_b6 : Prog :=
  .ite AnnotatorEnsembleClassifier_predict_proba_b5 .skip .skip
def AnnotatorEnsembleClassifier_predict_proba_b7 : Prog :=
  .ite AnnotatorEnsembleClassifier_predict_proba_b2 AnnotatorEnsembleClassifier_predict_proba_b6 .skip
def AnnotatorEnsembleClassifier_predict_proba_b8 : Prog :=
  .ite AnnotatorEnsembleClassifier_predict_proba_b0 AnnotatorEnsembleClassifier_predict_proba_b7 .skip
def AnnotatorEnsembleClassifier_predict_proba_b9 : Prog :=
  .seq (.bind 1 (.fresh [])) (.seq (.bind 0 (.fresh [])) (.seq (.readAttr 12) (.seq (.readAttr 8) AnnotatorEnsembleClassifier_predict_proba_b8)))
def summary_AnnotatorEnsembleClassifier_predict_proba : Summary :=
  { params := [0, 1, 2, 3, 4, 5], closedAttrs := [12, 9, 7, 8], safeAttrs := [10], body := AnnotatorEnsembleClassifier_predict_proba_b9 }
theorem effects_AnnotatorEnsembleClassifier_predict_proba : FrameOK summary_AnnotatorEnsembleClassifier_predict_proba = true := by decide +kernel
theorem pure_AnnotatorEnsembleClassifier_predict_proba : pureReader summary_AnnotatorEnsembleClassifier_predict_proba.body = true := by decide +kernel

-- AnnotatorEnsembleClassifier.predict: locals 0=P@predict_proba1 1=$comp4
def AnnotatorEnsembleClassifier_predict_b0 : Prog :=
  .seq (.readAttr 6) .skip
def AnnotatorEnsembleClassifier_predict_b1 : Prog :=
  .seq (.readAttr 7) .skip
def AnnotatorEnsembleClassifier_predict_b2 : Prog :=
  .ite AnnotatorEnsembleClassifier_predict_b1 .skip (.seq (.readAttr 6) (.seq (.bind 0 (.fresh [])) .skip))
def AnnotatorEnsembleClassifier_predict_b3 : Prog :=
  .seq (.readAttr 7) (.seq (.bind 1 (.fresh [])) .skip)
def AnnotatorEnsembleClassifier_predict_b4 : Prog :=
  .ite AnnotatorEnsembleClassifier_predict_b3 .skip (.seq (.bind 0 (.copy (.loc 1))) (.seq (.bind 0 (.fresh [])) (.seq (.mutate (.loc 0) []) .skip)))
def AnnotatorEnsembleClassifier_predict_b5 : Prog :=
  .seq (.bind 1 (.fresh [])) AnnotatorEnsembleClassifier_predict_b4
def AnnotatorEnsembleClassifier_predict_b6 : Prog :=
  .ite AnnotatorEnsembleClassifier_predict_b5 .skip .skip
def AnnotatorEnsembleClassifier_predict_b7 : Prog :=
  .ite AnnotatorEnsembleClassifier_predict_b2 AnnotatorEnsembleClassifier_predict_b6 .skip
def AnnotatorEnsembleClassifier_predict_b8 : Prog :=
  .ite AnnotatorEnsembleClassifier_predict_b0 AnnotatorEnsembleClassifier_predict_b7 (.seq (.readAttr 9) (.seq (.readAttr 11) (.seq (.readAttr 10) (.seq (.readAttr 6) .skip))))
def AnnotatorEnsembleClassifier_predict_b9 : Prog :=
  .seq (.bind 1 (.fresh [])) (.seq (.bind 0 (.fresh [])) (.seq (.readAttr 12) (.seq (.readAttr 8) AnnotatorEnsembleClassifier_predict_b8)))
def summary_AnnotatorEnsembleClassifier_predict : Summary :=
  { params := [0, 1, 2, 3, 4, 5], closedAttrs := [12, 9, 7, 8], safeAttrs := [10], body := AnnotatorEnsembleClassifier_predict_b9 }
theorem effects_AnnotatorEnsembleClassifier_predict : FrameOK summary_AnnotatorEnsembleClassifier_predict = true := by decide +kernel
theorem pure_AnnotatorEnsembleClassifier_predict : pureReader summary_AnnotatorEnsembleClassifier_predict.body = true := by decide +kernel

/-! ### NICKernelRegressor  (skactiveml/regressor/_nic_kernel_regressor.py)
attributes: 0=metric 1=metric_dict 2=mu_0 3=kappa_0 4=sigma_sq_0 5=nu_0 6=missing_label 7=random_state 8=metric_dict_ 9=weights_ 10=prior_params_ 11=y_ 12=X_ 13=missing_label_ 14=n_features_in_ 15=random_state_
keys: 0=* 1=0 -/
-- NICKernelRegressor.fit: locals 0=$c8 1=sample_weight 2=y 3=X 4=$ret4 5=$ret3 6=$ret2 7=sample_weight@_validate_data1 8=y@_validate_data1 9=X@_validate_data1 10=check_X_dict@_validate_data1 11=$ret5 12=random_state@check_random_state2
def NICKernelRegressor_fit_b0 : Prog :=
  .seq (.bind 0 (.fresh [])) .skip
def NICKernelRegressor_fit_b1 : Prog :=
  .seq (.bind 0 (.copy (.attr 1))) .skip
def NICKernelRegressor_fit_b2 : Prog :=
  .ite NICKernelRegressor_fit_b0 NICKernelRegressor_fit_b1 (.seq (.writeAttr 8 (.alias (.loc 0))) .skip)
def NICKernelRegressor_fit_b3 : Prog :=
  .ite .abort .skip .skip
def NICKernelRegressor_fit_b4 : Prog :=
  .seq (.writeAttr 9 (.alias (.sub (.loc 1) 0))) (.seq (.readAttr 9) NICKernelRegressor_fit_b3)
def NICKernelRegressor_fit_b5 : Prog :=
  .seq (.writeAttr 9 (.fresh [])) .skip
def NICKernelRegressor_fit_b6 : Prog :=
  .ite NICKernelRegressor_fit_b4 NICKernelRegressor_fit_b5 NICKernelRegressor_fit_b2
def NICKernelRegressor_fit_b7 : Prog :=
  .seq (.bind 6 (.alias (.loc 9))) (.seq (.bind 5 (.alias (.loc 8))) (.seq (.bind 4 (.alias (.loc 7))) (.seq (.bind 3 (.alias (.loc 6))) (.seq (.bind 2 (.alias (.loc 5))) (.seq (.bind 1 (.alias (.loc 4))) (.seq (.readAttr 13) (.seq (.writeAttr 12 (.alias (.sub (.loc 3) 0))) (.seq (.writeAttr 11 (.copy (.sub (.loc 2) 0))) (.seq (.writeAttr 10 (.fresh [(.attr 3), (.attr 5), (.attr 2), (.attr 4)])) NICKernelRegressor_fit_b6)))))))))
def NICKernelRegressor_fit_b8 : Prog :=
  .seq (.writeAttr 14 (.fresh [])) .skip
def NICKernelRegressor_fit_b9 : Prog :=
  .seq (.readAttr 14) .skip
def NICKernelRegressor_fit_b10 : Prog :=
  .ite NICKernelRegressor_fit_b8 NICKernelRegressor_fit_b9 NICKernelRegressor_fit_b7
def NICKernelRegressor_fit_b11 : Prog :=
  .ite .abort .skip .skip
def NICKernelRegressor_fit_b12 : Prog :=
  .seq (.bind 7 (.alias (.loc 7))) NICKernelRegressor_fit_b11
def NICKernelRegressor_fit_b13 : Prog :=
  .ite NICKernelRegressor_fit_b12 .skip (.seq (.bind 9 (.alias (.loc 9))) NICKernelRegressor_fit_b10)
def NICKernelRegressor_fit_b14 : Prog :=
  .seq (.bind 8 (.alias (.loc 8))) .skip
def NICKernelRegressor_fit_b15 : Prog :=
  .seq (.mutate (.loc 10) []) .skip
def NICKernelRegressor_fit_b16 : Prog :=
  .ite NICKernelRegressor_fit_b14 NICKernelRegressor_fit_b15 NICKernelRegressor_fit_b13
def NICKernelRegressor_fit_b17 : Prog :=
  .seq (.bind 9 (.alias (.loc 3))) (.seq (.bind 8 (.alias (.loc 2))) (.seq (.bind 7 (.alias (.loc 1))) (.seq (.bind 10 (.fresh [])) (.seq (.bind 10 (.fresh [])) (.seq (.writeAttr 13 (.alias (.attr 6))) (.seq (.bind 12 (.alias (.attr 7))) (.seq (.bind 11 (.alias (.loc 12))) (.seq (.writeAttr 15 (.alias (.loc 11))) (.seq (.bind 8 (.alias (.loc 8))) NICKernelRegressor_fit_b16)))))))))
def NICKernelRegressor_fit_b18 : Prog :=
  .seq (.bind 0 (.fresh [])) (.seq (.bind 6 (.fresh [])) (.seq (.bind 5 (.fresh [])) (.seq (.bind 4 (.fresh [])) (.seq (.bind 11 (.fresh [])) (.seq (.bind 9 (.fresh [])) (.seq (.bind 10 (.fresh [])) (.seq (.bind 12 (.fresh [])) (.seq (.bind 7 (.fresh [])) (.seq (.bind 8 (.fresh [])) NICKernelRegressor_fit_b17)))))))))
def summary_NICKernelRegressor_fit : Summary :=
  { params := [0, 1, 2, 3, 4, 5, 6, 7], closedAttrs := [14], safeAttrs := [8, 10, 11], body := NICKernelRegressor_fit_b18 }
theorem effects_NICKernelRegressor_fit : FrameOK summary_NICKernelRegressor_fit = true := by decide +kernel
-- lead: read-before-write n_features_in_  skactiveml/base.py:1498  check_n_features(self, X, reset=reset)
-- lead: conditional-write n_features_in_  skactiveml/base.py:1498  check_n_features(self, X, reset=reset)
theorem fit_NICKernelRegressor_historyFree : HistoryFree summary_NICKernelRegressor_fit = false := by decide +kernel

-- NICKernelRegressor.predict_target_distribution: locals 
def NICKernelRegressor_predict_target_distribution_b0 : Prog :=
  .seq (.readAttr 9) .skip
def NICKernelRegressor_predict_target_distribution_b1 : Prog :=
  .ite NICKernelRegressor_predict_target_distribution_b0 .skip (.seq (.readAttr 11) (.seq (.readAttr 11) .skip))
def NICKernelRegressor_predict_target_distribution_b2 : Prog :=
  .seq (.readAttr 12) (.seq (.readAttr 8) (.seq (.readAttr 9) NICKernelRegressor_predict_target_distribution_b1))
def NICKernelRegressor_predict_target_distribution_b3 : Prog :=
  .ite NICKernelRegressor_predict_target_distribution_b2 .skip .skip
def NICKernelRegressor_predict_target_distribution_b4 : Prog :=
  .seq (.readAttr 14) (.seq (.readAttr 10) (.seq (.readAttr 12) NICKernelRegressor_predict_target_distribution_b3))
def summary_NICKernelRegressor_predict_target_distribution : Summary :=
  { params := [0, 1, 2, 3, 4, 5, 6, 7], closedAttrs := [14], safeAttrs := [8, 10, 11], body := NICKernelRegressor_predict_target_distribution_b4 }
theorem effects_NICKernelRegressor_predict_target_distribution : FrameOK summary_NICKernelRegressor_predict_target_distribution = true := by decide +kernel
theorem pure_NICKernelRegressor_predict_target_distribution : pureReader summary_NICKernelRegressor_predict_target_distribution.body = true := by decide +kernel

-- NICKernelRegressor.predict: locals 0=result 1=rv 2=$ret1 3=df@predict_target_distribution1 4=loc@predict_target_distribution1 5=scale@predict_target_distribution1 6=mu_post@predict_target_distribution1 7=nu_post@predict_target_distribution1 8=$ret10 9=$ret9 10=mu_com@_combine_params4 11=nu_com@_combine_params4
def NICKernelRegressor_predict_b0 : Prog :=
  .seq (.bind 0 (.alias (.sub (.loc 0) 1))) .skip
def NICKernelRegressor_predict_b1 : Prog :=
  .ite NICKernelRegressor_predict_b0 .skip .skip
def NICKernelRegressor_predict_b2 : Prog :=
  .seq (.mutate (.loc 0) [(.loc 1)]) .skip
def NICKernelRegressor_predict_b3 : Prog :=
  .ite NICKernelRegressor_predict_b2 .skip NICKernelRegressor_predict_b1
def NICKernelRegressor_predict_b4 : Prog :=
  .seq (.mutate (.loc 0) []) .skip
def NICKernelRegressor_predict_b5 : Prog :=
  .ite NICKernelRegressor_predict_b4 .skip NICKernelRegressor_predict_b3
def NICKernelRegressor_predict_b6 : Prog :=
  .seq (.bind 9 (.alias (.loc 11))) (.seq (.bind 8 (.alias (.loc 10))) (.seq (.bind 7 (.alias (.loc 9))) (.seq (.bind 6 (.alias (.loc 8))) (.seq (.bind 3 (.alias (.loc 7))) (.seq (.bind 4 (.alias (.loc 6))) (.seq (.bind 5 (.fresh [])) (.seq (.bind 2 (.fresh [(.loc 3), (.loc 4), (.loc 5)])) (.seq (.bind 1 (.alias (.loc 2))) (.seq (.bind 0 (.fresh [])) NICKernelRegressor_predict_b5)))))))))
def NICKernelRegressor_predict_b7 : Prog :=
  .seq (.readAttr 9) .skip
def NICKernelRegressor_predict_b8 : Prog :=
  .ite NICKernelRegressor_predict_b7 .skip (.seq (.readAttr 11) (.seq (.readAttr 11) .skip))
def NICKernelRegressor_predict_b9 : Prog :=
  .seq (.readAttr 12) (.seq (.readAttr 8) (.seq (.readAttr 9) NICKernelRegressor_predict_b8))
def NICKernelRegressor_predict_b10 : Prog :=
  .ite NICKernelRegressor_predict_b9 .skip (.seq (.bind 11 (.fresh [])) (.seq (.bind 10 (.fresh [])) NICKernelRegressor_predict_b6))
def NICKernelRegressor_predict_b11 : Prog :=
  .seq (.bind 10 (.fresh [])) (.seq (.bind 6 (.fresh [])) (.seq (.bind 11 (.fresh [])) (.seq (.bind 7 (.fresh [])) (.seq (.bind 0 (.fresh [])) (.seq (.bind 1 (.fresh [])) (.seq (.bind 5 (.fresh [])) (.seq (.readAttr 14) (.seq (.readAttr 10) (.seq (.readAttr 12) NICKernelRegressor_predict_b10)))))))))
def NICKernelRegressor_predict_b12 : Prog :=
  .seq (.bind 2 (.fresh [])) (.seq (.bind 8 (.fresh [])) (.seq (.bind 9 (.fresh [])) (.seq (.bind 3 (.fresh [])) (.seq (.bind 4 (.fresh [])) NICKernelRegressor_predict_b11))))
def summary_NICKernelRegressor_predict : Summary :=
  { params := [0, 1, 2, 3, 4, 5, 6, 7], closedAttrs := [14], safeAttrs := [8, 10, 11], body := NICKernelRegressor_predict_b12 }
theorem effects_NICKernelRegressor_predict : FrameOK summary_NICKernelRegressor_predict = true := by decide +kernel
theorem pure_NICKernelRegressor_predict : pureReader summary_NICKernelRegressor_predict.body = true := by decide +kernel

-- NICKernelRegressor.sample_y: locals 
def NICKernelRegressor_sample_y_b0 : Prog :=
  .seq (.readAttr 9) .skip
def NICKernelRegressor_sample_y_b1 : Prog :=
  .ite NICKernelRegressor_sample_y_b0 .skip (.seq (.readAttr 11) (.seq (.readAttr 11) .skip))
def NICKernelRegressor_sample_y_b2 : Prog :=
  .seq (.readAttr 12) (.seq (.readAttr 8) (.seq (.readAttr 9) NICKernelRegressor_sample_y_b1))
def NICKernelRegressor_sample_y_b3 : Prog :=
  .ite NICKernelRegressor_sample_y_b2 .skip .skip
def NICKernelRegressor_sample_y_b4 : Prog :=
  .seq (.readAttr 14) (.seq (.readAttr 10) (.seq (.readAttr 12) NICKernelRegressor_sample_y_b3))
def summary_NICKernelRegressor_sample_y : Summary :=
  { params := [0, 1, 2, 3, 4, 5, 6, 7], closedAttrs := [14], safeAttrs := [8, 10, 11], body := NICKernelRegressor_sample_y_b4 }
theorem effects_NICKernelRegressor_sample_y : FrameOK summary_NICKernelRegressor_sample_y = true := by decide +kernel
theorem pure_NICKernelRegressor_sample_y : pureReader summary_NICKernelRegressor_sample_y.body = true := by decide +kernel

/-! ### NadarayaWatsonRegressor  (skactiveml/regressor/_nic_kernel_regressor.py)
attributes: 0=metric 1=metric_dict 2=missing_label 3=random_state 4=kappa_0 5=nu_0 6=mu_0 7=sigma_sq_0 8=metric_dict_ 9=weights_ 10=prior_params_ 11=y_ 12=X_ 13=missing_label_ 14=n_features_in_ 15=random_state_
keys: 0=* 1=0 -/
-- NadarayaWatsonRegressor.fit: locals 0=$c8 1=sample_weight 2=y 3=X 4=$ret4 5=$ret3 6=$ret2 7=sample_weight@_validate_data1 8=y@_validate_data1 9=X@_validate_data1 10=check_X_dict@_validate_data1 11=$ret5 12=random_state@check_random_state2
def NadarayaWatsonRegressor_fit_b0 : Prog :=
  .seq (.bind 0 (.fresh [])) .skip
def NadarayaWatsonRegressor_fit_b1 : Prog :=
  .seq (.bind 0 (.copy (.attr 1))) .skip
def NadarayaWatsonRegressor_fit_b2 : Prog :=
  .ite NadarayaWatsonRegressor_fit_b0 NadarayaWatsonRegressor_fit_b1 (.seq (.writeAttr 8 (.alias (.loc 0))) .skip)
def NadarayaWatsonRegressor_fit_b3 : Prog :=
  .ite .abort .skip .skip
def NadarayaWatsonRegressor_fit_b4 : Prog :=
  .seq (.writeAttr 9 (.alias (.sub (.loc 1) 0))) (.seq (.readAttr 9) NadarayaWatsonRegressor_fit_b3)
def NadarayaWatsonRegressor_fit_b5 : Prog :=
  .seq (.writeAttr 9 (.fresh [])) .skip
def NadarayaWatsonRegressor_fit_b6 : Prog :=
  .ite NadarayaWatsonRegressor_fit_b4 NadarayaWatsonRegressor_fit_b5 NadarayaWatsonRegressor_fit_b2
def NadarayaWatsonRegressor_fit_b7 : Prog :=
  .seq (.bind 6 (.alias (.loc 9))) (.seq (.bind 5 (.alias (.loc 8))) (.seq (.bind 4 (.alias (.loc 7))) (.seq (.bind 3 (.alias (.loc 6))) (.seq (.bind 2 (.alias (.loc 5))) (.seq (.bind 1 (.alias (.loc 4))) (.seq (.readAttr 13) (.seq (.writeAttr 12 (.alias (.sub (.loc 3) 0))) (.seq (.writeAttr 11 (.copy (.sub (.loc 2) 0))) (.seq (.writeAttr 10 (.fresh [(.attr 4), (.attr 5), (.attr 6), (.attr 7)])) NadarayaWatsonRegressor_fit_b6)))))))))
def NadarayaWatsonRegressor_fit_b8 : Prog :=
  .seq (.writeAttr 14 (.fresh [])) .skip
def NadarayaWatsonRegressor_fit_b9 : Prog :=
  .seq (.readAttr 14) .skip
def NadarayaWatsonRegressor_fit_b10 : Prog :=
  .ite NadarayaWatsonRegressor_fit_b8 NadarayaWatsonRegressor_fit_b9 NadarayaWatsonRegressor_fit_b7
def NadarayaWatsonRegressor_fit_b11 : Prog :=
  .ite .abort .skip .skip
def NadarayaWatsonRegressor_fit_b12 : Prog :=
  .seq (.bind 7 (.alias (.loc 7))) NadarayaWatsonRegressor_fit_b11
def NadarayaWatsonRegressor_fit_b13 : Prog :=
  .ite NadarayaWatsonRegressor_fit_b12 .skip (.seq (.bind 9 (.alias (.loc 9))) NadarayaWatsonRegressor_fit_b10)
def NadarayaWatsonRegressor_fit_b14 : Prog :=
  .seq (.bind 8 (.alias (.loc 8))) .skip
def NadarayaWatsonRegressor_fit_b15 : Prog :=
  .seq (.mutate (.loc 10) []) .skip
def NadarayaWatsonRegressor_fit_b16 : Prog :=
  .ite NadarayaWatsonRegressor_fit_b14 NadarayaWatsonRegressor_fit_b15 NadarayaWatsonRegressor_fit_b13
def NadarayaWatsonRegressor_fit_b17 : Prog :=
  .seq (.bind 9 (.alias (.loc 3))) (.seq (.bind 8 (.alias (.loc 2))) (.seq (.bind 7 (.alias (.loc 1))) (.seq (.bind 10 (.fresh [])) (.seq (.bind 10 (.fresh [])) (.seq (.writeAttr 13 (.alias (.attr 2))) (.seq (.bind 12 (.alias (.attr 3))) (.seq (.bind 11 (.alias (.loc 12))) (.seq (.writeAttr 15 (.alias (.loc 11))) (.seq (.bind 8 (.alias (.loc 8))) NadarayaWatsonRegressor_fit_b16)))))))))
def NadarayaWatsonRegressor_fit_b18 : Prog :=
  .seq (.bind 0 (.fresh [])) (.seq (.bind 6 (.fresh [])) (.seq (.bind 5 (.fresh [])) (.seq (.bind 4 (.fresh [])) (.seq (.bind 11 (.fresh [])) (.seq (.bind 9 (.fresh [])) (.seq (.bind 10 (.fresh [])) (.seq (.bind 12 (.fresh [])) (.seq (.bind 7 (.fresh [])) (.seq (.bind 8 (.fresh [])) NadarayaWatsonRegressor_fit_b17)))))))))
def summary_NadarayaWatsonRegressor_fit : Summary :=
  { params := [0, 1, 2, 3, 4, 5, 6, 7], closedAttrs := [14], safeAttrs := [8, 10, 11], body := NadarayaWatsonRegressor_fit_b18 }
theorem effects_NadarayaWatsonRegressor_fit : FrameOK summary_NadarayaWatsonRegressor_fit = true := by decide +kernel
-- lead: read-before-write n_features_in_  skactiveml/base.py:1498  check_n_features(self, X, reset=reset)
-- lead: conditional-write n_features_in_  skactiveml/base.py:1498  check_n_features(self, X, reset=reset)
theorem fit_NadarayaWatsonRegressor_historyFree : HistoryFree summary_NadarayaWatsonRegressor_fit = false := by decide +kernel

-- NadarayaWatsonRegressor.predict_target_distribution: locals 
def NadarayaWatsonRegressor_predict_target_distribution_b0 : Prog :=
  .seq (.readAttr 9) .skip
def NadarayaWatsonRegressor_predict_target_distribution_b1 : Prog :=
  .ite NadarayaWatsonRegressor_predict_target_distribution_b0 .skip (.seq (.readAttr 11) (.seq (.readAttr 11) .skip))
def NadarayaWatsonRegressor_predict_target_distribution_b2 : Prog :=
  .seq (.readAttr 12) (.seq (.readAttr 8) (.seq (.readAttr 9) NadarayaWatsonRegressor_predict_target_distribution_b1))
def NadarayaWatsonRegressor_predict_target_distribution_b3 : Prog :=
  .ite NadarayaWatsonRegressor_predict_target_distribution_b2 .skip .skip
def NadarayaWatsonRegressor_predict_target_distribution_b4 : Prog :=
  .seq (.readAttr 14) (.seq (.readAttr 10) (.seq (.readAttr 12) NadarayaWatsonRegressor_predict_target_distribution_b3))
def summary_NadarayaWatsonRegressor_predict_target_distribution : Summary :=
  { params := [0, 1, 2, 3, 4, 5, 6, 7], closedAttrs := [14], safeAttrs := [8, 10, 11], body := NadarayaWatsonRegressor_predict_target_distribution_b4 }
theorem effects_NadarayaWatsonRegressor_predict_target_distribution : FrameOK summary_NadarayaWatsonRegressor_predict_target_distribution = true := by decide +kernel
theorem pure_NadarayaWatsonRegressor_predict_target_distribution : pureReader summary_NadarayaWatsonRegressor_predict_target_distribution.body = true := by decide +kernel

-- NadarayaWatsonRegressor.predict: locals 0=result 1=rv 2=$ret1 3=df@predict_target_distribution1 4=loc@predict_target_distribution1 5=scale@predict_target_distribution1 6=mu_post@predict_target_distribution1 7=nu_post@predict_target_distribution1 8=$ret10 9=$ret9 10=mu_com@_combine_params4 11=nu_com@_combine_params4
def NadarayaWatsonRegressor_predict_b0 : Prog :=
  .seq (.bind 0 (.alias (.sub (.loc 0) 1))) .skip
def NadarayaWatsonRegressor_predict_b1 : Prog :=
  .ite NadarayaWatsonRegressor_predict_b0 .skip .skip
def NadarayaWatsonRegressor_predict_b2 : Prog :=
  .seq (.mutate (.loc 0) [(.loc 1)]) .skip
def NadarayaWatsonRegressor_predict_b3 : Prog :=
  .ite NadarayaWatsonRegressor_predict_b2 .skip NadarayaWatsonRegressor_predict_b1
def NadarayaWatsonRegressor_predict_b4 : Prog :=
  .seq (.mutate (.loc 0) []) .skip
def NadarayaWatsonRegressor_predict_b5 : Prog :=
  .ite NadarayaWatsonRegressor_predict_b4 .skip NadarayaWatsonRegressor_predict_b3
def NadarayaWatsonRegressor_predict_b6 : Prog :=
  .seq (.bind 9 (.alias (.loc 11))) (.seq (.bind 8 (.alias (.loc 10))) (.seq (.bind 7 (.alias (.loc 9))) (.seq (.bind 6 (.alias (.loc 8))) (.seq (.bind 3 (.alias (.loc 7))) (.seq (.bind 4 (.alias (.loc 6))) (.seq (.bind 5 (.fresh [])) (.seq (.bind 2 (.fresh [(.loc 3), (.loc 4), (.loc 5)])) (.seq (.bind 1 (.alias (.loc 2))) (.seq (.bind 0 (.fresh [])) NadarayaWatsonRegressor_predict_b5)))))))))
def NadarayaWatsonRegressor_predict_b7 : Prog :=
  .seq (.readAttr 9) .skip
def NadarayaWatsonRegressor_predict_b8 : Prog :=
  .ite NadarayaWatsonRegressor_predict_b7 .skip (.seq (.readAttr 11) (.seq (.readAttr 11) .skip))
def NadarayaWatsonRegressor_predict_b9 : Prog :=
  .seq (.readAttr 12) (.seq (.readAttr 8) (.seq (.readAttr 9) NadarayaWatsonRegressor_predict_b8))
def NadarayaWatsonRegressor_predict_b10 : Prog :=
  .ite NadarayaWatsonRegressor_predict_b9 .skip (.seq (.bind 11 (.fresh [])) (.seq (.bind 10 (.fresh [])) NadarayaWatsonRegressor_predict_b6))
def NadarayaWatsonRegressor_predict_b11 : Prog :=
  .seq (.bind 10 (.fresh [])) (.seq (.bind 6 (.fresh [])) (.seq (.bind 11 (.fresh [])) (.seq (.bind 7 (.fresh [])) (.seq (.bind 0 (.fresh [])) (.seq (.bind 1 (.fresh [])) (.seq (.bind 5 (.fresh [])) (.seq (.readAttr 14) (.seq (.readAttr 10) (.seq (.readAttr 12) NadarayaWatsonRegressor_predict_b10)))))))))
def NadarayaWatsonRegressor_predict_b12 : Prog :=
  .seq (.bind 2 (.fresh [])) (.seq (.bind 8 (.fresh [])) (.seq (.bind 9 (.fresh [])) (.seq (.bind 3 (.fresh [])) (.seq (.bind 4 (.fresh [])) NadarayaWatsonRegressor_predict_b11))))
def summary_NadarayaWatsonRegressor_predict : Summary :=
  { params := [0, 1, 2, 3, 4, 5, 6, 7], closedAttrs := [14], safeAttrs := [8, 10, 11], body := NadarayaWatsonRegressor_predict_b12 }
theorem effects_NadarayaWatsonRegressor_predict : FrameOK summary_NadarayaWatsonRegressor_predict = true := by decide +kernel
theorem pure_NadarayaWatsonRegressor_predict : pureReader summary_NadarayaWatsonRegressor_predict.body = true := by decide +kernel

-- NadarayaWatsonRegressor.sample_y: locals 
def NadarayaWatsonRegressor_sample_y_b0 : Prog :=
  .seq (.readAttr 9) .skip
def NadarayaWatsonRegressor_sample_y_b1 : Prog :=
  .ite NadarayaWatsonRegressor_sample_y_b0 .skip (.seq (.readAttr 11) (.seq (.readAttr 11) .skip))
def NadarayaWatsonRegressor_sample_y_b2 : Prog :=
  .seq (.readAttr 12) (.seq (.readAttr 8) (.seq (.readAttr 9) NadarayaWatsonRegressor_sample_y_b1))
def NadarayaWatsonRegressor_sample_y_b3 : Prog :=
  .ite NadarayaWatsonRegressor_sample_y_b2 .skip .skip
def NadarayaWatsonRegressor_sample_y_b4 : Prog :=
  .seq (.readAttr 14) (.seq (.readAttr 10) (.seq (.readAttr 12) NadarayaWatsonRegressor_sample_y_b3))
def summary_NadarayaWatsonRegressor_sample_y : Summary :=
  { params := [0, 1, 2, 3, 4, 5, 6, 7], closedAttrs := [14], safeAttrs := [8, 10, 11], body := NadarayaWatsonRegressor_sample_y_b4 }
theorem effects_NadarayaWatsonRegressor_sample_y : FrameOK summary_NadarayaWatsonRegressor_sample_y = true := by decide +kernel
theorem pure_NadarayaWatsonRegressor_sample_y : pureReader summary_NadarayaWatsonRegressor_sample_y.body = true := by decide +kernel

/-! ### SklearnRegressor  (skactiveml/regressor/_wrapper.py)
attributes: 0=estimator 1=missing_label 2=random_state 3=estimator_ 4=_label_std 5=_label_mean 6=missing_label_ 7=n_features_in_ 8=random_state_ 9=check_X_dict_
keys: 0=* -/
-- SklearnRegressor.fit: locals 0=$c9 1=y@_fit1 2=$c8 3=estimator_params@_fit1 4=sample_weight@_fit1 5=$c7 6=fit_kwargs@_fit1 7=$ret5 8=$ret4 9=sample_weight@_validate_data2 10=y@_validate_data2 11=check_X_dict@_validate_data2 12=$ret6 13=random_state@check_random_state3 14=fit_kwargs 15=sample_weight 16=y 17=$caller
def SklearnRegressor_fit_b0 : Prog :=
  .seq (.readAttr 3) .skip
def SklearnRegressor_fit_b1 : Prog :=
  .seq (.readAttr 3) .skip
def SklearnRegressor_fit_b2 : Prog :=
  .ite SklearnRegressor_fit_b1 .skip (.seq (.readAttr 5) (.seq (.readAttr 4) .skip))
def SklearnRegressor_fit_b3 : Prog :=
  .ite SklearnRegressor_fit_b0 SklearnRegressor_fit_b2 .skip
def SklearnRegressor_fit_b4 : Prog :=
  .seq (.bind 0 (.fresh [(.sub (.loc 1) 0)])) .skip
def SklearnRegressor_fit_b5 : Prog :=
  .seq (.bind 0 (.fresh [])) .skip
def SklearnRegressor_fit_b6 : Prog :=
  .ite SklearnRegressor_fit_b4 SklearnRegressor_fit_b5 (.seq (.writeAttr 4 (.alias (.loc 0))) (.seq (.writeAttr 3 (.deep (.attr 0))) SklearnRegressor_fit_b3))
def SklearnRegressor_fit_b7 : Prog :=
  .seq (.bind 2 (.fresh [])) .skip
def SklearnRegressor_fit_b8 : Prog :=
  .seq (.bind 2 (.fresh [])) .skip
def SklearnRegressor_fit_b9 : Prog :=
  .ite SklearnRegressor_fit_b7 SklearnRegressor_fit_b8 (.seq (.writeAttr 5 (.alias (.loc 2))) SklearnRegressor_fit_b6)
def SklearnRegressor_fit_b10 : Prog :=
  .seq (.mutate (.loc 3) [(.sub (.loc 4) 0)]) .skip
def SklearnRegressor_fit_b11 : Prog :=
  .ite SklearnRegressor_fit_b10 .skip SklearnRegressor_fit_b9
def SklearnRegressor_fit_b12 : Prog :=
  .seq (.bind 5 (.copy (.loc 6))) .skip
def SklearnRegressor_fit_b13 : Prog :=
  .seq (.bind 5 (.fresh [])) .skip
def SklearnRegressor_fit_b14 : Prog :=
  .ite SklearnRegressor_fit_b12 SklearnRegressor_fit_b13 (.seq (.bind 3 (.alias (.loc 5))) SklearnRegressor_fit_b11)
def SklearnRegressor_fit_b15 : Prog :=
  .ite .abort .skip .skip
def SklearnRegressor_fit_b16 : Prog :=
  .seq (.bind 9 (.alias (.loc 9))) SklearnRegressor_fit_b15
def SklearnRegressor_fit_b17 : Prog :=
  .ite SklearnRegressor_fit_b16 .skip (.seq (.writeAttr 7 (.fresh [])) (.seq (.bind 8 (.alias (.loc 10))) (.seq (.bind 7 (.alias (.loc 9))) (.seq (.bind 1 (.alias (.loc 8))) (.seq (.bind 4 (.alias (.loc 7))) (.seq (.readAttr 6) SklearnRegressor_fit_b14))))))
def SklearnRegressor_fit_b18 : Prog :=
  .seq (.bind 10 (.alias (.loc 10))) .skip
def SklearnRegressor_fit_b19 : Prog :=
  .seq (.mutate (.loc 11) []) .skip
def SklearnRegressor_fit_b20 : Prog :=
  .ite SklearnRegressor_fit_b18 SklearnRegressor_fit_b19 SklearnRegressor_fit_b17
def SklearnRegressor_fit_b21 : Prog :=
  .seq (.bind 11 (.fresh [])) .skip
def SklearnRegressor_fit_b22 : Prog :=
  .ite SklearnRegressor_fit_b21 .skip (.seq (.writeAttr 6 (.alias (.attr 1))) (.seq (.bind 13 (.alias (.attr 2))) (.seq (.bind 12 (.alias (.loc 13))) (.seq (.writeAttr 8 (.alias (.loc 12))) (.seq (.bind 10 (.alias (.loc 10))) SklearnRegressor_fit_b20)))))
def SklearnRegressor_fit_b23 : Prog :=
  .seq (.writeAttr 9 (.fresh [])) (.seq (.readAttr 9) (.seq (.bind 10 (.alias (.loc 1))) (.seq (.bind 9 (.alias (.loc 4))) (.seq (.bind 11 (.alias (.attr 9))) SklearnRegressor_fit_b22))))
def SklearnRegressor_fit_b24 : Prog :=
  .ite .abort SklearnRegressor_fit_b23 .skip
def SklearnRegressor_fit_b25 : Prog :=
  .seq (.bind 6 (.fresh [])) (.seq (.bind 13 (.fresh [])) (.seq (.bind 4 (.fresh [])) (.seq (.bind 9 (.fresh [])) (.seq (.bind 1 (.fresh [])) (.seq (.bind 10 (.fresh [])) (.seq (.bind 14 (.fresh [(.loc 17)])) (.seq (.bind 1 (.alias (.loc 16))) (.seq (.bind 4 (.alias (.loc 15))) (.seq (.bind 6 (.fresh [(.sub (.loc 14) 0)])) SklearnRegressor_fit_b24)))))))))
def SklearnRegressor_fit_b26 : Prog :=
  .seq (.bind 5 (.fresh [])) (.seq (.bind 2 (.fresh [])) (.seq (.bind 0 (.fresh [])) (.seq (.bind 8 (.fresh [])) (.seq (.bind 7 (.fresh [])) (.seq (.bind 12 (.fresh [])) (.seq (.bind 11 (.fresh [])) (.seq (.bind 3 (.fresh [])) SklearnRegressor_fit_b25)))))))
def summary_SklearnRegressor_fit : Summary :=
  { params := [0, 1, 2], closedAttrs := [5, 3], safeAttrs := [4, 9, 7], body := SklearnRegressor_fit_b26 }
theorem effects_SklearnRegressor_fit : FrameOK summary_SklearnRegressor_fit = true := by decide +kernel
theorem fit_SklearnRegressor_historyFree : HistoryFree summary_SklearnRegressor_fit = true := by decide +kernel

-- SklearnRegressor.partial_fit: locals 0=$c9 1=y@_fit1 2=$c8 3=estimator_params@_fit1 4=sample_weight@_fit1 5=$c7 6=fit_kwargs@_fit1 7=$ret5 8=$ret4 9=sample_weight@_validate_data2 10=y@_validate_data2 11=check_X_dict@_validate_data2 12=$ret6 13=random_state@check_random_state3 14=fit_kwargs 15=sample_weight 16=y 17=$caller
def SklearnRegressor_partial_fit_b0 : Prog :=
  .seq (.readAttr 3) .skip
def SklearnRegressor_partial_fit_b1 : Prog :=
  .seq (.readAttr 3) .skip
def SklearnRegressor_partial_fit_b2 : Prog :=
  .ite SklearnRegressor_partial_fit_b1 .skip (.seq (.readAttr 5) (.seq (.readAttr 4) .skip))
def SklearnRegressor_partial_fit_b3 : Prog :=
  .ite SklearnRegressor_partial_fit_b0 SklearnRegressor_partial_fit_b2 .skip
def SklearnRegressor_partial_fit_b4 : Prog :=
  .seq (.bind 0 (.fresh [(.sub (.loc 1) 0)])) .skip
def SklearnRegressor_partial_fit_b5 : Prog :=
  .seq (.bind 0 (.fresh [])) .skip
def SklearnRegressor_partial_fit_b6 : Prog :=
  .ite SklearnRegressor_partial_fit_b4 SklearnRegressor_partial_fit_b5 (.seq (.writeAttr 4 (.alias (.loc 0))) (.seq (.writeAttr 3 (.deep (.attr 0))) SklearnRegressor_partial_fit_b3))
def SklearnRegressor_partial_fit_b7 : Prog :=
  .seq (.bind 2 (.fresh [])) .skip
def SklearnRegressor_partial_fit_b8 : Prog :=
  .seq (.bind 2 (.fresh [])) .skip
def SklearnRegressor_partial_fit_b9 : Prog :=
  .ite SklearnRegressor_partial_fit_b7 SklearnRegressor_partial_fit_b8 (.seq (.writeAttr 5 (.alias (.loc 2))) SklearnRegressor_partial_fit_b6)
def SklearnRegressor_partial_fit_b10 : Prog :=
  .seq (.mutate (.loc 3) [(.sub (.loc 4) 0)]) .skip
def SklearnRegressor_partial_fit_b11 : Prog :=
  .ite SklearnRegressor_partial_fit_b10 .skip SklearnRegressor_partial_fit_b9
def SklearnRegressor_partial_fit_b12 : Prog :=
  .seq (.bind 5 (.copy (.loc 6))) .skip
def SklearnRegressor_partial_fit_b13 : Prog :=
  .seq (.bind 5 (.fresh [])) .skip
def SklearnRegressor_partial_fit_b14 : Prog :=
  .ite SklearnRegressor_partial_fit_b12 SklearnRegressor_partial_fit_b13 (.seq (.bind 3 (.alias (.loc 5))) SklearnRegressor_partial_fit_b11)
def SklearnRegressor_partial_fit_b15 : Prog :=
  .seq (.writeAttr 7 (.fresh [])) .skip
def SklearnRegressor_partial_fit_b16 : Prog :=
  .seq (.readAttr 7) .skip
def SklearnRegressor_partial_fit_b17 : Prog :=
  .ite SklearnRegressor_partial_fit_b15 SklearnRegressor_partial_fit_b16 (.seq (.bind 8 (.alias (.loc 10))) (.seq (.bind 7 (.alias (.loc 9))) (.seq (.bind 1 (.alias (.loc 8))) (.seq (.bind 4 (.alias (.loc 7))) (.seq (.readAttr 6) SklearnRegressor_partial_fit_b14)))))
def SklearnRegressor_partial_fit_b18 : Prog :=
  .ite .abort .skip .skip
def SklearnRegressor_partial_fit_b19 : Prog :=
  .seq (.bind 9 (.alias (.loc 9))) SklearnRegressor_partial_fit_b18
def SklearnRegressor_partial_fit_b20 : Prog :=
  .ite SklearnRegressor_partial_fit_b19 .skip SklearnRegressor_partial_fit_b17
def SklearnRegressor_partial_fit_b21 : Prog :=
  .seq (.bind 10 (.alias (.loc 10))) .skip
def SklearnRegressor_partial_fit_b22 : Prog :=
  .seq (.mutate (.loc 11) []) .skip
def SklearnRegressor_partial_fit_b23 : Prog :=
  .ite SklearnRegressor_partial_fit_b21 SklearnRegressor_partial_fit_b22 SklearnRegressor_partial_fit_b20
def SklearnRegressor_partial_fit_b24 : Prog :=
  .seq (.bind 11 (.fresh [])) .skip
def SklearnRegressor_partial_fit_b25 : Prog :=
  .ite SklearnRegressor_partial_fit_b24 .skip (.seq (.writeAttr 6 (.alias (.attr 1))) (.seq (.bind 13 (.alias (.attr 2))) (.seq (.bind 12 (.alias (.loc 13))) (.seq (.writeAttr 8 (.alias (.loc 12))) (.seq (.bind 10 (.alias (.loc 10))) SklearnRegressor_partial_fit_b23)))))
def SklearnRegressor_partial_fit_b26 : Prog :=
  .seq (.writeAttr 9 (.fresh [])) (.seq (.readAttr 9) (.seq (.readAttr 7) (.seq (.bind 10 (.alias (.loc 1))) (.seq (.bind 9 (.alias (.loc 4))) (.seq (.bind 11 (.alias (.attr 9))) SklearnRegressor_partial_fit_b25)))))
def SklearnRegressor_partial_fit_b27 : Prog :=
  .ite .abort SklearnRegressor_partial_fit_b26 .skip
def SklearnRegressor_partial_fit_b28 : Prog :=
  .seq (.bind 6 (.fresh [])) (.seq (.bind 13 (.fresh [])) (.seq (.bind 4 (.fresh [])) (.seq (.bind 9 (.fresh [])) (.seq (.bind 1 (.fresh [])) (.seq (.bind 10 (.fresh [])) (.seq (.bind 14 (.fresh [(.loc 17)])) (.seq (.bind 1 (.alias (.loc 16))) (.seq (.bind 4 (.alias (.loc 15))) (.seq (.bind 6 (.fresh [(.sub (.loc 14) 0)])) SklearnRegressor_partial_fit_b27)))))))))
def SklearnRegressor_partial_fit_b29 : Prog :=
  .seq (.bind 5 (.fresh [])) (.seq (.bind 2 (.fresh [])) (.seq (.bind 0 (.fresh [])) (.seq (.bind 8 (.fresh [])) (.seq (.bind 7 (.fresh [])) (.seq (.bind 12 (.fresh [])) (.seq (.bind 11 (.fresh [])) (.seq (.bind 3 (.fresh [])) SklearnRegressor_partial_fit_b28)))))))
def summary_SklearnRegressor_partial_fit : Summary :=
  { params := [0, 1, 2], closedAttrs := [5, 3], safeAttrs := [4, 9, 7], body := SklearnRegressor_partial_fit_b29 }
theorem effects_SklearnRegressor_partial_fit : FrameOK summary_SklearnRegressor_partial_fit = true := by decide +kernel

-- SklearnRegressor.predict: locals 0=predict_kwargs 1=$caller
def SklearnRegressor_predict_b0 : Prog :=
  .seq (.readAttr 3) .skip
def SklearnRegressor_predict_b1 : Prog :=
  .seq (.readAttr 5) (.seq (.readAttr 4) .skip)
def SklearnRegressor_predict_b2 : Prog :=
  .seq (.readAttr 5) .skip
def SklearnRegressor_predict_b3 : Prog :=
  .ite SklearnRegressor_predict_b1 SklearnRegressor_predict_b2 .skip
def SklearnRegressor_predict_b4 : Prog :=
  .seq (.readAttr 3) .skip
def SklearnRegressor_predict_b5 : Prog :=
  .ite SklearnRegressor_predict_b4 .skip (.seq (.readAttr 5) (.seq (.readAttr 4) (.seq (.mutate (.loc 0) []) SklearnRegressor_predict_b3)))
def SklearnRegressor_predict_b6 : Prog :=
  .ite SklearnRegressor_predict_b0 SklearnRegressor_predict_b5 .skip
def SklearnRegressor_predict_b7 : Prog :=
  .seq (.bind 0 (.fresh [(.loc 1)])) (.seq (.readAttr 9) (.seq (.readAttr 7) SklearnRegressor_predict_b6))
def summary_SklearnRegressor_predict : Summary :=
  { params := [0, 1, 2], closedAttrs := [5, 3], safeAttrs := [4, 9, 7], body := SklearnRegressor_predict_b7 }
theorem effects_SklearnRegressor_predict : FrameOK summary_SklearnRegressor_predict = true := by decide +kernel
theorem pure_SklearnRegressor_predict : pureReader summary_SklearnRegressor_predict.body = true := by decide +kernel

-- SklearnRegressor.sample_y: locals 0=y_samples@_sample1 1=random_state@_sample1 2=n_samples@_sample1 3=sample_kwargs@_sample1 4=sample_kwargs 5=n_samples 6=$caller
def SklearnRegressor_sample_y_b0 : Prog :=
  .seq (.readAttr 3) .skip
def SklearnRegressor_sample_y_b1 : Prog :=
  .seq (.readAttr 3) .skip
def SklearnRegressor_sample_y_b2 : Prog :=
  .ite SklearnRegressor_sample_y_b1 .skip (.seq (.readAttr 5) (.seq (.readAttr 4) (.seq (.bind 1 (.alias (.sub (.loc 3) 0))) (.seq (.bind 1 (.fresh [(.loc 1)])) (.seq (.bind 0 (.fresh [(.loc 1), (.loc 2)])) (.seq (.readAttr 4) (.seq (.mutate (.loc 0) [(.attr 4)]) (.seq (.readAttr 5) (.seq (.mutate (.loc 0) [(.attr 5)]) .skip)))))))))
def SklearnRegressor_sample_y_b3 : Prog :=
  .ite SklearnRegressor_sample_y_b0 SklearnRegressor_sample_y_b2 .skip
def SklearnRegressor_sample_y_b4 : Prog :=
  .seq (.bind 2 (.fresh [])) (.seq (.bind 1 (.fresh [])) (.seq (.bind 3 (.fresh [])) (.seq (.bind 0 (.fresh [])) (.seq (.bind 4 (.fresh [(.loc 6)])) (.seq (.bind 2 (.alias (.loc 5))) (.seq (.bind 3 (.fresh [(.sub (.loc 4) 0)])) (.seq (.readAttr 9) (.seq (.readAttr 7) SklearnRegressor_sample_y_b3))))))))
def summary_SklearnRegressor_sample_y : Summary :=
  { params := [0, 1, 2], closedAttrs := [5, 3], safeAttrs := [4, 9, 7], body := SklearnRegressor_sample_y_b4 }
theorem effects_SklearnRegressor_sample_y : FrameOK summary_SklearnRegressor_sample_y = true := by decide +kernel
theorem pure_SklearnRegressor_sample_y : pureReader summary_SklearnRegressor_sample_y.body = true := by decide +kernel

-- SklearnRegressor.sample: locals 0=y_samples@_sample1 1=random_state@_sample1 2=n_samples@_sample1 3=sample_kwargs@_sample1 4=sample_kwargs 5=n_samples 6=$caller
def SklearnRegressor_sample_b0 : Prog :=
  .seq (.readAttr 3) .skip
def SklearnRegressor_sample_b1 : Prog :=
  .seq (.readAttr 3) .skip
def SklearnRegressor_sample_b2 : Prog :=
  .ite SklearnRegressor_sample_b1 .skip (.seq (.readAttr 5) (.seq (.readAttr 4) (.seq (.bind 1 (.alias (.sub (.loc 3) 0))) (.seq (.bind 1 (.fresh [(.loc 1)])) (.seq (.bind 0 (.fresh [(.loc 1), (.loc 2)])) (.seq (.readAttr 4) (.seq (.mutate (.loc 0) [(.attr 4)]) (.seq (.readAttr 5) (.seq (.mutate (.loc 0) [(.attr 5)]) .skip)))))))))
def SklearnRegressor_sample_b3 : Prog :=
  .ite SklearnRegressor_sample_b0 SklearnRegressor_sample_b2 .skip
def SklearnRegressor_sample_b4 : Prog :=
  .seq (.bind 2 (.fresh [])) (.seq (.bind 1 (.fresh [])) (.seq (.bind 3 (.fresh [])) (.seq (.bind 0 (.fresh [])) (.seq (.bind 4 (.fresh [(.loc 6)])) (.seq (.bind 2 (.alias (.loc 5))) (.seq (.bind 3 (.fresh [(.sub (.loc 4) 0)])) (.seq (.readAttr 9) (.seq (.readAttr 7) SklearnRegressor_sample_b3))))))))
def summary_SklearnRegressor_sample : Summary :=
  { params := [0, 1, 2], closedAttrs := [5, 3], safeAttrs := [4, 9, 7], body := SklearnRegressor_sample_b4 }
theorem effects_SklearnRegressor_sample : FrameOK summary_SklearnRegressor_sample = true := by decide +kernel
theorem pure_SklearnRegressor_sample : pureReader summary_SklearnRegressor_sample.body = true := by decide +kernel

/-! ### SklearnNormalRegressor  (skactiveml/regressor/_wrapper.py)
attributes: 0=estimator 1=missing_label 2=random_state 3=estimator_ 4=_label_std 5=_label_mean 6=missing_label_ 7=n_features_in_ 8=random_state_ 9=check_X_dict_
keys: 0=* 1=0 -/
-- SklearnNormalRegressor.predict_target_distribution: locals 
def SklearnNormalRegressor_predict_target_distribution_b0 : Prog :=
  .ite .abort .skip .skip
def summary_SklearnNormalRegressor_predict_target_distribution : Summary :=
  { params := [0, 1, 2], closedAttrs := [], safeAttrs := [5, 4, 9, 3, 7], body := SklearnNormalRegressor_predict_target_distribution_b0 }
theorem effects_SklearnNormalRegressor_predict_target_distribution : FrameOK summary_SklearnNormalRegressor_predict_target_distribution = true := by decide +kernel
theorem pure_SklearnNormalRegressor_predict_target_distribution : pureReader summary_SklearnNormalRegressor_predict_target_distribution.body = true := by decide +kernel

-- SklearnNormalRegressor.predict: locals 0=result 1=rv 2=$ret1 3=loc@predict_target_distribution1 4=scale@predict_target_distribution1 5=$t2 6=X@predict_target_distribution1 7=X
def SklearnNormalRegressor_predict_b0 : Prog :=
  .seq (.bind 0 (.alias (.sub (.loc 0) 1))) .skip
def SklearnNormalRegressor_predict_b1 : Prog :=
  .ite SklearnNormalRegressor_predict_b0 .skip .skip
def SklearnNormalRegressor_predict_b2 : Prog :=
  .seq (.mutate (.loc 0) [(.loc 1)]) .skip
def SklearnNormalRegressor_predict_b3 : Prog :=
  .ite SklearnNormalRegressor_predict_b2 .skip SklearnNormalRegressor_predict_b1
def SklearnNormalRegressor_predict_b4 : Prog :=
  .seq (.mutate (.loc 0) []) .skip
def SklearnNormalRegressor_predict_b5 : Prog :=
  .ite SklearnNormalRegressor_predict_b4 .skip SklearnNormalRegressor_predict_b3
def SklearnNormalRegressor_predict_b6 : Prog :=
  .seq (.bind 5 (.fresh [(.loc 6)])) (.seq (.bind 3 (.alias (.sub (.loc 5) 0))) (.seq (.bind 4 (.alias (.sub (.loc 5) 0))) (.seq (.bind 4 (.fresh [(.loc 4)])) (.seq (.bind 2 (.fresh [(.loc 3), (.loc 4)])) .skip))))
def SklearnNormalRegressor_predict_b7 : Prog :=
  .ite .abort SklearnNormalRegressor_predict_b6 (.seq (.bind 1 (.alias (.loc 2))) (.seq (.bind 0 (.fresh [])) SklearnNormalRegressor_predict_b5))
def SklearnNormalRegressor_predict_b8 : Prog :=
  .seq (.bind 2 (.fresh [])) (.seq (.bind 5 (.fresh [])) (.seq (.bind 6 (.fresh [])) (.seq (.bind 3 (.fresh [])) (.seq (.bind 0 (.fresh [])) (.seq (.bind 1 (.fresh [])) (.seq (.bind 4 (.fresh [])) (.seq (.bind 6 (.alias (.loc 7))) SklearnNormalRegressor_predict_b7)))))))
def summary_SklearnNormalRegressor_predict : Summary :=
  { params := [0, 1, 2], closedAttrs := [], safeAttrs := [5, 4, 9, 3, 7], body := SklearnNormalRegressor_predict_b8 }
theorem effects_SklearnNormalRegressor_predict : FrameOK summary_SklearnNormalRegressor_predict = true := by decide +kernel
theorem pure_SklearnNormalRegressor_predict : pureReader summary_SklearnNormalRegressor_predict.body = true := by decide +kernel

-- SklearnNormalRegressor.sample_y: locals 
def SklearnNormalRegressor_sample_y_b0 : Prog :=
  .ite .abort .skip .skip
def summary_SklearnNormalRegressor_sample_y : Summary :=
  { params := [0, 1, 2], closedAttrs := [], safeAttrs := [5, 4, 9, 3, 7], body := SklearnNormalRegressor_sample_y_b0 }
theorem effects_SklearnNormalRegressor_sample_y : FrameOK summary_SklearnNormalRegressor_sample_y = true := by decide +kernel
theorem pure_SklearnNormalRegressor_sample_y : pureReader summary_SklearnNormalRegressor_sample_y.body = true := by decide +kernel

-- SklearnNormalRegressor.fit: locals 0=$c9 1=y@_fit1 2=$c8 3=estimator_params@_fit1 4=sample_weight@_fit1 5=$c7 6=fit_kwargs@_fit1 7=$ret5 8=$ret4 9=sample_weight@_validate_data2 10=y@_validate_data2 11=check_X_dict@_validate_data2 12=$ret6 13=random_state@check_random_state3 14=fit_kwargs 15=sample_weight 16=y 17=$caller
def SklearnNormalRegressor_fit_b0 : Prog :=
  .seq (.readAttr 3) .skip
def SklearnNormalRegressor_fit_b1 : Prog :=
  .seq (.readAttr 3) .skip
def SklearnNormalRegressor_fit_b2 : Prog :=
  .ite SklearnNormalRegressor_fit_b1 .skip (.seq (.readAttr 5) (.seq (.readAttr 4) .skip))
def SklearnNormalRegressor_fit_b3 : Prog :=
  .ite SklearnNormalRegressor_fit_b0 SklearnNormalRegressor_fit_b2 .skip
def SklearnNormalRegressor_fit_b4 : Prog :=
  .seq (.bind 0 (.fresh [(.sub (.loc 1) 0)])) .skip
def SklearnNormalRegressor_fit_b5 : Prog :=
  .seq (.bind 0 (.fresh [])) .skip
def SklearnNormalRegressor_fit_b6 : Prog :=
  .ite SklearnNormalRegressor_fit_b4 SklearnNormalRegressor_fit_b5 (.seq (.writeAttr 4 (.alias (.loc 0))) (.seq (.writeAttr 3 (.deep (.attr 0))) SklearnNormalRegressor_fit_b3))
def SklearnNormalRegressor_fit_b7 : Prog :=
  .seq (.bind 2 (.fresh [])) .skip
def SklearnNormalRegressor_fit_b8 : Prog :=
  .seq (.bind 2 (.fresh [])) .skip
def SklearnNormalRegressor_fit_b9 : Prog :=
  .ite SklearnNormalRegressor_fit_b7 SklearnNormalRegressor_fit_b8 (.seq (.writeAttr 5 (.alias (.loc 2))) SklearnNormalRegressor_fit_b6)
def SklearnNormalRegressor_fit_b10 : Prog :=
  .seq (.mutate (.loc 3) [(.sub (.loc 4) 0)]) .skip
def SklearnNormalRegressor_fit_b11 : Prog :=
  .ite SklearnNormalRegressor_fit_b10 .skip SklearnNormalRegressor_fit_b9
def SklearnNormalRegressor_fit_b12 : Prog :=
  .seq (.bind 5 (.copy (.loc 6))) .skip
def SklearnNormalRegressor_fit_b13 : Prog :=
  .seq (.bind 5 (.fresh [])) .skip
def SklearnNormalRegressor_fit_b14 : Prog :=
  .ite SklearnNormalRegressor_fit_b12 SklearnNormalRegressor_fit_b13 (.seq (.bind 3 (.alias (.loc 5))) SklearnNormalRegressor_fit_b11)
def SklearnNormalRegressor_fit_b15 : Prog :=
  .ite .abort .skip .skip
def SklearnNormalRegressor_fit_b16 : Prog :=
  .seq (.bind 9 (.alias (.loc 9))) SklearnNormalRegressor_fit_b15
def SklearnNormalRegressor_fit_b17 : Prog :=
  .ite SklearnNormalRegressor_fit_b16 .skip (.seq (.writeAttr 7 (.fresh [])) (.seq (.bind 8 (.alias (.loc 10))) (.seq (.bind 7 (.alias (.loc 9))) (.seq (.bind 1 (.alias (.loc 8))) (.seq (.bind 4 (.alias (.loc 7))) (.seq (.readAttr 6) SklearnNormalRegressor_fit_b14))))))
def SklearnNormalRegressor_fit_b18 : Prog :=
  .seq (.bind 10 (.alias (.loc 10))) .skip
def SklearnNormalRegressor_fit_b19 : Prog :=
  .seq (.mutate (.loc 11) []) .skip
def SklearnNormalRegressor_fit_b20 : Prog :=
  .ite SklearnNormalRegressor_fit_b18 SklearnNormalRegressor_fit_b19 SklearnNormalRegressor_fit_b17
def SklearnNormalRegressor_fit_b21 : Prog :=
  .seq (.bind 11 (.fresh [])) .skip
def SklearnNormalRegressor_fit_b22 : Prog :=
  .ite SklearnNormalRegressor_fit_b21 .skip (.seq (.writeAttr 6 (.alias (.attr 1))) (.seq (.bind 13 (.alias (.attr 2))) (.seq (.bind 12 (.alias (.loc 13))) (.seq (.writeAttr 8 (.alias (.loc 12))) (.seq (.bind 10 (.alias (.loc 10))) SklearnNormalRegressor_fit_b20)))))
def SklearnNormalRegressor_fit_b23 : Prog :=
  .seq (.writeAttr 9 (.fresh [])) (.seq (.readAttr 9) (.seq (.bind 10 (.alias (.loc 1))) (.seq (.bind 9 (.alias (.loc 4))) (.seq (.bind 11 (.alias (.attr 9))) SklearnNormalRegressor_fit_b22))))
def SklearnNormalRegressor_fit_b24 : Prog :=
  .ite .abort SklearnNormalRegressor_fit_b23 .skip
def SklearnNormalRegressor_fit_b25 : Prog :=
  .seq (.bind 6 (.fresh [])) (.seq (.bind 13 (.fresh [])) (.seq (.bind 4 (.fresh [])) (.seq (.bind 9 (.fresh [])) (.seq (.bind 1 (.fresh [])) (.seq (.bind 10 (.fresh [])) (.seq (.bind 14 (.fresh [(.loc 17)])) (.seq (.bind 1 (.alias (.loc 16))) (.seq (.bind 4 (.alias (.loc 15))) (.seq (.bind 6 (.fresh [(.sub (.loc 14) 0)])) SklearnNormalRegressor_fit_b24)))))))))
def SklearnNormalRegressor_fit_b26 : Prog :=
  .seq (.bind 5 (.fresh [])) (.seq (.bind 2 (.fresh [])) (.seq (.bind 0 (.fresh [])) (.seq (.bind 8 (.fresh [])) (.seq (.bind 7 (.fresh [])) (.seq (.bind 12 (.fresh [])) (.seq (.bind 11 (.fresh [])) (.seq (.bind 3 (.fresh [])) SklearnNormalRegressor_fit_b25)))))))
def summary_SklearnNormalRegressor_fit : Summary :=
  { params := [0, 1, 2], closedAttrs := [], safeAttrs := [5, 4, 9, 3, 7], body := SklearnNormalRegressor_fit_b26 }
theorem effects_SklearnNormalRegressor_fit : FrameOK summary_SklearnNormalRegressor_fit = true := by decide +kernel
theorem fit_SklearnNormalRegressor_historyFree : HistoryFree summary_SklearnNormalRegressor_fit = true := by decide +kernel

-- SklearnNormalRegressor.partial_fit: locals 0=$c9 1=y@_fit1 2=$c8 3=estimator_params@_fit1 4=sample_weight@_fit1 5=$c7 6=fit_kwargs@_fit1 7=$ret5 8=$ret4 9=sample_weight@_validate_data2 10=y@_validate_data2 11=check_X_dict@_validate_data2 12=$ret6 13=random_state@check_random_state3 14=fit_kwargs 15=sample_weight 16=y 17=$caller
def SklearnNormalRegressor_partial_fit_b0 : Prog :=
  .seq (.readAttr 3) .skip
def SklearnNormalRegressor_partial_fit_b1 : Prog :=
  .seq (.readAttr 3) .skip
def SklearnNormalRegressor_partial_fit_b2 : Prog :=
  .ite SklearnNormalRegressor_partial_fit_b1 .skip (.seq (.readAttr 5) (.seq (.readAttr 4) .skip))
def SklearnNormalRegressor_partial_fit_b3 : Prog :=
  .ite SklearnNormalRegressor_partial_fit_b0 SklearnNormalRegressor_partial_fit_b2 .skip
def SklearnNormalRegressor_partial_fit_b4 : Prog :=
  .seq (.bind 0 (.fresh [(.sub (.loc 1) 0)])) .skip
def SklearnNormalRegressor_partial_fit_b5 : Prog :=
  .seq (.bind 0 (.fresh [])) .skip
def SklearnNormalRegressor_partial_fit_b6 : Prog :=
  .ite SklearnNormalRegressor_partial_fit_b4 SklearnNormalRegressor_partial_fit_b5 (.seq (.writeAttr 4 (.alias (.loc 0))) (.seq (.writeAttr 3 (.deep (.attr 0))) SklearnNormalRegressor_partial_fit_b3))
def SklearnNormalRegressor_partial_fit_b7 : Prog :=
  .seq (.bind 2 (.fresh [])) .skip
def SklearnNormalRegressor_partial_fit_b8 : Prog :=
  .seq (.bind 2 (.fresh [])) .skip
def SklearnNormalRegressor_partial_fit_b9 : Prog :=
  .ite SklearnNormalRegressor_partial_fit_b7 SklearnNormalRegressor_partial_fit_b8 (.seq (.writeAttr 5 (.alias (.loc 2))) SklearnNormalRegressor_partial_fit_b6)
def SklearnNormalRegressor_partial_fit_b10 : Prog :=
  .seq (.mutate (.loc 3) [(.sub (.loc 4) 0)]) .skip
def SklearnNormalRegressor_partial_fit_b11 : Prog :=
  .ite SklearnNormalRegressor_partial_fit_b10 .skip SklearnNormalRegressor_partial_fit_b9
def SklearnNormalRegressor_partial_fit_b12 : Prog :=
  .seq (.bind 5 (.copy (.loc 6))) .skip
def SklearnNormalRegressor_partial_fit_b13 : Prog :=
  .seq (.bind 5 (.fresh [])) .skip
def SklearnNormalRegressor_partial_fit_b14 : Prog :=
  .ite SklearnNormalRegressor_partial_fit_b12 SklearnNormalRegressor_partial_fit_b13 (.seq (.bind 3 (.alias (.loc 5))) SklearnNormalRegressor_partial_fit_b11)
def SklearnNormalRegressor_partial_fit_b15 : Prog :=
  .seq (.writeAttr 7 (.fresh [])) .skip
def SklearnNormalRegressor_partial_fit_b16 : Prog :=
  .seq (.readAttr 7) .skip
def SklearnNormalRegressor_partial_fit_b17 : Prog :=
  .ite SklearnNormalRegressor_partial_fit_b15 SklearnNormalRegressor_partial_fit_b16 (.seq (.bind 8 (.alias (.loc 10))) (.seq (.bind 7 (.alias (.loc 9))) (.seq (.bind 1 (.alias (.loc 8))) (.seq (.bind 4 (.alias (.loc 7))) (.seq (.readAttr 6) SklearnNormalRegressor_partial_fit_b14)))))
def SklearnNormalRegressor_partial_fit_b18 : Prog :=
  .ite .abort .skip .skip
def SklearnNormalRegressor_partial_fit_b19 : Prog :=
  .seq (.bind 9 (.alias (.loc 9))) SklearnNormalRegressor_partial_fit_b18
def SklearnNormalRegressor_partial_fit_b20 : Prog :=
  .ite SklearnNormalRegressor_partial_fit_b19 .skip SklearnNormalRegressor_partial_fit_b17
def SklearnNormalRegressor_partial_fit_b21 : Prog :=
  .seq (.bind 10 (.alias (.loc 10))) .skip
def SklearnNormalRegressor_partial_fit_b22 : Prog :=
  .seq (.mutate (.loc 11) []) .skip
def SklearnNormalRegressor_partial_fit_b23 : Prog :=
  .ite SklearnNormalRegressor_partial_fit_b21 SklearnNormalRegressor_partial_fit_b22 SklearnNormalRegressor_partial_fit_b20
def SklearnNormalRegressor_partial_fit_b24 : Prog :=
  .seq (.bind 11 (.fresh [])) .skip
def SklearnNormalRegressor_partial_fit_b25 : Prog :=
  .ite SklearnNormalRegressor_partial_fit_b24 .skip (.seq (.writeAttr 6 (.alias (.attr 1))) (.seq (.bind 13 (.alias (.attr 2))) (.seq (.bind 12 (.alias (.loc 13))) (.seq (.writeAttr 8 (.alias (.loc 12))) (.seq (.bind 10 (.alias (.loc 10))) SklearnNormalRegressor_partial_fit_b23)))))
def SklearnNormalRegressor_partial_fit_b26 : Prog :=
  .seq (.writeAttr 9 (.fresh [])) (.seq (.readAttr 9) (.seq (.readAttr 7) (.seq (.bind 10 (.alias (.loc 1))) (.seq (.bind 9 (.alias (.loc 4))) (.seq (.bind 11 (.alias (.attr 9))) SklearnNormalRegressor_partial_fit_b25)))))
def SklearnNormalRegressor_partial_fit_b27 : Prog :=
  .ite .abort SklearnNormalRegressor_partial_fit_b26 .skip
def SklearnNormalRegressor_partial_fit_b28 : Prog :=
  .seq (.bind 6 (.fresh [])) (.seq (.bind 13 (.fresh [])) (.seq (.bind 4 (.fresh [])) (.seq (.bind 9 (.fresh [])) (.seq (.bind 1 (.fresh [])) (.seq (.bind 10 (.fresh [])) (.seq (.bind 14 (.fresh [(.loc 17)])) (.seq (.bind 1 (.alias (.loc 16))) (.seq (.bind 4 (.alias (.loc 15))) (.seq (.bind 6 (.fresh [(.sub (.loc 14) 0)])) SklearnNormalRegressor_partial_fit_b27)))))))))
def SklearnNormalRegressor_partial_fit_b29 : Prog :=
  .seq (.bind 5 (.fresh [])) (.seq (.bind 2 (.fresh [])) (.seq (.bind 0 (.fresh [])) (.seq (.bind 8 (.fresh [])) (.seq (.bind 7 (.fresh [])) (.seq (.bind 12 (.fresh [])) (.seq (.bind 11 (.fresh [])) (.seq (.bind 3 (.fresh [])) SklearnNormalRegressor_partial_fit_b28)))))))
def summary_SklearnNormalRegressor_partial_fit : Summary :=
  { params := [0, 1, 2], closedAttrs := [], safeAttrs := [5, 4, 9, 3, 7], body := SklearnNormalRegressor_partial_fit_b29 }
theorem effects_SklearnNormalRegressor_partial_fit : FrameOK summary_SklearnNormalRegressor_partial_fit = true := by decide +kernel

-- SklearnNormalRegressor.sample: locals 0=y_samples@_sample1 1=random_state@_sample1 2=n_samples@_sample1 3=sample_kwargs@_sample1 4=sample_kwargs 5=n_samples 6=$caller
def SklearnNormalRegressor_sample_b0 : Prog :=
  .seq (.readAttr 3) .skip
def SklearnNormalRegressor_sample_b1 : Prog :=
  .seq (.readAttr 3) .skip
def SklearnNormalRegressor_sample_b2 : Prog :=
  .ite SklearnNormalRegressor_sample_b1 .skip (.seq (.readAttr 5) (.seq (.readAttr 4) (.seq (.bind 1 (.alias (.sub (.loc 3) 0))) (.seq (.bind 1 (.fresh [(.loc 1)])) (.seq (.bind 0 (.fresh [(.loc 1), (.loc 2)])) (.seq (.readAttr 4) (.seq (.mutate (.loc 0) [(.attr 4)]) (.seq (.readAttr 5) (.seq (.mutate (.loc 0) [(.attr 5)]) .skip)))))))))
def SklearnNormalRegressor_sample_b3 : Prog :=
  .ite SklearnNormalRegressor_sample_b0 SklearnNormalRegressor_sample_b2 .skip
def SklearnNormalRegressor_sample_b4 : Prog :=
  .seq (.bind 2 (.fresh [])) (.seq (.bind 1 (.fresh [])) (.seq (.bind 3 (.fresh [])) (.seq (.bind 0 (.fresh [])) (.seq (.bind 4 (.fresh [(.loc 6)])) (.seq (.bind 2 (.alias (.loc 5))) (.seq (.bind 3 (.fresh [(.sub (.loc 4) 0)])) (.seq (.readAttr 9) (.seq (.readAttr 7) SklearnNormalRegressor_sample_b3))))))))
def summary_SklearnNormalRegressor_sample : Summary :=
  { params := [0, 1, 2], closedAttrs := [], safeAttrs := [5, 4, 9, 3, 7], body := SklearnNormalRegressor_sample_b4 }
theorem effects_SklearnNormalRegressor_sample : FrameOK summary_SklearnNormalRegressor_sample = true := by decide +kernel
theorem pure_SklearnNormalRegressor_sample : pureReader summary_SklearnNormalRegressor_sample.body = true := by decide +kernel

/-! ### StreamRandomSampling  (skactiveml/stream/_stream_baselines.py)
attributes: 0=allow_exceeding_budget 1=budget 2=random_state 3=budget_ 4=queried_samples_ 5=observed_samples_ 6=random_state_ 7=n_features_in_
keys: 0=* -/
-- StreamRandomSampling.query: locals 0=queried 1=$ret11 2=random_state@check_random_state7 3=$ret8 4=random_state@check_random_state4
def StreamRandomSampling_query_b0 : Prog :=
  .seq (.readAttr 3) (.seq (.readAttr 3) (.seq (.mutate (.loc 0) []) .skip))
def StreamRandomSampling_query_b1 : Prog :=
  .ite StreamRandomSampling_query_b0 .skip .skip
def StreamRandomSampling_query_b2 : Prog :=
  .seq (.readAttr 3) (.seq (.readAttr 3) (.seq (.mutate (.loc 0) []) StreamRandomSampling_query_b1))
def StreamRandomSampling_query_b3 : Prog :=
  .ite StreamRandomSampling_query_b2 .skip .skip
def StreamRandomSampling_query_b4 : Prog :=
  .seq (.readAttr 6) (.seq (.bind 2 (.alias (.attr 6))) (.seq (.bind 1 (.alias (.loc 2))) (.seq (.writeAttr 6 (.alias (.loc 1))) (.seq (.readAttr 6) (.seq (.readAttr 6) (.seq (.readAttr 6) (.seq (.bind 0 (.fresh [])) (.seq (.readAttr 5) (.seq (.readAttr 4) StreamRandomSampling_query_b3)))))))))
def StreamRandomSampling_query_b5 : Prog :=
  .seq (.writeAttr 6 (.deep (.attr 2))) .skip
def StreamRandomSampling_query_b6 : Prog :=
  .ite StreamRandomSampling_query_b5 .skip StreamRandomSampling_query_b4
def StreamRandomSampling_query_b7 : Prog :=
  .seq (.writeAttr 3 (.alias (.attr 1))) .skip
def StreamRandomSampling_query_b8 : Prog :=
  .seq (.writeAttr 3 (.fresh [])) .skip
def StreamRandomSampling_query_b9 : Prog :=
  .ite StreamRandomSampling_query_b7 StreamRandomSampling_query_b8 (.seq (.readAttr 3) StreamRandomSampling_query_b6)
def StreamRandomSampling_query_b10 : Prog :=
  .seq (.writeAttr 6 (.deep (.attr 2))) .skip
def StreamRandomSampling_query_b11 : Prog :=
  .ite StreamRandomSampling_query_b10 .skip (.seq (.readAttr 6) (.seq (.bind 4 (.alias (.attr 6))) (.seq (.bind 3 (.alias (.loc 4))) (.seq (.writeAttr 6 (.alias (.loc 3))) StreamRandomSampling_query_b9))))
def StreamRandomSampling_query_b12 : Prog :=
  .seq (.writeAttr 4 (.fresh [])) .skip
def StreamRandomSampling_query_b13 : Prog :=
  .ite StreamRandomSampling_query_b12 .skip (.seq (.writeAttr 7 (.fresh [])) StreamRandomSampling_query_b11)
def StreamRandomSampling_query_b14 : Prog :=
  .seq (.writeAttr 5 (.fresh [])) .skip
def StreamRandomSampling_query_b15 : Prog :=
  .ite StreamRandomSampling_query_b14 .skip StreamRandomSampling_query_b13
def StreamRandomSampling_query_b16 : Prog :=
  .seq (.bind 1 (.fresh [])) (.seq (.bind 3 (.fresh [])) (.seq (.bind 0 (.fresh [])) (.seq (.bind 4 (.fresh [])) (.seq (.bind 2 (.fresh [])) StreamRandomSampling_query_b15))))
def summary_StreamRandomSampling_query : Summary :=
  { params := [0, 1, 2], closedAttrs := [7, 5, 4, 6], safeAttrs := [], body := StreamRandomSampling_query_b16 }
theorem effects_StreamRandomSampling_query : FrameOK summary_StreamRandomSampling_query = true := by decide +kernel

-- StreamRandomSampling.update: locals 0=queried 1=$ret11 2=random_state@check_random_state7 3=$ret8 4=random_state@check_random_state4
def StreamRandomSampling_update_b0 : Prog :=
  .seq (.bind 2 (.alias (.attr 6))) (.seq (.bind 1 (.alias (.loc 2))) (.seq (.writeAttr 6 (.alias (.loc 1))) (.seq (.bind 0 (.fresh [])) (.seq (.mutate (.loc 0) []) (.seq (.readAttr 5) (.seq (.writeAttr 5 (.fresh [])) (.seq (.readAttr 4) (.seq (.writeAttr 4 (.fresh [])) (.seq (.readAttr 6) .skip)))))))))
def StreamRandomSampling_update_b1 : Prog :=
  .seq (.writeAttr 6 (.deep (.attr 2))) .skip
def StreamRandomSampling_update_b2 : Prog :=
  .ite StreamRandomSampling_update_b1 .skip (.seq (.readAttr 6) StreamRandomSampling_update_b0)
def StreamRandomSampling_update_b3 : Prog :=
  .seq (.writeAttr 3 (.alias (.attr 1))) .skip
def StreamRandomSampling_update_b4 : Prog :=
  .seq (.writeAttr 3 (.fresh [])) .skip
def StreamRandomSampling_update_b5 : Prog :=
  .ite StreamRandomSampling_update_b3 StreamRandomSampling_update_b4 (.seq (.readAttr 3) StreamRandomSampling_update_b2)
def StreamRandomSampling_update_b6 : Prog :=
  .seq (.writeAttr 6 (.deep (.attr 2))) .skip
def StreamRandomSampling_update_b7 : Prog :=
  .ite StreamRandomSampling_update_b6 .skip (.seq (.readAttr 6) (.seq (.bind 4 (.alias (.attr 6))) (.seq (.bind 3 (.alias (.loc 4))) (.seq (.writeAttr 6 (.alias (.loc 3))) StreamRandomSampling_update_b5))))
def StreamRandomSampling_update_b8 : Prog :=
  .seq (.writeAttr 4 (.fresh [])) .skip
def StreamRandomSampling_update_b9 : Prog :=
  .ite StreamRandomSampling_update_b8 .skip (.seq (.writeAttr 7 (.fresh [])) StreamRandomSampling_update_b7)
def StreamRandomSampling_update_b10 : Prog :=
  .seq (.writeAttr 5 (.fresh [])) .skip
def StreamRandomSampling_update_b11 : Prog :=
  .ite StreamRandomSampling_update_b10 .skip StreamRandomSampling_update_b9
def StreamRandomSampling_update_b12 : Prog :=
  .seq (.bind 1 (.fresh [])) (.seq (.bind 3 (.fresh [])) (.seq (.bind 0 (.fresh [])) (.seq (.bind 4 (.fresh [])) (.seq (.bind 2 (.fresh [])) StreamRandomSampling_update_b11))))
def summary_StreamRandomSampling_update : Summary :=
  { params := [0, 1, 2], closedAttrs := [7, 5, 4, 6], safeAttrs := [], body := StreamRandomSampling_update_b12 }
theorem effects_StreamRandomSampling_update : FrameOK summary_StreamRandomSampling_update = true := by decide +kernel

/-! ### PeriodicSampling  (skactiveml/stream/_stream_baselines.py)
attributes: 0=budget 1=random_state 2=budget_ 3=queried_samples_ 4=observed_samples_ 5=random_state_ 6=n_features_in_
keys: 0=* -/
-- PeriodicSampling.query: locals 0=utilities 1=queried 2=$ret11 3=random_state@check_random_state7 4=$ret8 5=random_state@check_random_state4
def PeriodicSampling_query_b0 : Prog :=
  .seq (.mutate (.loc 0) []) .skip
def PeriodicSampling_query_b1 : Prog :=
  .ite PeriodicSampling_query_b0 .skip .skip
def PeriodicSampling_query_b2 : Prog :=
  .seq (.readAttr 2) (.seq (.mutate (.loc 1) []) PeriodicSampling_query_b1)
def PeriodicSampling_query_b3 : Prog :=
  .ite PeriodicSampling_query_b2 .skip .skip
def PeriodicSampling_query_b4 : Prog :=
  .seq (.mutate (.loc 0) []) .skip
def PeriodicSampling_query_b5 : Prog :=
  .ite PeriodicSampling_query_b4 .skip PeriodicSampling_query_b3
def PeriodicSampling_query_b6 : Prog :=
  .seq (.readAttr 2) (.seq (.mutate (.loc 1) []) PeriodicSampling_query_b5)
def PeriodicSampling_query_b7 : Prog :=
  .ite PeriodicSampling_query_b6 .skip .skip
def PeriodicSampling_query_b8 : Prog :=
  .seq (.writeAttr 3 (.fresh [])) .skip
def PeriodicSampling_query_b9 : Prog :=
  .ite PeriodicSampling_query_b8 .skip (.seq (.bind 0 (.fresh [])) (.seq (.bind 1 (.fresh [])) (.seq (.readAttr 4) (.seq (.readAttr 3) PeriodicSampling_query_b7))))
def PeriodicSampling_query_b10 : Prog :=
  .seq (.writeAttr 4 (.fresh [])) .skip
def PeriodicSampling_query_b11 : Prog :=
  .ite PeriodicSampling_query_b10 .skip PeriodicSampling_query_b9
def PeriodicSampling_query_b12 : Prog :=
  .seq (.writeAttr 5 (.deep (.attr 1))) .skip
def PeriodicSampling_query_b13 : Prog :=
  .ite PeriodicSampling_query_b12 .skip (.seq (.readAttr 5) (.seq (.bind 3 (.alias (.attr 5))) (.seq (.bind 2 (.alias (.loc 3))) (.seq (.writeAttr 5 (.alias (.loc 2))) PeriodicSampling_query_b11))))
def PeriodicSampling_query_b14 : Prog :=
  .seq (.writeAttr 2 (.alias (.attr 0))) .skip
def PeriodicSampling_query_b15 : Prog :=
  .seq (.writeAttr 2 (.fresh [])) .skip
def PeriodicSampling_query_b16 : Prog :=
  .ite PeriodicSampling_query_b14 PeriodicSampling_query_b15 (.seq (.readAttr 2) PeriodicSampling_query_b13)
def PeriodicSampling_query_b17 : Prog :=
  .seq (.writeAttr 5 (.deep (.attr 1))) .skip
def PeriodicSampling_query_b18 : Prog :=
  .ite PeriodicSampling_query_b17 .skip (.seq (.readAttr 5) (.seq (.bind 5 (.alias (.attr 5))) (.seq (.bind 4 (.alias (.loc 5))) (.seq (.writeAttr 5 (.alias (.loc 4))) PeriodicSampling_query_b16))))
def PeriodicSampling_query_b19 : Prog :=
  .seq (.bind 2 (.fresh [])) (.seq (.bind 4 (.fresh [])) (.seq (.bind 1 (.fresh [])) (.seq (.bind 5 (.fresh [])) (.seq (.bind 3 (.fresh [])) (.seq (.bind 0 (.fresh [])) (.seq (.writeAttr 6 (.fresh [])) PeriodicSampling_query_b18))))))
def summary_PeriodicSampling_query : Summary :=
  { params := [0, 1], closedAttrs := [6, 4, 3, 5], safeAttrs := [], body := PeriodicSampling_query_b19 }
theorem effects_PeriodicSampling_query : FrameOK summary_PeriodicSampling_query = true := by decide +kernel

-- PeriodicSampling.update: locals 0=queried 1=$ret11 2=random_state@check_random_state7 3=$ret8 4=random_state@check_random_state4
def PeriodicSampling_update_b0 : Prog :=
  .seq (.writeAttr 3 (.fresh [])) .skip
def PeriodicSampling_update_b1 : Prog :=
  .ite PeriodicSampling_update_b0 .skip (.seq (.bind 0 (.fresh [])) (.seq (.mutate (.loc 0) []) (.seq (.readAttr 4) (.seq (.writeAttr 4 (.fresh [])) (.seq (.readAttr 3) (.seq (.writeAttr 3 (.fresh [])) .skip))))))
def PeriodicSampling_update_b2 : Prog :=
  .seq (.writeAttr 4 (.fresh [])) .skip
def PeriodicSampling_update_b3 : Prog :=
  .ite PeriodicSampling_update_b2 .skip PeriodicSampling_update_b1
def PeriodicSampling_update_b4 : Prog :=
  .seq (.writeAttr 5 (.deep (.attr 1))) .skip
def PeriodicSampling_update_b5 : Prog :=
  .ite PeriodicSampling_update_b4 .skip (.seq (.readAttr 5) (.seq (.bind 2 (.alias (.attr 5))) (.seq (.bind 1 (.alias (.loc 2))) (.seq (.writeAttr 5 (.alias (.loc 1))) PeriodicSampling_update_b3))))
def PeriodicSampling_update_b6 : Prog :=
  .seq (.writeAttr 2 (.alias (.attr 0))) .skip
def PeriodicSampling_update_b7 : Prog :=
  .seq (.writeAttr 2 (.fresh [])) .skip
def PeriodicSampling_update_b8 : Prog :=
  .ite PeriodicSampling_update_b6 PeriodicSampling_update_b7 (.seq (.readAttr 2) PeriodicSampling_update_b5)
def PeriodicSampling_update_b9 : Prog :=
  .seq (.writeAttr 5 (.deep (.attr 1))) .skip
def PeriodicSampling_update_b10 : Prog :=
  .ite PeriodicSampling_update_b9 .skip (.seq (.readAttr 5) (.seq (.bind 4 (.alias (.attr 5))) (.seq (.bind 3 (.alias (.loc 4))) (.seq (.writeAttr 5 (.alias (.loc 3))) PeriodicSampling_update_b8))))
def PeriodicSampling_update_b11 : Prog :=
  .seq (.bind 1 (.fresh [])) (.seq (.bind 3 (.fresh [])) (.seq (.bind 0 (.fresh [])) (.seq (.bind 4 (.fresh [])) (.seq (.bind 2 (.fresh [])) (.seq (.writeAttr 6 (.fresh [])) PeriodicSampling_update_b10)))))
def summary_PeriodicSampling_update : Summary :=
  { params := [0, 1], closedAttrs := [6, 4, 3, 5], safeAttrs := [], body := PeriodicSampling_update_b11 }
theorem effects_PeriodicSampling_update : FrameOK summary_PeriodicSampling_update = true := by decide +kernel

/-! ### FixedUncertainty  (skactiveml/stream/_uncertainty_zliobaite.py)
attributes: 0=classes 1=budget_manager 2=budget 3=random_state 4=budget_manager_ 5=random_state_ 6=budget_ 7=n_features_in_
keys: 0=* -/
-- FixedUncertainty.query: locals 0=clf 1=$ret3 2=clf@_validate_data1 3=$ret26 4=budget_manager_@check_budget_manager12 5=budget@check_budget_manager12 6=default_budget_manager_dict@check_budget_manager12 7=budget_manager@check_budget_manager12 8=default_budget_manager_kwargs@_validate_data1 9=random_seed@_validate_data1 10=$ret24 11=$ret21 12=clf@_validate_clf9 13=$t22 14=$t23 15=$ret16 16=random_state@check_random_state7 17=$ret13 18=random_state@check_random_state4
def FixedUncertainty_query_b0 : Prog :=
  .seq (.bind 4 (.fresh [(.loc 5), (.sub (.loc 6) 0)])) .skip
def FixedUncertainty_query_b1 : Prog :=
  .seq (.bind 4 (.deep (.loc 7))) .skip
def FixedUncertainty_query_b2 : Prog :=
  .ite FixedUncertainty_query_b0 FixedUncertainty_query_b1 (.seq (.bind 3 (.alias (.loc 4))) (.seq (.writeAttr 4 (.alias (.loc 3))) .skip))
def FixedUncertainty_query_b3 : Prog :=
  .seq (.bind 6 (.fresh [])) .skip
def FixedUncertainty_query_b4 : Prog :=
  .seq (.mutate (.loc 6) []) .skip
def FixedUncertainty_query_b5 : Prog :=
  .ite FixedUncertainty_query_b4 .skip .skip
def FixedUncertainty_query_b6 : Prog :=
  .ite FixedUncertainty_query_b3 FixedUncertainty_query_b5 FixedUncertainty_query_b2
def FixedUncertainty_query_b7 : Prog :=
  .seq (.readAttr 5) (.seq (.bind 9 (.fresh [])) (.seq (.bind 10 (.fresh [(.attr 0)])) (.seq (.bind 8 (.alias (.loc 10))) (.seq (.mutate (.loc 8) [(.loc 9)]) (.seq (.bind 5 (.alias (.attr 2))) (.seq (.bind 7 (.alias (.attr 1))) (.seq (.bind 6 (.alias (.loc 8))) FixedUncertainty_query_b6)))))))
def FixedUncertainty_query_b8 : Prog :=
  .ite FixedUncertainty_query_b7 .skip (.seq (.bind 1 (.alias (.loc 2))) (.seq (.bind 0 (.alias (.loc 1))) (.seq (.readAttr 4) (.seq (.callFit (.attr 4)) .skip))))
def FixedUncertainty_query_b9 : Prog :=
  .seq (.bind 13 (.deep (.loc 12))) (.seq (.callFit (.loc 13)) (.seq (.bind 12 (.alias (.loc 13))) .skip))
def FixedUncertainty_query_b10 : Prog :=
  .seq (.bind 14 (.deep (.loc 12))) (.seq (.callFit (.loc 14)) (.seq (.bind 12 (.alias (.loc 14))) .skip))
def FixedUncertainty_query_b11 : Prog :=
  .ite FixedUncertainty_query_b9 FixedUncertainty_query_b10 .skip
def FixedUncertainty_query_b12 : Prog :=
  .ite FixedUncertainty_query_b11 .skip (.seq (.bind 11 (.alias (.loc 12))) (.seq (.bind 2 (.alias (.loc 11))) (.seq (.readAttr 4) FixedUncertainty_query_b8)))
def FixedUncertainty_query_b13 : Prog :=
  .seq (.writeAttr 5 (.deep (.attr 3))) .skip
def FixedUncertainty_query_b14 : Prog :=
  .ite FixedUncertainty_query_b13 .skip (.seq (.readAttr 5) (.seq (.bind 16 (.alias (.attr 5))) (.seq (.bind 15 (.alias (.loc 16))) (.seq (.writeAttr 5 (.alias (.loc 15))) (.seq (.bind 12 (.alias (.loc 2))) FixedUncertainty_query_b12)))))
def FixedUncertainty_query_b15 : Prog :=
  .seq (.writeAttr 6 (.alias (.attr 2))) .skip
def FixedUncertainty_query_b16 : Prog :=
  .seq (.writeAttr 6 (.fresh [])) .skip
def FixedUncertainty_query_b17 : Prog :=
  .ite FixedUncertainty_query_b15 FixedUncertainty_query_b16 (.seq (.readAttr 6) FixedUncertainty_query_b14)
def FixedUncertainty_query_b18 : Prog :=
  .seq (.writeAttr 5 (.deep (.attr 3))) .skip
def FixedUncertainty_query_b19 : Prog :=
  .ite FixedUncertainty_query_b18 .skip (.seq (.readAttr 5) (.seq (.bind 18 (.alias (.attr 5))) (.seq (.bind 17 (.alias (.loc 18))) (.seq (.writeAttr 5 (.alias (.loc 17))) FixedUncertainty_query_b17))))
def FixedUncertainty_query_b20 : Prog :=
  .seq (.bind 4 (.fresh [])) (.seq (.bind 12 (.fresh [])) (.seq (.bind 2 (.fresh [])) (.seq (.bind 6 (.fresh [])) (.seq (.bind 8 (.fresh [])) (.seq (.bind 9 (.fresh [])) (.seq (.bind 18 (.fresh [])) (.seq (.bind 16 (.fresh [])) (.seq (.bind 2 (.alias (.loc 0))) (.seq (.writeAttr 7 (.fresh [])) FixedUncertainty_query_b19)))))))))
def FixedUncertainty_query_b21 : Prog :=
  .seq (.bind 17 (.fresh [])) (.seq (.bind 15 (.fresh [])) (.seq (.bind 11 (.fresh [])) (.seq (.bind 10 (.fresh [])) (.seq (.bind 3 (.fresh [])) (.seq (.bind 1 (.fresh [])) (.seq (.bind 13 (.fresh [])) (.seq (.bind 14 (.fresh [])) (.seq (.bind 5 (.fresh [])) (.seq (.bind 7 (.fresh [])) FixedUncertainty_query_b20)))))))))
def summary_FixedUncertainty_query : Summary :=
  { params := [0, 1, 2, 3], closedAttrs := [7, 5], safeAttrs := [4], body := FixedUncertainty_query_b21 }
theorem effects_FixedUncertainty_query : FrameOK summary_FixedUncertainty_query = true := by decide +kernel

-- FixedUncertainty.update: locals 0=$ret5 1=budget_manager_@check_budget_manager5 2=budget@check_budget_manager5 3=default_budget_manager_dict@check_budget_manager5 4=budget_manager@check_budget_manager5 5=default_budget_manager_kwargs 6=random_seed 7=$ret3 8=$ret2 9=random_state@check_random_state2
def FixedUncertainty_update_b0 : Prog :=
  .seq (.bind 1 (.fresh [(.loc 2), (.sub (.loc 3) 0)])) .skip
def FixedUncertainty_update_b1 : Prog :=
  .seq (.bind 1 (.deep (.loc 4))) .skip
def FixedUncertainty_update_b2 : Prog :=
  .ite FixedUncertainty_update_b0 FixedUncertainty_update_b1 (.seq (.bind 0 (.alias (.loc 1))) (.seq (.writeAttr 4 (.alias (.loc 0))) .skip))
def FixedUncertainty_update_b3 : Prog :=
  .seq (.bind 3 (.fresh [])) .skip
def FixedUncertainty_update_b4 : Prog :=
  .seq (.mutate (.loc 3) []) .skip
def FixedUncertainty_update_b5 : Prog :=
  .ite FixedUncertainty_update_b4 .skip .skip
def FixedUncertainty_update_b6 : Prog :=
  .ite FixedUncertainty_update_b3 FixedUncertainty_update_b5 FixedUncertainty_update_b2
def FixedUncertainty_update_b7 : Prog :=
  .seq (.bind 8 (.alias (.loc 9))) (.seq (.writeAttr 5 (.alias (.loc 8))) (.seq (.readAttr 5) (.seq (.bind 6 (.fresh [])) (.seq (.bind 7 (.fresh [(.attr 0)])) (.seq (.bind 5 (.alias (.loc 7))) (.seq (.mutate (.loc 5) [(.loc 6)]) (.seq (.bind 2 (.alias (.attr 2))) (.seq (.bind 4 (.alias (.attr 1))) (.seq (.bind 3 (.alias (.loc 5))) FixedUncertainty_update_b6)))))))))
def FixedUncertainty_update_b8 : Prog :=
  .seq (.writeAttr 5 (.deep (.attr 3))) .skip
def FixedUncertainty_update_b9 : Prog :=
  .ite FixedUncertainty_update_b8 .skip (.seq (.readAttr 5) (.seq (.bind 9 (.alias (.attr 5))) FixedUncertainty_update_b7))
def FixedUncertainty_update_b10 : Prog :=
  .ite FixedUncertainty_update_b9 .skip (.seq (.readAttr 4) .skip)
def FixedUncertainty_update_b11 : Prog :=
  .seq (.bind 7 (.fresh [])) (.seq (.bind 0 (.fresh [])) (.seq (.bind 2 (.fresh [])) (.seq (.bind 4 (.fresh [])) (.seq (.bind 1 (.fresh [])) (.seq (.bind 3 (.fresh [])) (.seq (.bind 5 (.fresh [])) (.seq (.bind 6 (.fresh [])) (.seq (.bind 9 (.fresh [])) (.seq (.readAttr 4) FixedUncertainty_update_b10)))))))))
def FixedUncertainty_update_b12 : Prog :=
  .seq (.bind 8 (.fresh [])) FixedUncertainty_update_b11
def summary_FixedUncertainty_update : Summary :=
  { params := [0, 1, 2, 3], closedAttrs := [7, 5], safeAttrs := [4], body := FixedUncertainty_update_b12 }
theorem effects_FixedUncertainty_update : FrameOK summary_FixedUncertainty_update = true := by decide +kernel

/-! ### VariableUncertainty  (skactiveml/stream/_uncertainty_zliobaite.py)
attributes: 0=budget_manager 1=budget 2=random_state 3=budget_manager_ 4=random_state_ 5=budget_ 6=n_features_in_
keys: 0=* -/
-- VariableUncertainty.query: locals 0=clf 1=$ret3 2=clf@_validate_data1 3=$ret26 4=budget_manager_@check_budget_manager12 5=budget@check_budget_manager12 6=default_budget_manager_dict@check_budget_manager12 7=budget_manager@check_budget_manager12 8=default_budget_manager_kwargs@_validate_data1 9=random_seed@_validate_data1 10=$ret24 11=$ret21 12=clf@_validate_clf9 13=$t22 14=$t23 15=$ret16 16=random_state@check_random_state7 17=$ret13 18=random_state@check_random_state4
def VariableUncertainty_query_b0 : Prog :=
  .seq (.bind 4 (.fresh [(.loc 5), (.sub (.loc 6) 0)])) .skip
def VariableUncertainty_query_b1 : Prog :=
  .seq (.bind 4 (.deep (.loc 7))) .skip
def VariableUncertainty_query_b2 : Prog :=
  .ite VariableUncertainty_query_b0 VariableUncertainty_query_b1 (.seq (.bind 3 (.alias (.loc 4))) (.seq (.writeAttr 3 (.alias (.loc 3))) .skip))
def VariableUncertainty_query_b3 : Prog :=
  .seq (.bind 6 (.fresh [])) .skip
def VariableUncertainty_query_b4 : Prog :=
  .seq (.mutate (.loc 6) []) .skip
def VariableUncertainty_query_b5 : Prog :=
  .ite VariableUncertainty_query_b4 .skip .skip
def VariableUncertainty_query_b6 : Prog :=
  .ite VariableUncertainty_query_b3 VariableUncertainty_query_b5 VariableUncertainty_query_b2
def VariableUncertainty_query_b7 : Prog :=
  .seq (.readAttr 4) (.seq (.bind 9 (.fresh [])) (.seq (.bind 10 (.fresh [])) (.seq (.bind 8 (.alias (.loc 10))) (.seq (.mutate (.loc 8) [(.loc 9)]) (.seq (.bind 5 (.alias (.attr 1))) (.seq (.bind 7 (.alias (.attr 0))) (.seq (.bind 6 (.alias (.loc 8))) VariableUncertainty_query_b6)))))))
def VariableUncertainty_query_b8 : Prog :=
  .ite VariableUncertainty_query_b7 .skip (.seq (.bind 1 (.alias (.loc 2))) (.seq (.bind 0 (.alias (.loc 1))) (.seq (.readAttr 3) (.seq (.callFit (.attr 3)) .skip))))
def VariableUncertainty_query_b9 : Prog :=
  .seq (.bind 13 (.deep (.loc 12))) (.seq (.callFit (.loc 13)) (.seq (.bind 12 (.alias (.loc 13))) .skip))
def VariableUncertainty_query_b10 : Prog :=
  .seq (.bind 14 (.deep (.loc 12))) (.seq (.callFit (.loc 14)) (.seq (.bind 12 (.alias (.loc 14))) .skip))
def VariableUncertainty_query_b11 : Prog :=
  .ite VariableUncertainty_query_b9 VariableUncertainty_query_b10 .skip
def VariableUncertainty_query_b12 : Prog :=
  .ite VariableUncertainty_query_b11 .skip (.seq (.bind 11 (.alias (.loc 12))) (.seq (.bind 2 (.alias (.loc 11))) (.seq (.readAttr 3) VariableUncertainty_query_b8)))
def VariableUncertainty_query_b13 : Prog :=
  .seq (.writeAttr 4 (.deep (.attr 2))) .skip
def VariableUncertainty_query_b14 : Prog :=
  .ite VariableUncertainty_query_b13 .skip (.seq (.readAttr 4) (.seq (.bind 16 (.alias (.attr 4))) (.seq (.bind 15 (.alias (.loc 16))) (.seq (.writeAttr 4 (.alias (.loc 15))) (.seq (.bind 12 (.alias (.loc 2))) VariableUncertainty_query_b12)))))
def VariableUncertainty_query_b15 : Prog :=
  .seq (.writeAttr 5 (.alias (.attr 1))) .skip
def VariableUncertainty_query_b16 : Prog :=
  .seq (.writeAttr 5 (.fresh [])) .skip
def VariableUncertainty_query_b17 : Prog :=
  .ite VariableUncertainty_query_b15 VariableUncertainty_query_b16 (.seq (.readAttr 5) VariableUncertainty_query_b14)
def VariableUncertainty_query_b18 : Prog :=
  .seq (.writeAttr 4 (.deep (.attr 2))) .skip
def VariableUncertainty_query_b19 : Prog :=
  .ite VariableUncertainty_query_b18 .skip (.seq (.readAttr 4) (.seq (.bind 18 (.alias (.attr 4))) (.seq (.bind 17 (.alias (.loc 18))) (.seq (.writeAttr 4 (.alias (.loc 17))) VariableUncertainty_query_b17))))
def VariableUncertainty_query_b20 : Prog :=
  .seq (.bind 4 (.fresh [])) (.seq (.bind 12 (.fresh [])) (.seq (.bind 2 (.fresh [])) (.seq (.bind 6 (.fresh [])) (.seq (.bind 8 (.fresh [])) (.seq (.bind 9 (.fresh [])) (.seq (.bind 18 (.fresh [])) (.seq (.bind 16 (.fresh [])) (.seq (.bind 2 (.alias (.loc 0))) (.seq (.writeAttr 6 (.fresh [])) VariableUncertainty_query_b19)))))))))
def VariableUncertainty_query_b21 : Prog :=
  .seq (.bind 17 (.fresh [])) (.seq (.bind 15 (.fresh [])) (.seq (.bind 11 (.fresh [])) (.seq (.bind 10 (.fresh [])) (.seq (.bind 3 (.fresh [])) (.seq (.bind 1 (.fresh [])) (.seq (.bind 13 (.fresh [])) (.seq (.bind 14 (.fresh [])) (.seq (.bind 5 (.fresh [])) (.seq (.bind 7 (.fresh [])) VariableUncertainty_query_b20)))))))))
def summary_VariableUncertainty_query : Summary :=
  { params := [0, 1, 2], closedAttrs := [6, 4], safeAttrs := [3], body := VariableUncertainty_query_b21 }
theorem effects_VariableUncertainty_query : FrameOK summary_VariableUncertainty_query = true := by decide +kernel

-- VariableUncertainty.update: locals 0=$ret5 1=budget_manager_@check_budget_manager5 2=budget@check_budget_manager5 3=default_budget_manager_dict@check_budget_manager5 4=budget_manager@check_budget_manager5 5=default_budget_manager_kwargs 6=random_seed 7=$ret3 8=$ret2 9=random_state@check_random_state2
def VariableUncertainty_update_b0 : Prog :=
  .seq (.bind 1 (.fresh [(.loc 2), (.sub (.loc 3) 0)])) .skip
def VariableUncertainty_update_b1 : Prog :=
  .seq (.bind 1 (.deep (.loc 4))) .skip
def VariableUncertainty_update_b2 : Prog :=
  .ite VariableUncertainty_update_b0 VariableUncertainty_update_b1 (.seq (.bind 0 (.alias (.loc 1))) (.seq (.writeAttr 3 (.alias (.loc 0))) .skip))
def VariableUncertainty_update_b3 : Prog :=
  .seq (.bind 3 (.fresh [])) .skip
def VariableUncertainty_update_b4 : Prog :=
  .seq (.mutate (.loc 3) []) .skip
def VariableUncertainty_update_b5 : Prog :=
  .ite VariableUncertainty_update_b4 .skip .skip
def VariableUncertainty_update_b6 : Prog :=
  .ite VariableUncertainty_update_b3 VariableUncertainty_update_b5 VariableUncertainty_update_b2
def VariableUncertainty_update_b7 : Prog :=
  .seq (.bind 8 (.alias (.loc 9))) (.seq (.writeAttr 4 (.alias (.loc 8))) (.seq (.readAttr 4) (.seq (.bind 6 (.fresh [])) (.seq (.bind 7 (.fresh [])) (.seq (.bind 5 (.alias (.loc 7))) (.seq (.mutate (.loc 5) [(.loc 6)]) (.seq (.bind 2 (.alias (.attr 1))) (.seq (.bind 4 (.alias (.attr 0))) (.seq (.bind 3 (.alias (.loc 5))) VariableUncertainty_update_b6)))))))))
def VariableUncertainty_update_b8 : Prog :=
  .seq (.writeAttr 4 (.deep (.attr 2))) .skip
def VariableUncertainty_update_b9 : Prog :=
  .ite VariableUncertainty_update_b8 .skip (.seq (.readAttr 4) (.seq (.bind 9 (.alias (.attr 4))) VariableUncertainty_update_b7))
def VariableUncertainty_update_b10 : Prog :=
  .ite VariableUncertainty_update_b9 .skip (.seq (.readAttr 3) .skip)
def VariableUncertainty_update_b11 : Prog :=
  .seq (.bind 7 (.fresh [])) (.seq (.bind 0 (.fresh [])) (.seq (.bind 2 (.fresh [])) (.seq (.bind 4 (.fresh [])) (.seq (.bind 1 (.fresh [])) (.seq (.bind 3 (.fresh [])) (.seq (.bind 5 (.fresh [])) (.seq (.bind 6 (.fresh [])) (.seq (.bind 9 (.fresh [])) (.seq (.readAttr 3) VariableUncertainty_update_b10)))))))))
def VariableUncertainty_update_b12 : Prog :=
  .seq (.bind 8 (.fresh [])) VariableUncertainty_update_b11
def summary_VariableUncertainty_update : Summary :=
  { params := [0, 1, 2], closedAttrs := [6, 4], safeAttrs := [3], body := VariableUncertainty_update_b12 }
theorem effects_VariableUncertainty_update : FrameOK summary_VariableUncertainty_update = true := by decide +kernel

/-! ### Split  (skactiveml/stream/_uncertainty_zliobaite.py)
attributes: 0=budget_manager 1=budget 2=random_state 3=budget_manager_ 4=random_state_ 5=budget_ 6=n_features_in_
keys: 0=* -/
-- Split.query: locals 0=clf 1=$ret3 2=clf@_validate_data1 3=$ret26 4=budget_manager_@check_budget_manager12 5=budget@check_budget_manager12 6=default_budget_manager_dict@check_budget_manager12 7=budget_manager@check_budget_manager12 8=default_budget_manager_kwargs@_validate_data1 9=random_seed@_validate_data1 10=$ret24 11=$ret21 12=clf@_validate_clf9 13=$t22 14=$t23 15=$ret16 16=random_state@check_random_state7 17=$ret13 18=random_state@check_random_state4
def Split_query_b0 : Prog :=
  .seq (.bind 4 (.fresh [(.loc 5), (.sub (.loc 6) 0)])) .skip
def Split_query_b1 : Prog :=
  .seq (.bind 4 (.deep (.loc 7))) .skip
def Split_query_b2 : Prog :=
  .ite Split_query_b0 Split_query_b1 (.seq (.bind 3 (.alias (.loc 4))) (.seq (.writeAttr 3 (.alias (.loc 3))) .skip))
def Split_query_b3 : Prog :=
  .seq (.bind 6 (.fresh [])) .skip
def Split_query_b4 : Prog :=
  .seq (.mutate (.loc 6) []) .skip
def Split_query_b5 : Prog :=
  .ite Split_query_b4 .skip .skip
def Split_query_b6 : Prog :=
  .ite Split_query_b3 Split_query_b5 Split_query_b2
def Split_query_b7 : Prog :=
  .seq (.readAttr 4) (.seq (.bind 9 (.fresh [])) (.seq (.bind 10 (.fresh [])) (.seq (.bind 8 (.alias (.loc 10))) (.seq (.mutate (.loc 8) [(.loc 9)]) (.seq (.bind 5 (.alias (.attr 1))) (.seq (.bind 7 (.alias (.attr 0))) (.seq (.bind 6 (.alias (.loc 8))) Split_query_b6)))))))
def Split_query_b8 : Prog :=
  .ite Split_query_b7 .skip (.seq (.bind 1 (.alias (.loc 2))) (.seq (.bind 0 (.alias (.loc 1))) (.seq (.readAttr 3) (.seq (.callFit (.attr 3)) .skip))))
def Split_query_b9 : Prog :=
  .seq (.bind 13 (.deep (.loc 12))) (.seq (.callFit (.loc 13)) (.seq (.bind 12 (.alias (.loc 13))) .skip))
def Split_query_b10 : Prog :=
  .seq (.bind 14 (.deep (.loc 12))) (.seq (.callFit (.loc 14)) (.seq (.bind 12 (.alias (.loc 14))) .skip))
def Split_query_b11 : Prog :=
  .ite Split_query_b9 Split_query_b10 .skip
def Split_query_b12 : Prog :=
  .ite Split_query_b11 .skip (.seq (.bind 11 (.alias (.loc 12))) (.seq (.bind 2 (.alias (.loc 11))) (.seq (.readAttr 3) Split_query_b8)))
def Split_query_b13 : Prog :=
  .seq (.writeAttr 4 (.deep (.attr 2))) .skip
def Split_query_b14 : Prog :=
  .ite Split_query_b13 .skip (.seq (.readAttr 4) (.seq (.bind 16 (.alias (.attr 4))) (.seq (.bind 15 (.alias (.loc 16))) (.seq (.writeAttr 4 (.alias (.loc 15))) (.seq (.bind 12 (.alias (.loc 2))) Split_query_b12)))))
def Split_query_b15 : Prog :=
  .seq (.writeAttr 5 (.alias (.attr 1))) .skip
def Split_query_b16 : Prog :=
  .seq (.writeAttr 5 (.fresh [])) .skip
def Split_query_b17 : Prog :=
  .ite Split_query_b15 Split_query_b16 (.seq (.readAttr 5) Split_query_b14)
def Split_query_b18 : Prog :=
  .seq (.writeAttr 4 (.deep (.attr 2))) .skip
def Split_query_b19 : Prog :=
  .ite Split_query_b18 .skip (.seq (.readAttr 4) (.seq (.bind 18 (.alias (.attr 4))) (.seq (.bind 17 (.alias (.loc 18))) (.seq (.writeAttr 4 (.alias (.loc 17))) Split_query_b17))))
def Split_query_b20 : Prog :=
  .seq (.bind 4 (.fresh [])) (.seq (.bind 12 (.fresh [])) (.seq (.bind 2 (.fresh [])) (.seq (.bind 6 (.fresh [])) (.seq (.bind 8 (.fresh [])) (.seq (.bind 9 (.fresh [])) (.seq (.bind 18 (.fresh [])) (.seq (.bind 16 (.fresh [])) (.seq (.bind 2 (.alias (.loc 0))) (.seq (.writeAttr 6 (.fresh [])) Split_query_b19)))))))))
def Split_query_b21 : Prog :=
  .seq (.bind 17 (.fresh [])) (.seq (.bind 15 (.fresh [])) (.seq (.bind 11 (.fresh [])) (.seq (.bind 10 (.fresh [])) (.seq (.bind 3 (.fresh [])) (.seq (.bind 1 (.fresh [])) (.seq (.bind 13 (.fresh [])) (.seq (.bind 14 (.fresh [])) (.seq (.bind 5 (.fresh [])) (.seq (.bind 7 (.fresh [])) Split_query_b20)))))))))
def summary_Split_query : Summary :=
  { params := [0, 1, 2], closedAttrs := [6, 4], safeAttrs := [3], body := Split_query_b21 }
theorem effects_Split_query : FrameOK summary_Split_query = true := by decide +kernel

-- Split.update: locals 0=$ret5 1=budget_manager_@check_budget_manager5 2=budget@check_budget_manager5 3=default_budget_manager_dict@check_budget_manager5 4=budget_manager@check_budget_manager5 5=default_budget_manager_kwargs 6=random_seed 7=$ret3 8=$ret2 9=random_state@check_random_state2
def Split_update_b0 : Prog :=
  .seq (.bind 1 (.fresh [(.loc 2), (.sub (.loc 3) 0)])) .skip
def Split_update_b1 : Prog :=
  .seq (.bind 1 (.deep (.loc 4))) .skip
def Split_update_b2 : Prog :=
  .ite Split_update_b0 Split_update_b1 (.seq (.bind 0 (.alias (.loc 1))) (.seq (.writeAttr 3 (.alias (.loc 0))) .skip))
def Split_update_b3 : Prog :=
  .seq (.bind 3 (.fresh [])) .skip
def Split_update_b4 : Prog :=
  .seq (.mutate (.loc 3) []) .skip
def Split_update_b5 : Prog :=
  .ite Split_update_b4 .skip .skip
def Split_update_b6 : Prog :=
  .ite Split_update_b3 Split_update_b5 Split_update_b2
def Split_update_b7 : Prog :=
  .seq (.bind 8 (.alias (.loc 9))) (.seq (.writeAttr 4 (.alias (.loc 8))) (.seq (.readAttr 4) (.seq (.bind 6 (.fresh [])) (.seq (.bind 7 (.fresh [])) (.seq (.bind 5 (.alias (.loc 7))) (.seq (.mutate (.loc 5) [(.loc 6)]) (.seq (.bind 2 (.alias (.attr 1))) (.seq (.bind 4 (.alias (.attr 0))) (.seq (.bind 3 (.alias (.loc 5))) Split_update_b6)))))))))
def Split_update_b8 : Prog :=
  .seq (.writeAttr 4 (.deep (.attr 2))) .skip
def Split_update_b9 : Prog :=
  .ite Split_update_b8 .skip (.seq (.readAttr 4) (.seq (.bind 9 (.alias (.attr 4))) Split_update_b7))
def Split_update_b10 : Prog :=
  .ite Split_update_b9 .skip (.seq (.readAttr 3) .skip)
def Split_update_b11 : Prog :=
  .seq (.bind 7 (.fresh [])) (.seq (.bind 0 (.fresh [])) (.seq (.bind 2 (.fresh [])) (.seq (.bind 4 (.fresh [])) (.seq (.bind 1 (.fresh [])) (.seq (.bind 3 (.fresh [])) (.seq (.bind 5 (.fresh [])) (.seq (.bind 6 (.fresh [])) (.seq (.bind 9 (.fresh [])) (.seq (.readAttr 3) Split_update_b10)))))))))
def Split_update_b12 : Prog :=
  .seq (.bind 8 (.fresh [])) Split_update_b11
def summary_Split_update : Summary :=
  { params := [0, 1, 2], closedAttrs := [6, 4], safeAttrs := [3], body := Split_update_b12 }
theorem effects_Split_update : FrameOK summary_Split_update = true := by decide +kernel

/-! ### StreamProbabilisticAL  (skactiveml/stream/_stream_probabilistic_al.py)
attributes: 0=metric 1=metric_dict 2=prior 3=m_max 4=budget_manager 5=budget 6=random_state 7=budget_manager_ 8=random_state_ 9=budget_ 10=n_features_in_
keys: 0=* 1=missing_label 2=classes -/
-- StreamProbabilisticAL.query: locals 0=utilities 1=utility_weight 2=$ret27 3=gains@cost_reduction12 4=$t44 5=$t42 6=$t40 7=$t39 8=$t37 9=$t36 10=$t34 11=$t33 12=$t31 13=$t30 14=pwc 15=metric_dict 16=clf 17=$ret8 18=$ret3 19=utility_weight@_validate_data1 20=clf@_validate_data1 21=$ret26 22=random_state@check_random_state11 23=$ret24 24=utility_weight@_validate_utility_weight9 25=$ret21 26=clf@_validate_clf8 27=$t22 28=$t23 29=$ret16 30=budget_manager_@check_budget_manager6 31=budget@check_budget_manager6 32=default_budget_manager_dict@check_budget_manager6 33=budget_manager@check_budget_manager6 34=$ret14 35=random_state@check_random_state4
def StreamProbabilisticAL_query_b0 : Prog :=
  .seq (.bind 4 (.fresh [])) (.seq (.mutate (.loc 4) []) .skip)
def StreamProbabilisticAL_query_b1 : Prog :=
  .ite StreamProbabilisticAL_query_b0 .skip .skip
def StreamProbabilisticAL_query_b2 : Prog :=
  .seq (.bind 5 (.fresh [])) (.seq (.mutate (.loc 5) []) StreamProbabilisticAL_query_b1)
def StreamProbabilisticAL_query_b3 : Prog :=
  .ite StreamProbabilisticAL_query_b2 .skip .skip
def StreamProbabilisticAL_query_b4 : Prog :=
  .seq (.bind 6 (.fresh [])) (.seq (.mutate (.loc 6) []) .skip)
def StreamProbabilisticAL_query_b5 : Prog :=
  .ite StreamProbabilisticAL_query_b4 .skip .skip
def StreamProbabilisticAL_query_b6 : Prog :=
  .seq (.bind 7 (.fresh [])) (.seq (.mutate (.loc 7) []) StreamProbabilisticAL_query_b5)
def StreamProbabilisticAL_query_b7 : Prog :=
  .ite StreamProbabilisticAL_query_b6 .skip .skip
def StreamProbabilisticAL_query_b8 : Prog :=
  .ite StreamProbabilisticAL_query_b7 .skip .skip
def StreamProbabilisticAL_query_b9 : Prog :=
  .seq (.bind 8 (.fresh [])) (.seq (.mutate (.loc 8) []) .skip)
def StreamProbabilisticAL_query_b10 : Prog :=
  .ite StreamProbabilisticAL_query_b9 .skip .skip
def StreamProbabilisticAL_query_b11 : Prog :=
  .seq (.bind 9 (.fresh [])) (.seq (.mutate (.loc 9) []) StreamProbabilisticAL_query_b10)
def StreamProbabilisticAL_query_b12 : Prog :=
  .ite StreamProbabilisticAL_query_b11 .skip StreamProbabilisticAL_query_b8
def StreamProbabilisticAL_query_b13 : Prog :=
  .ite StreamProbabilisticAL_query_b12 .skip .skip
def StreamProbabilisticAL_query_b14 : Prog :=
  .ite StreamProbabilisticAL_query_b13 .skip .skip
def StreamProbabilisticAL_query_b15 : Prog :=
  .seq (.bind 10 (.fresh [])) (.seq (.mutate (.loc 10) []) .skip)
def StreamProbabilisticAL_query_b16 : Prog :=
  .ite StreamProbabilisticAL_query_b15 .skip .skip
def StreamProbabilisticAL_query_b17 : Prog :=
  .seq (.bind 11 (.fresh [])) (.seq (.mutate (.loc 11) []) StreamProbabilisticAL_query_b16)
def StreamProbabilisticAL_query_b18 : Prog :=
  .ite StreamProbabilisticAL_query_b17 .skip .skip
def StreamProbabilisticAL_query_b19 : Prog :=
  .ite StreamProbabilisticAL_query_b18 .skip .skip
def StreamProbabilisticAL_query_b20 : Prog :=
  .seq (.bind 12 (.fresh [])) (.seq (.mutate (.loc 12) []) .skip)
def StreamProbabilisticAL_query_b21 : Prog :=
  .ite StreamProbabilisticAL_query_b20 .skip .skip
def StreamProbabilisticAL_query_b22 : Prog :=
  .seq (.bind 13 (.fresh [])) (.seq (.mutate (.loc 13) []) StreamProbabilisticAL_query_b21)
def StreamProbabilisticAL_query_b23 : Prog :=
  .ite StreamProbabilisticAL_query_b22 .skip StreamProbabilisticAL_query_b19
def StreamProbabilisticAL_query_b24 : Prog :=
  .ite StreamProbabilisticAL_query_b23 .skip StreamProbabilisticAL_query_b14
def StreamProbabilisticAL_query_b25 : Prog :=
  .ite StreamProbabilisticAL_query_b24 .skip StreamProbabilisticAL_query_b3
def StreamProbabilisticAL_query_b26 : Prog :=
  .ite StreamProbabilisticAL_query_b25 .skip (.seq (.bind 3 (.fresh [])) (.seq (.mutate (.loc 3) []) (.seq (.mutate (.loc 3) []) (.seq (.bind 2 (.fresh [])) (.seq (.bind 0 (.alias (.loc 2))) (.seq (.mutate (.loc 0) [(.loc 1)]) (.seq (.readAttr 7) (.seq (.callFit (.attr 7)) .skip))))))))
def StreamProbabilisticAL_query_b27 : Prog :=
  .seq (.bind 15 (.fresh [])) .skip
def StreamProbabilisticAL_query_b28 : Prog :=
  .ite StreamProbabilisticAL_query_b27 .skip (.seq (.bind 14 (.fresh [(.attr 0), (.loc 15), (.sub (.loc 16) 1), (.sub (.loc 16) 2)])) (.seq (.callFit (.loc 14)) .skip))
def StreamProbabilisticAL_query_b29 : Prog :=
  .seq (.bind 15 (.alias (.attr 1))) StreamProbabilisticAL_query_b28
def StreamProbabilisticAL_query_b30 : Prog :=
  .ite StreamProbabilisticAL_query_b29 .skip StreamProbabilisticAL_query_b26
def StreamProbabilisticAL_query_b31 : Prog :=
  .seq (.writeAttr 8 (.deep (.attr 6))) .skip
def StreamProbabilisticAL_query_b32 : Prog :=
  .ite StreamProbabilisticAL_query_b31 .skip (.seq (.readAttr 8) (.seq (.bind 22 (.alias (.attr 8))) (.seq (.bind 21 (.alias (.loc 22))) (.seq (.writeAttr 8 (.alias (.loc 21))) (.seq (.bind 18 (.alias (.loc 20))) (.seq (.bind 17 (.alias (.loc 19))) .skip))))))
def StreamProbabilisticAL_query_b33 : Prog :=
  .ite .abort StreamProbabilisticAL_query_b32 (.seq (.bind 16 (.alias (.loc 18))) (.seq (.bind 1 (.alias (.loc 17))) StreamProbabilisticAL_query_b30))
def StreamProbabilisticAL_query_b34 : Prog :=
  .seq (.bind 24 (.fresh [])) .skip
def StreamProbabilisticAL_query_b35 : Prog :=
  .ite StreamProbabilisticAL_query_b34 .skip (.seq (.bind 24 (.alias (.loc 24))) (.seq (.bind 23 (.alias (.loc 24))) (.seq (.bind 19 (.alias (.loc 23))) StreamProbabilisticAL_query_b33)))
def StreamProbabilisticAL_query_b36 : Prog :=
  .seq (.bind 27 (.deep (.loc 26))) (.seq (.callFit (.loc 27)) (.seq (.bind 26 (.alias (.loc 27))) .skip))
def StreamProbabilisticAL_query_b37 : Prog :=
  .seq (.bind 28 (.deep (.loc 26))) (.seq (.callFit (.loc 28)) (.seq (.bind 26 (.alias (.loc 28))) .skip))
def StreamProbabilisticAL_query_b38 : Prog :=
  .ite StreamProbabilisticAL_query_b36 StreamProbabilisticAL_query_b37 .skip
def StreamProbabilisticAL_query_b39 : Prog :=
  .ite StreamProbabilisticAL_query_b38 .skip (.seq (.bind 25 (.alias (.loc 26))) (.seq (.bind 20 (.alias (.loc 25))) (.seq (.bind 24 (.alias (.loc 19))) StreamProbabilisticAL_query_b35)))
def StreamProbabilisticAL_query_b40 : Prog :=
  .seq (.bind 30 (.fresh [(.loc 31), (.sub (.loc 32) 0)])) .skip
def StreamProbabilisticAL_query_b41 : Prog :=
  .seq (.bind 30 (.deep (.loc 33))) .skip
def StreamProbabilisticAL_query_b42 : Prog :=
  .ite StreamProbabilisticAL_query_b40 StreamProbabilisticAL_query_b41 (.seq (.bind 29 (.alias (.loc 30))) (.seq (.writeAttr 7 (.alias (.loc 29))) .skip))
def StreamProbabilisticAL_query_b43 : Prog :=
  .seq (.bind 31 (.alias (.attr 5))) (.seq (.bind 33 (.alias (.attr 4))) (.seq (.bind 32 (.fresh [])) (.seq (.bind 32 (.fresh [])) StreamProbabilisticAL_query_b42)))
def StreamProbabilisticAL_query_b44 : Prog :=
  .ite StreamProbabilisticAL_query_b43 .skip (.seq (.bind 26 (.alias (.loc 20))) StreamProbabilisticAL_query_b39)
def StreamProbabilisticAL_query_b45 : Prog :=
  .seq (.writeAttr 9 (.alias (.attr 5))) .skip
def StreamProbabilisticAL_query_b46 : Prog :=
  .seq (.writeAttr 9 (.fresh [])) .skip
def StreamProbabilisticAL_query_b47 : Prog :=
  .ite StreamProbabilisticAL_query_b45 StreamProbabilisticAL_query_b46 (.seq (.readAttr 9) (.seq (.readAttr 7) StreamProbabilisticAL_query_b44))
def StreamProbabilisticAL_query_b48 : Prog :=
  .seq (.writeAttr 8 (.deep (.attr 6))) .skip
def StreamProbabilisticAL_query_b49 : Prog :=
  .ite StreamProbabilisticAL_query_b48 .skip (.seq (.readAttr 8) (.seq (.bind 35 (.alias (.attr 8))) (.seq (.bind 34 (.alias (.loc 35))) (.seq (.writeAttr 8 (.alias (.loc 34))) StreamProbabilisticAL_query_b47))))
def StreamProbabilisticAL_query_b50 : Prog :=
  .seq (.bind 15 (.fresh [])) (.seq (.bind 14 (.fresh [])) (.seq (.bind 22 (.fresh [])) (.seq (.bind 35 (.fresh [])) (.seq (.bind 0 (.fresh [])) (.seq (.bind 19 (.fresh [])) (.seq (.bind 24 (.fresh [])) (.seq (.bind 20 (.alias (.loc 16))) (.seq (.bind 19 (.alias (.loc 1))) (.seq (.writeAttr 10 (.fresh [])) StreamProbabilisticAL_query_b49)))))))))
def StreamProbabilisticAL_query_b51 : Prog :=
  .seq (.bind 6 (.fresh [])) (.seq (.bind 5 (.fresh [])) (.seq (.bind 4 (.fresh [])) (.seq (.bind 31 (.fresh [])) (.seq (.bind 33 (.fresh [])) (.seq (.bind 30 (.fresh [])) (.seq (.bind 26 (.fresh [])) (.seq (.bind 20 (.fresh [])) (.seq (.bind 32 (.fresh [])) (.seq (.bind 3 (.fresh [])) StreamProbabilisticAL_query_b50)))))))))
def StreamProbabilisticAL_query_b52 : Prog :=
  .seq (.bind 17 (.fresh [])) (.seq (.bind 27 (.fresh [])) (.seq (.bind 28 (.fresh [])) (.seq (.bind 13 (.fresh [])) (.seq (.bind 12 (.fresh [])) (.seq (.bind 11 (.fresh [])) (.seq (.bind 10 (.fresh [])) (.seq (.bind 9 (.fresh [])) (.seq (.bind 8 (.fresh [])) (.seq (.bind 7 (.fresh [])) StreamProbabilisticAL_query_b51)))))))))
def StreamProbabilisticAL_query_b53 : Prog :=
  .seq (.bind 34 (.fresh [])) (.seq (.bind 29 (.fresh [])) (.seq (.bind 25 (.fresh [])) (.seq (.bind 23 (.fresh [])) (.seq (.bind 21 (.fresh [])) (.seq (.bind 2 (.fresh [])) (.seq (.bind 18 (.fresh [])) StreamProbabilisticAL_query_b52))))))
def summary_StreamProbabilisticAL_query : Summary :=
  { params := [0, 1, 2, 3, 4, 5, 6], closedAttrs := [], safeAttrs := [7, 10, 8], body := StreamProbabilisticAL_query_b53 }
theorem effects_StreamProbabilisticAL_query : FrameOK summary_StreamProbabilisticAL_query = true := by decide +kernel

-- StreamProbabilisticAL.update: locals 0=$ret1 1=budget_manager_@check_budget_manager1 2=budget@check_budget_manager1 3=default_budget_manager_dict@check_budget_manager1 4=budget_manager@check_budget_manager1
def StreamProbabilisticAL_update_b0 : Prog :=
  .seq (.bind 1 (.fresh [(.loc 2), (.sub (.loc 3) 0)])) .skip
def StreamProbabilisticAL_update_b1 : Prog :=
  .seq (.bind 1 (.deep (.loc 4))) .skip
def StreamProbabilisticAL_update_b2 : Prog :=
  .ite StreamProbabilisticAL_update_b0 StreamProbabilisticAL_update_b1 (.seq (.bind 0 (.alias (.loc 1))) (.seq (.writeAttr 7 (.alias (.loc 0))) .skip))
def StreamProbabilisticAL_update_b3 : Prog :=
  .seq (.bind 2 (.alias (.attr 5))) (.seq (.bind 4 (.alias (.attr 4))) (.seq (.bind 3 (.fresh [])) (.seq (.bind 3 (.fresh [])) StreamProbabilisticAL_update_b2)))
def StreamProbabilisticAL_update_b4 : Prog :=
  .ite StreamProbabilisticAL_update_b3 .skip (.seq (.readAttr 7) .skip)
def StreamProbabilisticAL_update_b5 : Prog :=
  .seq (.bind 0 (.fresh [])) (.seq (.bind 2 (.fresh [])) (.seq (.bind 4 (.fresh [])) (.seq (.bind 1 (.fresh [])) (.seq (.bind 3 (.fresh [])) (.seq (.readAttr 7) StreamProbabilisticAL_update_b4)))))
def summary_StreamProbabilisticAL_update : Summary :=
  { params := [0, 1, 2, 3, 4, 5, 6], closedAttrs := [], safeAttrs := [7, 10, 8], body := StreamProbabilisticAL_update_b5 }
theorem effects_StreamProbabilisticAL_update : FrameOK summary_StreamProbabilisticAL_update = true := by decide +kernel

/-! ### RandomVariableUncertainty  (skactiveml/stream/_uncertainty_zliobaite.py)
attributes: 0=budget_manager 1=budget 2=random_state 3=budget_manager_ 4=random_state_ 5=budget_ 6=n_features_in_
keys: 0=* -/
-- RandomVariableUncertainty.query: locals 0=clf 1=$ret3 2=clf@_validate_data1 3=$ret26 4=budget_manager_@check_budget_manager12 5=budget@check_budget_manager12 6=default_budget_manager_dict@check_budget_manager12 7=budget_manager@check_budget_manager12 8=default_budget_manager_kwargs@_validate_data1 9=random_seed@_validate_data1 10=$ret24 11=$ret21 12=clf@_validate_clf9 13=$t22 14=$t23 15=$ret16 16=random_state@check_random_state7 17=$ret13 18=random_state@check_random_state4
def RandomVariableUncertainty_query_b0 : Prog :=
  .seq (.bind 4 (.fresh [(.loc 5), (.sub (.loc 6) 0)])) .skip
def RandomVariableUncertainty_query_b1 : Prog :=
  .seq (.bind 4 (.deep (.loc 7))) .skip
def RandomVariableUncertainty_query_b2 : Prog :=
  .ite RandomVariableUncertainty_query_b0 RandomVariableUncertainty_query_b1 (.seq (.bind 3 (.alias (.loc 4))) (.seq (.writeAttr 3 (.alias (.loc 3))) .skip))
def RandomVariableUncertainty_query_b3 : Prog :=
  .seq (.bind 6 (.fresh [])) .skip
def RandomVariableUncertainty_query_b4 : Prog :=
  .seq (.mutate (.loc 6) []) .skip
def RandomVariableUncertainty_query_b5 : Prog :=
  .ite RandomVariableUncertainty_query_b4 .skip .skip
def RandomVariableUncertainty_query_b6 : Prog :=
  .ite RandomVariableUncertainty_query_b3 RandomVariableUncertainty_query_b5 RandomVariableUncertainty_query_b2
def RandomVariableUncertainty_query_b7 : Prog :=
  .seq (.readAttr 4) (.seq (.bind 9 (.fresh [])) (.seq (.bind 10 (.fresh [])) (.seq (.bind 8 (.alias (.loc 10))) (.seq (.mutate (.loc 8) [(.loc 9)]) (.seq (.bind 5 (.alias (.attr 1))) (.seq (.bind 7 (.alias (.attr 0))) (.seq (.bind 6 (.alias (.loc 8))) RandomVariableUncertainty_query_b6)))))))
def RandomVariableUncertainty_query_b8 : Prog :=
  .ite RandomVariableUncertainty_query_b7 .skip (.seq (.bind 1 (.alias (.loc 2))) (.seq (.bind 0 (.alias (.loc 1))) (.seq (.readAttr 3) (.seq (.callFit (.attr 3)) .skip))))
def RandomVariableUncertainty_query_b9 : Prog :=
  .seq (.bind 13 (.deep (.loc 12))) (.seq (.callFit (.loc 13)) (.seq (.bind 12 (.alias (.loc 13))) .skip))
def RandomVariableUncertainty_query_b10 : Prog :=
  .seq (.bind 14 (.deep (.loc 12))) (.seq (.callFit (.loc 14)) (.seq (.bind 12 (.alias (.loc 14))) .skip))
def RandomVariableUncertainty_query_b11 : Prog :=
  .ite RandomVariableUncertainty_query_b9 RandomVariableUncertainty_query_b10 .skip
def RandomVariableUncertainty_query_b12 : Prog :=
  .ite RandomVariableUncertainty_query_b11 .skip (.seq (.bind 11 (.alias (.loc 12))) (.seq (.bind 2 (.alias (.loc 11))) (.seq (.readAttr 3) RandomVariableUncertainty_query_b8)))
def RandomVariableUncertainty_query_b13 : Prog :=
  .seq (.writeAttr 4 (.deep (.attr 2))) .skip
def RandomVariableUncertainty_query_b14 : Prog :=
  .ite RandomVariableUncertainty_query_b13 .skip (.seq (.readAttr 4) (.seq (.bind 16 (.alias (.attr 4))) (.seq (.bind 15 (.alias (.loc 16))) (.seq (.writeAttr 4 (.alias (.loc 15))) (.seq (.bind 12 (.alias (.loc 2))) RandomVariableUncertainty_query_b12)))))
def RandomVariableUncertainty_query_b15 : Prog :=
  .seq (.writeAttr 5 (.alias (.attr 1))) .skip
def RandomVariableUncertainty_query_b16 : Prog :=
  .seq (.writeAttr 5 (.fresh [])) .skip
def RandomVariableUncertainty_query_b17 : Prog :=
  .ite RandomVariableUncertainty_query_b15 RandomVariableUncertainty_query_b16 (.seq (.readAttr 5) RandomVariableUncertainty_query_b14)
def RandomVariableUncertainty_query_b18 : Prog :=
  .seq (.writeAttr 4 (.deep (.attr 2))) .skip
def RandomVariableUncertainty_query_b19 : Prog :=
  .ite RandomVariableUncertainty_query_b18 .skip (.seq (.readAttr 4) (.seq (.bind 18 (.alias (.attr 4))) (.seq (.bind 17 (.alias (.loc 18))) (.seq (.writeAttr 4 (.alias (.loc 17))) RandomVariableUncertainty_query_b17))))
def RandomVariableUncertainty_query_b20 : Prog :=
  .seq (.bind 4 (.fresh [])) (.seq (.bind 12 (.fresh [])) (.seq (.bind 2 (.fresh [])) (.seq (.bind 6 (.fresh [])) (.seq (.bind 8 (.fresh [])) (.seq (.bind 9 (.fresh [])) (.seq (.bind 18 (.fresh [])) (.seq (.bind 16 (.fresh [])) (.seq (.bind 2 (.alias (.loc 0))) (.seq (.writeAttr 6 (.fresh [])) RandomVariableUncertainty_query_b19)))))))))
def RandomVariableUncertainty_query_b21 : Prog :=
  .seq (.bind 17 (.fresh [])) (.seq (.bind 15 (.fresh [])) (.seq (.bind 11 (.fresh [])) (.seq (.bind 10 (.fresh [])) (.seq (.bind 3 (.fresh [])) (.seq (.bind 1 (.fresh [])) (.seq (.bind 13 (.fresh [])) (.seq (.bind 14 (.fresh [])) (.seq (.bind 5 (.fresh [])) (.seq (.bind 7 (.fresh [])) RandomVariableUncertainty_query_b20)))))))))
def summary_RandomVariableUncertainty_query : Summary :=
  { params := [0, 1, 2], closedAttrs := [6, 4], safeAttrs := [3], body := RandomVariableUncertainty_query_b21 }
theorem effects_RandomVariableUncertainty_query : FrameOK summary_RandomVariableUncertainty_query = true := by decide +kernel

-- RandomVariableUncertainty.update: locals 0=$ret5 1=budget_manager_@check_budget_manager5 2=budget@check_budget_manager5 3=default_budget_manager_dict@check_budget_manager5 4=budget_manager@check_budget_manager5 5=default_budget_manager_kwargs 6=random_seed 7=$ret3 8=$ret2 9=random_state@check_random_state2
def RandomVariableUncertainty_update_b0 : Prog :=
  .seq (.bind 1 (.fresh [(.loc 2), (.sub (.loc 3) 0)])) .skip
def RandomVariableUncertainty_update_b1 : Prog :=
  .seq (.bind 1 (.deep (.loc 4))) .skip
def RandomVariableUncertainty_update_b2 : Prog :=
  .ite RandomVariableUncertainty_update_b0 RandomVariableUncertainty_update_b1 (.seq (.bind 0 (.alias (.loc 1))) (.seq (.writeAttr 3 (.alias (.loc 0))) .skip))
def RandomVariableUncertainty_update_b3 : Prog :=
  .seq (.bind 3 (.fresh [])) .skip
def RandomVariableUncertainty_update_b4 : Prog :=
  .seq (.mutate (.loc 3) []) .skip
def RandomVariableUncertainty_update_b5 : Prog :=
  .ite RandomVariableUncertainty_update_b4 .skip .skip
def RandomVariableUncertainty_update_b6 : Prog :=
  .ite RandomVariableUncertainty_update_b3 RandomVariableUncertainty_update_b5 RandomVariableUncertainty_update_b2
def RandomVariableUncertainty_update_b7 : Prog :=
  .seq (.bind 8 (.alias (.loc 9))) (.seq (.writeAttr 4 (.alias (.loc 8))) (.seq (.readAttr 4) (.seq (.bind 6 (.fresh [])) (.seq (.bind 7 (.fresh [])) (.seq (.bind 5 (.alias (.loc 7))) (.seq (.mutate (.loc 5) [(.loc 6)]) (.seq (.bind 2 (.alias (.attr 1))) (.seq (.bind 4 (.alias (.attr 0))) (.seq (.bind 3 (.alias (.loc 5))) RandomVariableUncertainty_update_b6)))))))))
def RandomVariableUncertainty_update_b8 : Prog :=
  .seq (.writeAttr 4 (.deep (.attr 2))) .skip
def RandomVariableUncertainty_update_b9 : Prog :=
  .ite RandomVariableUncertainty_update_b8 .skip (.seq (.readAttr 4) (.seq (.bind 9 (.alias (.attr 4))) RandomVariableUncertainty_update_b7))
def RandomVariableUncertainty_update_b10 : Prog :=
  .ite RandomVariableUncertainty_update_b9 .skip (.seq (.readAttr 3) .skip)
def RandomVariableUncertainty_update_b11 : Prog :=
  .seq (.bind 7 (.fresh [])) (.seq (.bind 0 (.fresh [])) (.seq (.bind 2 (.fresh [])) (.seq (.bind 4 (.fresh [])) (.seq (.bind 1 (.fresh [])) (.seq (.bind 3 (.fresh [])) (.seq (.bind 5 (.fresh [])) (.seq (.bind 6 (.fresh [])) (.seq (.bind 9 (.fresh [])) (.seq (.readAttr 3) RandomVariableUncertainty_update_b10)))))))))
def RandomVariableUncertainty_update_b12 : Prog :=
  .seq (.bind 8 (.fresh [])) RandomVariableUncertainty_update_b11
def summary_RandomVariableUncertainty_update : Summary :=
  { params := [0, 1, 2], closedAttrs := [6, 4], safeAttrs := [3], body := RandomVariableUncertainty_update_b12 }
theorem effects_RandomVariableUncertainty_update : FrameOK summary_RandomVariableUncertainty_update = true := by decide +kernel

/-! ### StreamDensityBasedAL  (skactiveml/stream/_density_uncertainty.py)
attributes: 0=dist_func 1=dist_func_dict 2=window_size 3=budget_manager 4=budget 5=random_state 6=window_ 7=min_dist_ 8=budget_manager_ 9=dist_func_dict_ 10=dist_func_ 11=random_state_ 12=budget_ 13=n_features_in_
keys: 0=* -/
-- StreamDensityBasedAL.query: locals 0=tmp_window 1=tmp_min_dist 2=x_cand 3=$t29 4=t 5=distances@_calculate_ldf11 6=$t27 7=distances@_calculate_ldf10 8=clf 9=$ret3 10=clf@_validate_data1 11=$c24 12=$ret23 13=budget_manager_@check_budget_manager9 14=budget@check_budget_manager9 15=default_budget_manager_dict@check_budget_manager9 16=budget_manager@check_budget_manager9 17=random_seed@_validate_data1 18=$ret19 19=clf@_validate_clf7 20=$t20 21=$t21 22=$ret13 23=random_state@check_random_state4
def StreamDensityBasedAL_query_b0 : Prog :=
  .seq (.bind 3 (.fresh [])) (.seq (.mutate (.loc 3) [(.loc 4)]) .skip)
def StreamDensityBasedAL_query_b1 : Prog :=
  .ite StreamDensityBasedAL_query_b0 .skip .skip
def StreamDensityBasedAL_query_b2 : Prog :=
  .seq (.readAttr 8) (.seq (.callFit (.attr 8)) StreamDensityBasedAL_query_b1)
def StreamDensityBasedAL_query_b3 : Prog :=
  .seq (.readAttr 8) (.seq (.callFit (.attr 8)) .skip)
def StreamDensityBasedAL_query_b4 : Prog :=
  .ite StreamDensityBasedAL_query_b2 StreamDensityBasedAL_query_b3 (.seq (.readAttr 6) (.seq (.mutate (.attr 6) [(.loc 2)]) .skip))
def StreamDensityBasedAL_query_b5 : Prog :=
  .seq (.readAttr 7) (.seq (.mutate (.attr 7) [(.sub (.loc 5) 0)]) .skip)
def StreamDensityBasedAL_query_b6 : Prog :=
  .ite StreamDensityBasedAL_query_b5 .skip .skip
def StreamDensityBasedAL_query_b7 : Prog :=
  .seq (.readAttr 7) (.seq (.mutate (.attr 7) [(.sub (.loc 5) 0)]) StreamDensityBasedAL_query_b6)
def StreamDensityBasedAL_query_b8 : Prog :=
  .ite StreamDensityBasedAL_query_b7 .skip (.seq (.readAttr 7) (.seq (.mutate (.attr 7) []) .skip))
def StreamDensityBasedAL_query_b9 : Prog :=
  .seq (.readAttr 6) (.seq (.bind 5 (.fresh [(.attr 6), (.loc 2)])) (.seq (.readAttr 7) StreamDensityBasedAL_query_b8))
def StreamDensityBasedAL_query_b10 : Prog :=
  .seq (.readAttr 7) (.seq (.mutate (.attr 7) []) .skip)
def StreamDensityBasedAL_query_b11 : Prog :=
  .ite StreamDensityBasedAL_query_b9 StreamDensityBasedAL_query_b10 StreamDensityBasedAL_query_b4
def StreamDensityBasedAL_query_b12 : Prog :=
  .seq (.bind 4 (.fresh [])) (.seq (.bind 2 (.fresh [])) (.seq (.readAttr 6) StreamDensityBasedAL_query_b11))
def StreamDensityBasedAL_query_b13 : Prog :=
  .ite StreamDensityBasedAL_query_b12 .skip .skip
def StreamDensityBasedAL_query_b14 : Prog :=
  .seq (.bind 6 (.fresh [])) (.seq (.mutate (.loc 6) [(.loc 4)]) .skip)
def StreamDensityBasedAL_query_b15 : Prog :=
  .ite StreamDensityBasedAL_query_b14 .skip .skip
def StreamDensityBasedAL_query_b16 : Prog :=
  .seq (.readAttr 8) (.seq (.callFit (.attr 8)) StreamDensityBasedAL_query_b15)
def StreamDensityBasedAL_query_b17 : Prog :=
  .seq (.readAttr 8) (.seq (.callFit (.attr 8)) .skip)
def StreamDensityBasedAL_query_b18 : Prog :=
  .ite StreamDensityBasedAL_query_b16 StreamDensityBasedAL_query_b17 (.seq (.readAttr 6) (.seq (.mutate (.attr 6) [(.loc 2)]) StreamDensityBasedAL_query_b13))
def StreamDensityBasedAL_query_b19 : Prog :=
  .seq (.readAttr 7) (.seq (.mutate (.attr 7) [(.sub (.loc 7) 0)]) .skip)
def StreamDensityBasedAL_query_b20 : Prog :=
  .ite StreamDensityBasedAL_query_b19 .skip .skip
def StreamDensityBasedAL_query_b21 : Prog :=
  .seq (.readAttr 7) (.seq (.mutate (.attr 7) [(.sub (.loc 7) 0)]) StreamDensityBasedAL_query_b20)
def StreamDensityBasedAL_query_b22 : Prog :=
  .ite StreamDensityBasedAL_query_b21 .skip (.seq (.readAttr 7) (.seq (.mutate (.attr 7) []) .skip))
def StreamDensityBasedAL_query_b23 : Prog :=
  .seq (.readAttr 6) (.seq (.bind 7 (.fresh [(.attr 6), (.loc 2)])) (.seq (.readAttr 7) StreamDensityBasedAL_query_b22))
def StreamDensityBasedAL_query_b24 : Prog :=
  .seq (.readAttr 7) (.seq (.mutate (.attr 7) []) .skip)
def StreamDensityBasedAL_query_b25 : Prog :=
  .ite StreamDensityBasedAL_query_b23 StreamDensityBasedAL_query_b24 StreamDensityBasedAL_query_b18
def StreamDensityBasedAL_query_b26 : Prog :=
  .seq (.bind 4 (.fresh [])) (.seq (.bind 2 (.fresh [])) (.seq (.readAttr 6) StreamDensityBasedAL_query_b25))
def StreamDensityBasedAL_query_b27 : Prog :=
  .ite StreamDensityBasedAL_query_b26 .skip (.seq (.writeAttr 7 (.alias (.loc 1))) (.seq (.writeAttr 6 (.alias (.loc 0))) .skip))
def StreamDensityBasedAL_query_b28 : Prog :=
  .seq (.writeAttr 9 (.fresh [])) .abort
def StreamDensityBasedAL_query_b29 : Prog :=
  .seq (.writeAttr 7 (.fresh [])) .skip
def StreamDensityBasedAL_query_b30 : Prog :=
  .ite StreamDensityBasedAL_query_b29 .skip (.seq (.bind 9 (.alias (.loc 10))) .skip)
def StreamDensityBasedAL_query_b31 : Prog :=
  .seq (.writeAttr 6 (.fresh [])) .skip
def StreamDensityBasedAL_query_b32 : Prog :=
  .ite StreamDensityBasedAL_query_b31 .skip StreamDensityBasedAL_query_b30
def StreamDensityBasedAL_query_b33 : Prog :=
  .ite StreamDensityBasedAL_query_b28 StreamDensityBasedAL_query_b32 .skip
def StreamDensityBasedAL_query_b34 : Prog :=
  .seq (.bind 11 (.alias (.attr 1))) .skip
def StreamDensityBasedAL_query_b35 : Prog :=
  .seq (.bind 11 (.fresh [])) .skip
def StreamDensityBasedAL_query_b36 : Prog :=
  .ite StreamDensityBasedAL_query_b34 StreamDensityBasedAL_query_b35 (.seq (.writeAttr 9 (.alias (.loc 11))) (.seq (.readAttr 9) StreamDensityBasedAL_query_b33))
def StreamDensityBasedAL_query_b37 : Prog :=
  .ite .abort StreamDensityBasedAL_query_b36 (.seq (.bind 8 (.alias (.loc 9))) (.seq (.readAttr 7) (.seq (.bind 1 (.copy (.attr 7))) (.seq (.readAttr 6) (.seq (.bind 0 (.copy (.attr 6))) StreamDensityBasedAL_query_b27)))))
def StreamDensityBasedAL_query_b38 : Prog :=
  .seq (.writeAttr 10 (.fresh [])) .skip
def StreamDensityBasedAL_query_b39 : Prog :=
  .seq (.writeAttr 10 (.alias (.attr 0))) .skip
def StreamDensityBasedAL_query_b40 : Prog :=
  .ite StreamDensityBasedAL_query_b38 StreamDensityBasedAL_query_b39 (.seq (.readAttr 10) StreamDensityBasedAL_query_b37)
def StreamDensityBasedAL_query_b41 : Prog :=
  .seq (.bind 13 (.fresh [(.loc 14), (.sub (.loc 15) 0)])) .skip
def StreamDensityBasedAL_query_b42 : Prog :=
  .seq (.bind 13 (.deep (.loc 16))) .skip
def StreamDensityBasedAL_query_b43 : Prog :=
  .ite StreamDensityBasedAL_query_b41 StreamDensityBasedAL_query_b42 (.seq (.bind 12 (.alias (.loc 13))) (.seq (.writeAttr 8 (.alias (.loc 12))) .skip))
def StreamDensityBasedAL_query_b44 : Prog :=
  .seq (.bind 15 (.fresh [])) .skip
def StreamDensityBasedAL_query_b45 : Prog :=
  .seq (.mutate (.loc 15) []) .skip
def StreamDensityBasedAL_query_b46 : Prog :=
  .ite StreamDensityBasedAL_query_b45 .skip .skip
def StreamDensityBasedAL_query_b47 : Prog :=
  .ite StreamDensityBasedAL_query_b44 StreamDensityBasedAL_query_b46 StreamDensityBasedAL_query_b43
def StreamDensityBasedAL_query_b48 : Prog :=
  .seq (.readAttr 11) (.seq (.bind 17 (.fresh [])) (.seq (.bind 14 (.alias (.attr 4))) (.seq (.bind 16 (.alias (.attr 3))) (.seq (.bind 15 (.fresh [(.loc 17)])) StreamDensityBasedAL_query_b47))))
def StreamDensityBasedAL_query_b49 : Prog :=
  .ite StreamDensityBasedAL_query_b48 .skip StreamDensityBasedAL_query_b40
def StreamDensityBasedAL_query_b50 : Prog :=
  .seq (.bind 20 (.deep (.loc 19))) (.seq (.callFit (.loc 20)) (.seq (.bind 19 (.alias (.loc 20))) .skip))
def StreamDensityBasedAL_query_b51 : Prog :=
  .seq (.bind 21 (.deep (.loc 19))) (.seq (.callFit (.loc 21)) (.seq (.bind 19 (.alias (.loc 21))) .skip))
def StreamDensityBasedAL_query_b52 : Prog :=
  .ite StreamDensityBasedAL_query_b50 StreamDensityBasedAL_query_b51 .skip
def StreamDensityBasedAL_query_b53 : Prog :=
  .ite StreamDensityBasedAL_query_b52 .skip (.seq (.bind 18 (.alias (.loc 19))) (.seq (.bind 10 (.alias (.loc 18))) (.seq (.readAttr 8) StreamDensityBasedAL_query_b49)))
def StreamDensityBasedAL_query_b54 : Prog :=
  .seq (.writeAttr 12 (.alias (.attr 4))) .skip
def StreamDensityBasedAL_query_b55 : Prog :=
  .seq (.writeAttr 12 (.fresh [])) .skip
def StreamDensityBasedAL_query_b56 : Prog :=
  .ite StreamDensityBasedAL_query_b54 StreamDensityBasedAL_query_b55 (.seq (.readAttr 12) (.seq (.bind 19 (.alias (.loc 10))) StreamDensityBasedAL_query_b53))
def StreamDensityBasedAL_query_b57 : Prog :=
  .seq (.writeAttr 11 (.deep (.attr 5))) .skip
def StreamDensityBasedAL_query_b58 : Prog :=
  .ite StreamDensityBasedAL_query_b57 .skip (.seq (.readAttr 11) (.seq (.bind 23 (.alias (.attr 11))) (.seq (.bind 22 (.alias (.loc 23))) (.seq (.writeAttr 11 (.alias (.loc 22))) StreamDensityBasedAL_query_b56))))
def StreamDensityBasedAL_query_b59 : Prog :=
  .seq (.bind 7 (.fresh [])) (.seq (.bind 5 (.fresh [])) (.seq (.bind 17 (.fresh [])) (.seq (.bind 23 (.fresh [])) (.seq (.bind 4 (.fresh [])) (.seq (.bind 1 (.fresh [])) (.seq (.bind 0 (.fresh [])) (.seq (.bind 2 (.fresh [])) (.seq (.bind 10 (.alias (.loc 8))) (.seq (.writeAttr 13 (.fresh [])) StreamDensityBasedAL_query_b58)))))))))
def StreamDensityBasedAL_query_b60 : Prog :=
  .seq (.bind 20 (.fresh [])) (.seq (.bind 21 (.fresh [])) (.seq (.bind 6 (.fresh [])) (.seq (.bind 3 (.fresh [])) (.seq (.bind 14 (.fresh [])) (.seq (.bind 16 (.fresh [])) (.seq (.bind 13 (.fresh [])) (.seq (.bind 19 (.fresh [])) (.seq (.bind 10 (.fresh [])) (.seq (.bind 15 (.fresh [])) StreamDensityBasedAL_query_b59)))))))))
def StreamDensityBasedAL_query_b61 : Prog :=
  .seq (.bind 11 (.fresh [])) (.seq (.bind 22 (.fresh [])) (.seq (.bind 18 (.fresh [])) (.seq (.bind 12 (.fresh [])) (.seq (.bind 9 (.fresh [])) StreamDensityBasedAL_query_b60))))
def summary_StreamDensityBasedAL_query : Summary :=
  { params := [0, 1, 2, 3, 4, 5], closedAttrs := [], safeAttrs := [8, 7, 13, 11, 6], body := StreamDensityBasedAL_query_b61 }
theorem effects_StreamDensityBasedAL_query : FrameOK summary_StreamDensityBasedAL_query = true := by decide +kernel

-- StreamDensityBasedAL.update: locals 0=x_cand 1=$t11 2=$t12 3=distances@_calculate_ldf6 4=candidates 5=$t8 6=$t9 7=distances@_calculate_ldf5 8=$c5 9=$ret4 10=budget_manager_@check_budget_manager4 11=budget@check_budget_manager4 12=default_budget_manager_dict@check_budget_manager4 13=budget_manager@check_budget_manager4 14=random_seed 15=$ret2 16=random_state@check_random_state2
def StreamDensityBasedAL_update_b0 : Prog :=
  .seq (.writeAttr 9 (.fresh [])) .abort
def StreamDensityBasedAL_update_b1 : Prog :=
  .seq (.bind 1 (.fresh [])) (.seq (.mutate (.loc 1) [(.loc 0)]) .skip)
def StreamDensityBasedAL_update_b2 : Prog :=
  .seq (.bind 2 (.fresh [])) (.seq (.mutate (.loc 2) []) .skip)
def StreamDensityBasedAL_update_b3 : Prog :=
  .ite StreamDensityBasedAL_update_b1 StreamDensityBasedAL_update_b2 (.seq (.readAttr 6) (.seq (.mutate (.attr 6) [(.loc 0)]) .skip))
def StreamDensityBasedAL_update_b4 : Prog :=
  .seq (.readAttr 7) (.seq (.mutate (.attr 7) [(.sub (.loc 3) 0)]) .skip)
def StreamDensityBasedAL_update_b5 : Prog :=
  .ite StreamDensityBasedAL_update_b4 .skip .skip
def StreamDensityBasedAL_update_b6 : Prog :=
  .seq (.readAttr 7) (.seq (.mutate (.attr 7) [(.sub (.loc 3) 0)]) StreamDensityBasedAL_update_b5)
def StreamDensityBasedAL_update_b7 : Prog :=
  .ite StreamDensityBasedAL_update_b6 .skip (.seq (.readAttr 7) (.seq (.mutate (.attr 7) []) .skip))
def StreamDensityBasedAL_update_b8 : Prog :=
  .seq (.readAttr 6) (.seq (.bind 3 (.fresh [(.attr 6), (.loc 0)])) (.seq (.readAttr 7) StreamDensityBasedAL_update_b7))
def StreamDensityBasedAL_update_b9 : Prog :=
  .seq (.readAttr 7) (.seq (.mutate (.attr 7) []) .skip)
def StreamDensityBasedAL_update_b10 : Prog :=
  .ite StreamDensityBasedAL_update_b8 StreamDensityBasedAL_update_b9 StreamDensityBasedAL_update_b3
def StreamDensityBasedAL_update_b11 : Prog :=
  .seq (.bind 0 (.alias (.sub (.loc 4) 0))) (.seq (.readAttr 6) StreamDensityBasedAL_update_b10)
def StreamDensityBasedAL_update_b12 : Prog :=
  .ite StreamDensityBasedAL_update_b11 .skip .skip
def StreamDensityBasedAL_update_b13 : Prog :=
  .seq (.bind 5 (.fresh [])) (.seq (.mutate (.loc 5) [(.loc 0)]) .skip)
def StreamDensityBasedAL_update_b14 : Prog :=
  .seq (.bind 6 (.fresh [])) (.seq (.mutate (.loc 6) []) .skip)
def StreamDensityBasedAL_update_b15 : Prog :=
  .ite StreamDensityBasedAL_update_b13 StreamDensityBasedAL_update_b14 (.seq (.readAttr 6) (.seq (.mutate (.attr 6) [(.loc 0)]) StreamDensityBasedAL_update_b12))
def StreamDensityBasedAL_update_b16 : Prog :=
  .seq (.readAttr 7) (.seq (.mutate (.attr 7) [(.sub (.loc 7) 0)]) .skip)
def StreamDensityBasedAL_update_b17 : Prog :=
  .ite StreamDensityBasedAL_update_b16 .skip .skip
def StreamDensityBasedAL_update_b18 : Prog :=
  .seq (.readAttr 7) (.seq (.mutate (.attr 7) [(.sub (.loc 7) 0)]) StreamDensityBasedAL_update_b17)
def StreamDensityBasedAL_update_b19 : Prog :=
  .ite StreamDensityBasedAL_update_b18 .skip (.seq (.readAttr 7) (.seq (.mutate (.attr 7) []) .skip))
def StreamDensityBasedAL_update_b20 : Prog :=
  .seq (.readAttr 6) (.seq (.bind 7 (.fresh [(.attr 6), (.loc 0)])) (.seq (.readAttr 7) StreamDensityBasedAL_update_b19))
def StreamDensityBasedAL_update_b21 : Prog :=
  .seq (.readAttr 7) (.seq (.mutate (.attr 7) []) .skip)
def StreamDensityBasedAL_update_b22 : Prog :=
  .ite StreamDensityBasedAL_update_b20 StreamDensityBasedAL_update_b21 StreamDensityBasedAL_update_b15
def StreamDensityBasedAL_update_b23 : Prog :=
  .seq (.bind 0 (.alias (.sub (.loc 4) 0))) (.seq (.readAttr 6) StreamDensityBasedAL_update_b22)
def StreamDensityBasedAL_update_b24 : Prog :=
  .ite StreamDensityBasedAL_update_b23 .skip (.seq (.readAttr 8) .skip)
def StreamDensityBasedAL_update_b25 : Prog :=
  .ite StreamDensityBasedAL_update_b0 StreamDensityBasedAL_update_b24 .skip
def StreamDensityBasedAL_update_b26 : Prog :=
  .seq (.bind 8 (.alias (.attr 1))) .skip
def StreamDensityBasedAL_update_b27 : Prog :=
  .seq (.bind 8 (.fresh [])) .skip
def StreamDensityBasedAL_update_b28 : Prog :=
  .ite StreamDensityBasedAL_update_b26 StreamDensityBasedAL_update_b27 (.seq (.writeAttr 9 (.alias (.loc 8))) (.seq (.readAttr 9) StreamDensityBasedAL_update_b25))
def StreamDensityBasedAL_update_b29 : Prog :=
  .ite .abort StreamDensityBasedAL_update_b28 .skip
def StreamDensityBasedAL_update_b30 : Prog :=
  .seq (.writeAttr 10 (.fresh [])) .skip
def StreamDensityBasedAL_update_b31 : Prog :=
  .seq (.writeAttr 10 (.alias (.attr 0))) .skip
def StreamDensityBasedAL_update_b32 : Prog :=
  .ite StreamDensityBasedAL_update_b30 StreamDensityBasedAL_update_b31 (.seq (.readAttr 10) StreamDensityBasedAL_update_b29)
def StreamDensityBasedAL_update_b33 : Prog :=
  .seq (.writeAttr 7 (.fresh [])) .skip
def StreamDensityBasedAL_update_b34 : Prog :=
  .ite StreamDensityBasedAL_update_b33 .skip StreamDensityBasedAL_update_b32
def StreamDensityBasedAL_update_b35 : Prog :=
  .seq (.writeAttr 6 (.fresh [])) .skip
def StreamDensityBasedAL_update_b36 : Prog :=
  .ite StreamDensityBasedAL_update_b35 .skip StreamDensityBasedAL_update_b34
def StreamDensityBasedAL_update_b37 : Prog :=
  .seq (.bind 10 (.fresh [(.loc 11), (.sub (.loc 12) 0)])) .skip
def StreamDensityBasedAL_update_b38 : Prog :=
  .seq (.bind 10 (.deep (.loc 13))) .skip
def StreamDensityBasedAL_update_b39 : Prog :=
  .ite StreamDensityBasedAL_update_b37 StreamDensityBasedAL_update_b38 (.seq (.bind 9 (.alias (.loc 10))) (.seq (.writeAttr 8 (.alias (.loc 9))) .skip))
def StreamDensityBasedAL_update_b40 : Prog :=
  .seq (.bind 12 (.fresh [])) .skip
def StreamDensityBasedAL_update_b41 : Prog :=
  .seq (.mutate (.loc 12) []) .skip
def StreamDensityBasedAL_update_b42 : Prog :=
  .ite StreamDensityBasedAL_update_b41 .skip .skip
def StreamDensityBasedAL_update_b43 : Prog :=
  .ite StreamDensityBasedAL_update_b40 StreamDensityBasedAL_update_b42 StreamDensityBasedAL_update_b39
def StreamDensityBasedAL_update_b44 : Prog :=
  .seq (.writeAttr 11 (.deep (.attr 5))) .skip
def StreamDensityBasedAL_update_b45 : Prog :=
  .ite StreamDensityBasedAL_update_b44 .skip (.seq (.readAttr 11) (.seq (.bind 16 (.alias (.attr 11))) (.seq (.bind 15 (.alias (.loc 16))) (.seq (.writeAttr 11 (.alias (.loc 15))) (.seq (.readAttr 11) (.seq (.bind 14 (.fresh [])) (.seq (.bind 11 (.alias (.attr 4))) (.seq (.bind 13 (.alias (.attr 3))) (.seq (.bind 12 (.fresh [(.loc 14)])) StreamDensityBasedAL_update_b43)))))))))
def StreamDensityBasedAL_update_b46 : Prog :=
  .ite StreamDensityBasedAL_update_b45 .skip StreamDensityBasedAL_update_b36
def StreamDensityBasedAL_update_b47 : Prog :=
  .seq (.bind 11 (.fresh [])) (.seq (.bind 13 (.fresh [])) (.seq (.bind 10 (.fresh [])) (.seq (.bind 12 (.fresh [])) (.seq (.bind 7 (.fresh [])) (.seq (.bind 3 (.fresh [])) (.seq (.bind 14 (.fresh [])) (.seq (.bind 16 (.fresh [])) (.seq (.bind 0 (.fresh [])) (.seq (.readAttr 8) StreamDensityBasedAL_update_b46)))))))))
def StreamDensityBasedAL_update_b48 : Prog :=
  .seq (.bind 8 (.fresh [])) (.seq (.bind 15 (.fresh [])) (.seq (.bind 9 (.fresh [])) (.seq (.bind 1 (.fresh [])) (.seq (.bind 2 (.fresh [])) (.seq (.bind 5 (.fresh [])) (.seq (.bind 6 (.fresh [])) StreamDensityBasedAL_update_b47))))))
def summary_StreamDensityBasedAL_update : Summary :=
  { params := [0, 1, 2, 3, 4, 5], closedAttrs := [], safeAttrs := [8, 7, 13, 11, 6], body := StreamDensityBasedAL_update_b48 }
theorem effects_StreamDensityBasedAL_update : FrameOK summary_StreamDensityBasedAL_update = true := by decide +kernel

/-! ### CognitiveDualQueryStrategy  (skactiveml/stream/_density_uncertainty.py)
attributes: 0=force_full_budget 1=dist_func 2=dist_func_dict 3=density_threshold 4=cognition_window_size 5=budget_manager 6=budget 7=random_state 8=t_ 9=min_dist_ 10=f_ 11=t_x_ 12=s_ 13=theta_ 14=cognition_window_ 15=budget_manager_ 16=dist_func_dict_ 17=dist_func_ 18=random_state_ 19=budget_ 20=n_features_in_
keys: 0=* -/
-- CognitiveDualQueryStrategy.query: locals 0=t 1=min_dist 2=f 3=tmp_t_x 4=tmp_s 5=tmp_theta 6=tmp_cognition_window 7=$t32 8=i 9=t_x@_calculate_ldf15 10=x_cand 11=remove_index@_calculate_ldf15 12=distances@_calculate_ldf15 13=$t30 14=t_x@_calculate_ldf14 15=remove_index@_calculate_ldf14 16=distances@_calculate_ldf14 17=clf 18=$ret3 19=clf@_validate_data1 20=$c28 21=$ret27 22=budget_manager_@check_budget_manager13 23=budget@check_budget_manager13 24=default_budget_manager_dict@check_budget_manager13 25=budget_manager@check_budget_manager13 26=default_budget_manager_kwargs@_validate_data1 27=random_seed@_validate_data1 28=$ret25 29=$ret21 30=clf@_validate_clf9 31=$t22 32=$t23 33=$ret16 34=random_state@check_random_state7 35=$ret13 36=random_state@check_random_state4
def CognitiveDualQueryStrategy_query_b0 : Prog :=
  .seq (.bind 7 (.fresh [])) (.seq (.mutate (.loc 7) [(.loc 8)]) .skip)
def CognitiveDualQueryStrategy_query_b1 : Prog :=
  .ite CognitiveDualQueryStrategy_query_b0 .skip .skip
def CognitiveDualQueryStrategy_query_b2 : Prog :=
  .seq (.readAttr 15) (.seq (.callFit (.attr 15)) CognitiveDualQueryStrategy_query_b1)
def CognitiveDualQueryStrategy_query_b3 : Prog :=
  .seq (.readAttr 15) (.seq (.callFit (.attr 15)) .skip)
def CognitiveDualQueryStrategy_query_b4 : Prog :=
  .ite CognitiveDualQueryStrategy_query_b3 .skip .skip
def CognitiveDualQueryStrategy_query_b5 : Prog :=
  .ite CognitiveDualQueryStrategy_query_b2 CognitiveDualQueryStrategy_query_b4 (.seq (.readAttr 8) (.seq (.writeAttr 8 (.fresh [])) .skip))
def CognitiveDualQueryStrategy_query_b6 : Prog :=
  .seq (.readAttr 14) (.seq (.mutate (.attr 14) [(.loc 10)]) (.seq (.readAttr 13) (.seq (.mutate (.attr 13) []) (.seq (.readAttr 12) (.seq (.mutate (.attr 12) []) (.seq (.readAttr 11) (.seq (.mutate (.attr 11) [(.loc 9)]) (.seq (.readAttr 10) (.seq (.mutate (.attr 10) []) CognitiveDualQueryStrategy_query_b5)))))))))
def CognitiveDualQueryStrategy_query_b7 : Prog :=
  .seq (.readAttr 13) (.seq (.mutate (.attr 13) [(.loc 11)]) (.seq (.readAttr 12) (.seq (.mutate (.attr 12) [(.loc 11)]) (.seq (.readAttr 11) (.seq (.mutate (.attr 11) [(.loc 11)]) (.seq (.readAttr 10) (.seq (.mutate (.attr 10) [(.loc 11)]) (.seq (.readAttr 9) (.seq (.mutate (.attr 9) [(.loc 11)]) .skip)))))))))
def CognitiveDualQueryStrategy_query_b8 : Prog :=
  .seq (.readAttr 12) (.seq (.bind 11 (.fresh [])) (.seq (.readAttr 14) (.seq (.mutate (.attr 14) [(.loc 11)]) CognitiveDualQueryStrategy_query_b7)))
def CognitiveDualQueryStrategy_query_b9 : Prog :=
  .ite CognitiveDualQueryStrategy_query_b8 .skip CognitiveDualQueryStrategy_query_b6
def CognitiveDualQueryStrategy_query_b10 : Prog :=
  .seq (.readAttr 14) (.seq (.readAttr 13) (.seq (.readAttr 10) (.seq (.mutate (.attr 10) []) (.seq (.readAttr 10) (.seq (.readAttr 11) (.seq (.readAttr 12) (.seq (.mutate (.attr 12) []) .skip)))))))
def CognitiveDualQueryStrategy_query_b11 : Prog :=
  .ite CognitiveDualQueryStrategy_query_b10 .skip .skip
def CognitiveDualQueryStrategy_query_b12 : Prog :=
  .seq (.readAttr 14) (.seq (.readAttr 13) (.seq (.readAttr 10) (.seq (.mutate (.attr 10) []) (.seq (.readAttr 10) (.seq (.readAttr 11) (.seq (.readAttr 12) (.seq (.mutate (.attr 12) []) CognitiveDualQueryStrategy_query_b11)))))))
def CognitiveDualQueryStrategy_query_b13 : Prog :=
  .ite CognitiveDualQueryStrategy_query_b12 .skip (.seq (.readAttr 14) CognitiveDualQueryStrategy_query_b9)
def CognitiveDualQueryStrategy_query_b14 : Prog :=
  .seq (.readAttr 11) (.seq (.mutate (.attr 11) [(.loc 9)]) (.seq (.readAttr 13) (.seq (.mutate (.attr 13) []) (.seq (.readAttr 9) (.seq (.mutate (.attr 9) [(.sub (.loc 12) 0)]) .skip)))))
def CognitiveDualQueryStrategy_query_b15 : Prog :=
  .ite CognitiveDualQueryStrategy_query_b14 .skip .skip
def CognitiveDualQueryStrategy_query_b16 : Prog :=
  .seq (.readAttr 11) (.seq (.mutate (.attr 11) [(.loc 9)]) (.seq (.readAttr 13) (.seq (.mutate (.attr 13) []) (.seq (.readAttr 9) (.seq (.mutate (.attr 9) [(.sub (.loc 12) 0)]) CognitiveDualQueryStrategy_query_b15)))))
def CognitiveDualQueryStrategy_query_b17 : Prog :=
  .ite CognitiveDualQueryStrategy_query_b16 .skip (.seq (.readAttr 9) (.seq (.mutate (.attr 9) []) .skip))
def CognitiveDualQueryStrategy_query_b18 : Prog :=
  .seq (.readAttr 14) (.seq (.bind 12 (.fresh [(.attr 14), (.loc 10)])) (.seq (.readAttr 9) CognitiveDualQueryStrategy_query_b17))
def CognitiveDualQueryStrategy_query_b19 : Prog :=
  .seq (.readAttr 9) (.seq (.mutate (.attr 9) []) .skip)
def CognitiveDualQueryStrategy_query_b20 : Prog :=
  .ite CognitiveDualQueryStrategy_query_b18 CognitiveDualQueryStrategy_query_b19 (.seq (.readAttr 14) CognitiveDualQueryStrategy_query_b13)
def CognitiveDualQueryStrategy_query_b21 : Prog :=
  .seq (.bind 8 (.fresh [])) (.seq (.bind 10 (.fresh [])) (.seq (.readAttr 8) (.seq (.bind 9 (.alias (.attr 8))) (.seq (.readAttr 14) CognitiveDualQueryStrategy_query_b20))))
def CognitiveDualQueryStrategy_query_b22 : Prog :=
  .ite CognitiveDualQueryStrategy_query_b21 .skip .skip
def CognitiveDualQueryStrategy_query_b23 : Prog :=
  .seq (.bind 13 (.fresh [])) (.seq (.mutate (.loc 13) [(.loc 8)]) .skip)
def CognitiveDualQueryStrategy_query_b24 : Prog :=
  .ite CognitiveDualQueryStrategy_query_b23 .skip .skip
def CognitiveDualQueryStrategy_query_b25 : Prog :=
  .seq (.readAttr 15) (.seq (.callFit (.attr 15)) CognitiveDualQueryStrategy_query_b24)
def CognitiveDualQueryStrategy_query_b26 : Prog :=
  .seq (.readAttr 15) (.seq (.callFit (.attr 15)) .skip)
def CognitiveDualQueryStrategy_query_b27 : Prog :=
  .ite CognitiveDualQueryStrategy_query_b26 .skip .skip
def CognitiveDualQueryStrategy_query_b28 : Prog :=
  .ite CognitiveDualQueryStrategy_query_b25 CognitiveDualQueryStrategy_query_b27 (.seq (.readAttr 8) (.seq (.writeAttr 8 (.fresh [])) CognitiveDualQueryStrategy_query_b22))
def CognitiveDualQueryStrategy_query_b29 : Prog :=
  .seq (.readAttr 14) (.seq (.mutate (.attr 14) [(.loc 10)]) (.seq (.readAttr 13) (.seq (.mutate (.attr 13) []) (.seq (.readAttr 12) (.seq (.mutate (.attr 12) []) (.seq (.readAttr 11) (.seq (.mutate (.attr 11) [(.loc 14)]) (.seq (.readAttr 10) (.seq (.mutate (.attr 10) []) CognitiveDualQueryStrategy_query_b28)))))))))
def CognitiveDualQueryStrategy_query_b30 : Prog :=
  .seq (.readAttr 13) (.seq (.mutate (.attr 13) [(.loc 15)]) (.seq (.readAttr 12) (.seq (.mutate (.attr 12) [(.loc 15)]) (.seq (.readAttr 11) (.seq (.mutate (.attr 11) [(.loc 15)]) (.seq (.readAttr 10) (.seq (.mutate (.attr 10) [(.loc 15)]) (.seq (.readAttr 9) (.seq (.mutate (.attr 9) [(.loc 15)]) .skip)))))))))
def CognitiveDualQueryStrategy_query_b31 : Prog :=
  .seq (.readAttr 12) (.seq (.bind 15 (.fresh [])) (.seq (.readAttr 14) (.seq (.mutate (.attr 14) [(.loc 15)]) CognitiveDualQueryStrategy_query_b30)))
def CognitiveDualQueryStrategy_query_b32 : Prog :=
  .ite CognitiveDualQueryStrategy_query_b31 .skip CognitiveDualQueryStrategy_query_b29
def CognitiveDualQueryStrategy_query_b33 : Prog :=
  .seq (.readAttr 14) (.seq (.readAttr 13) (.seq (.readAttr 10) (.seq (.mutate (.attr 10) []) (.seq (.readAttr 10) (.seq (.readAttr 11) (.seq (.readAttr 12) (.seq (.mutate (.attr 12) []) .skip)))))))
def CognitiveDualQueryStrategy_query_b34 : Prog :=
  .ite CognitiveDualQueryStrategy_query_b33 .skip .skip
def CognitiveDualQueryStrategy_query_b35 : Prog :=
  .seq (.readAttr 14) (.seq (.readAttr 13) (.seq (.readAttr 10) (.seq (.mutate (.attr 10) []) (.seq (.readAttr 10) (.seq (.readAttr 11) (.seq (.readAttr 12) (.seq (.mutate (.attr 12) []) CognitiveDualQueryStrategy_query_b34)))))))
def CognitiveDualQueryStrategy_query_b36 : Prog :=
  .ite CognitiveDualQueryStrategy_query_b35 .skip (.seq (.readAttr 14) CognitiveDualQueryStrategy_query_b32)
def CognitiveDualQueryStrategy_query_b37 : Prog :=
  .seq (.readAttr 11) (.seq (.mutate (.attr 11) [(.loc 14)]) (.seq (.readAttr 13) (.seq (.mutate (.attr 13) []) (.seq (.readAttr 9) (.seq (.mutate (.attr 9) [(.sub (.loc 16) 0)]) .skip)))))
def CognitiveDualQueryStrategy_query_b38 : Prog :=
  .ite CognitiveDualQueryStrategy_query_b37 .skip .skip
def CognitiveDualQueryStrategy_query_b39 : Prog :=
  .seq (.readAttr 11) (.seq (.mutate (.attr 11) [(.loc 14)]) (.seq (.readAttr 13) (.seq (.mutate (.attr 13) []) (.seq (.readAttr 9) (.seq (.mutate (.attr 9) [(.sub (.loc 16) 0)]) CognitiveDualQueryStrategy_query_b38)))))
def CognitiveDualQueryStrategy_query_b40 : Prog :=
  .ite CognitiveDualQueryStrategy_query_b39 .skip (.seq (.readAttr 9) (.seq (.mutate (.attr 9) []) .skip))
def CognitiveDualQueryStrategy_query_b41 : Prog :=
  .seq (.readAttr 14) (.seq (.bind 16 (.fresh [(.attr 14), (.loc 10)])) (.seq (.readAttr 9) CognitiveDualQueryStrategy_query_b40))
def CognitiveDualQueryStrategy_query_b42 : Prog :=
  .seq (.readAttr 9) (.seq (.mutate (.attr 9) []) .skip)
def CognitiveDualQueryStrategy_query_b43 : Prog :=
  .ite CognitiveDualQueryStrategy_query_b41 CognitiveDualQueryStrategy_query_b42 (.seq (.readAttr 14) CognitiveDualQueryStrategy_query_b36)
def CognitiveDualQueryStrategy_query_b44 : Prog :=
  .seq (.bind 8 (.fresh [])) (.seq (.bind 10 (.fresh [])) (.seq (.readAttr 8) (.seq (.bind 14 (.alias (.attr 8))) (.seq (.readAttr 14) CognitiveDualQueryStrategy_query_b43))))
def CognitiveDualQueryStrategy_query_b45 : Prog :=
  .ite CognitiveDualQueryStrategy_query_b44 .skip (.seq (.writeAttr 14 (.alias (.loc 6))) (.seq (.writeAttr 13 (.alias (.loc 5))) (.seq (.writeAttr 12 (.alias (.loc 4))) (.seq (.writeAttr 11 (.alias (.loc 3))) (.seq (.writeAttr 10 (.alias (.loc 2))) (.seq (.writeAttr 9 (.alias (.loc 1))) (.seq (.writeAttr 8 (.alias (.loc 0))) .skip)))))))
def CognitiveDualQueryStrategy_query_b46 : Prog :=
  .seq (.readAttr 12) (.seq (.bind 4 (.copy (.attr 12))) (.seq (.readAttr 11) (.seq (.bind 3 (.copy (.attr 11))) (.seq (.readAttr 10) (.seq (.bind 2 (.copy (.attr 10))) (.seq (.readAttr 9) (.seq (.bind 1 (.copy (.attr 9))) (.seq (.readAttr 8) (.seq (.bind 0 (.copy (.attr 8))) CognitiveDualQueryStrategy_query_b45)))))))))
def CognitiveDualQueryStrategy_query_b47 : Prog :=
  .seq (.writeAttr 16 (.fresh [])) .abort
def CognitiveDualQueryStrategy_query_b48 : Prog :=
  .seq (.writeAttr 11 (.fresh [])) .skip
def CognitiveDualQueryStrategy_query_b49 : Prog :=
  .ite CognitiveDualQueryStrategy_query_b48 .skip (.seq (.bind 18 (.alias (.loc 19))) .skip)
def CognitiveDualQueryStrategy_query_b50 : Prog :=
  .seq (.writeAttr 12 (.fresh [])) .skip
def CognitiveDualQueryStrategy_query_b51 : Prog :=
  .ite CognitiveDualQueryStrategy_query_b50 .skip CognitiveDualQueryStrategy_query_b49
def CognitiveDualQueryStrategy_query_b52 : Prog :=
  .seq (.writeAttr 13 (.fresh [])) .skip
def CognitiveDualQueryStrategy_query_b53 : Prog :=
  .ite CognitiveDualQueryStrategy_query_b52 .skip CognitiveDualQueryStrategy_query_b51
def CognitiveDualQueryStrategy_query_b54 : Prog :=
  .seq (.writeAttr 10 (.fresh [])) .skip
def CognitiveDualQueryStrategy_query_b55 : Prog :=
  .ite CognitiveDualQueryStrategy_query_b54 .skip CognitiveDualQueryStrategy_query_b53
def CognitiveDualQueryStrategy_query_b56 : Prog :=
  .seq (.writeAttr 14 (.fresh [])) .skip
def CognitiveDualQueryStrategy_query_b57 : Prog :=
  .ite CognitiveDualQueryStrategy_query_b56 .skip CognitiveDualQueryStrategy_query_b55
def CognitiveDualQueryStrategy_query_b58 : Prog :=
  .seq (.writeAttr 8 (.fresh [])) .skip
def CognitiveDualQueryStrategy_query_b59 : Prog :=
  .ite CognitiveDualQueryStrategy_query_b58 .skip CognitiveDualQueryStrategy_query_b57
def CognitiveDualQueryStrategy_query_b60 : Prog :=
  .seq (.writeAttr 9 (.fresh [])) .skip
def CognitiveDualQueryStrategy_query_b61 : Prog :=
  .ite CognitiveDualQueryStrategy_query_b60 .skip CognitiveDualQueryStrategy_query_b59
def CognitiveDualQueryStrategy_query_b62 : Prog :=
  .ite CognitiveDualQueryStrategy_query_b47 CognitiveDualQueryStrategy_query_b61 .skip
def CognitiveDualQueryStrategy_query_b63 : Prog :=
  .seq (.bind 20 (.alias (.attr 2))) .skip
def CognitiveDualQueryStrategy_query_b64 : Prog :=
  .seq (.bind 20 (.fresh [])) .skip
def CognitiveDualQueryStrategy_query_b65 : Prog :=
  .ite CognitiveDualQueryStrategy_query_b63 CognitiveDualQueryStrategy_query_b64 (.seq (.writeAttr 16 (.alias (.loc 20))) (.seq (.readAttr 16) CognitiveDualQueryStrategy_query_b62))
def CognitiveDualQueryStrategy_query_b66 : Prog :=
  .ite .abort CognitiveDualQueryStrategy_query_b65 (.seq (.bind 17 (.alias (.loc 18))) (.seq (.readAttr 14) (.seq (.bind 6 (.copy (.attr 14))) (.seq (.readAttr 13) (.seq (.bind 5 (.copy (.attr 13))) CognitiveDualQueryStrategy_query_b46)))))
def CognitiveDualQueryStrategy_query_b67 : Prog :=
  .seq (.writeAttr 17 (.fresh [])) .skip
def CognitiveDualQueryStrategy_query_b68 : Prog :=
  .seq (.writeAttr 17 (.alias (.attr 1))) .skip
def CognitiveDualQueryStrategy_query_b69 : Prog :=
  .ite CognitiveDualQueryStrategy_query_b67 CognitiveDualQueryStrategy_query_b68 (.seq (.readAttr 17) CognitiveDualQueryStrategy_query_b66)
def CognitiveDualQueryStrategy_query_b70 : Prog :=
  .seq (.bind 22 (.fresh [(.loc 23), (.sub (.loc 24) 0)])) .skip
def CognitiveDualQueryStrategy_query_b71 : Prog :=
  .seq (.bind 22 (.deep (.loc 25))) .skip
def CognitiveDualQueryStrategy_query_b72 : Prog :=
  .ite CognitiveDualQueryStrategy_query_b70 CognitiveDualQueryStrategy_query_b71 (.seq (.bind 21 (.alias (.loc 22))) (.seq (.writeAttr 15 (.alias (.loc 21))) .skip))
def CognitiveDualQueryStrategy_query_b73 : Prog :=
  .seq (.bind 24 (.fresh [])) .skip
def CognitiveDualQueryStrategy_query_b74 : Prog :=
  .seq (.mutate (.loc 24) []) .skip
def CognitiveDualQueryStrategy_query_b75 : Prog :=
  .ite CognitiveDualQueryStrategy_query_b74 .skip .skip
def CognitiveDualQueryStrategy_query_b76 : Prog :=
  .ite CognitiveDualQueryStrategy_query_b73 CognitiveDualQueryStrategy_query_b75 CognitiveDualQueryStrategy_query_b72
def CognitiveDualQueryStrategy_query_b77 : Prog :=
  .seq (.readAttr 18) (.seq (.bind 27 (.fresh [])) (.seq (.bind 28 (.fresh [])) (.seq (.bind 26 (.alias (.loc 28))) (.seq (.mutate (.loc 26) [(.loc 27)]) (.seq (.bind 23 (.alias (.attr 6))) (.seq (.bind 25 (.alias (.attr 5))) (.seq (.bind 24 (.alias (.loc 26))) CognitiveDualQueryStrategy_query_b76)))))))
def CognitiveDualQueryStrategy_query_b78 : Prog :=
  .ite CognitiveDualQueryStrategy_query_b77 .skip CognitiveDualQueryStrategy_query_b69
def CognitiveDualQueryStrategy_query_b79 : Prog :=
  .seq (.bind 31 (.deep (.loc 30))) (.seq (.callFit (.loc 31)) (.seq (.bind 30 (.alias (.loc 31))) .skip))
def CognitiveDualQueryStrategy_query_b80 : Prog :=
  .seq (.bind 32 (.deep (.loc 30))) (.seq (.callFit (.loc 32)) (.seq (.bind 30 (.alias (.loc 32))) .skip))
def CognitiveDualQueryStrategy_query_b81 : Prog :=
  .ite CognitiveDualQueryStrategy_query_b79 CognitiveDualQueryStrategy_query_b80 .skip
def CognitiveDualQueryStrategy_query_b82 : Prog :=
  .ite CognitiveDualQueryStrategy_query_b81 .skip (.seq (.bind 29 (.alias (.loc 30))) (.seq (.bind 19 (.alias (.loc 29))) (.seq (.readAttr 15) (.seq (.readAttr 15) CognitiveDualQueryStrategy_query_b78))))
def CognitiveDualQueryStrategy_query_b83 : Prog :=
  .seq (.writeAttr 18 (.deep (.attr 7))) .skip
def CognitiveDualQueryStrategy_query_b84 : Prog :=
  .ite CognitiveDualQueryStrategy_query_b83 .skip (.seq (.readAttr 18) (.seq (.bind 34 (.alias (.attr 18))) (.seq (.bind 33 (.alias (.loc 34))) (.seq (.writeAttr 18 (.alias (.loc 33))) (.seq (.bind 30 (.alias (.loc 19))) CognitiveDualQueryStrategy_query_b82)))))
def CognitiveDualQueryStrategy_query_b85 : Prog :=
  .seq (.writeAttr 19 (.alias (.attr 6))) .skip
def CognitiveDualQueryStrategy_query_b86 : Prog :=
  .seq (.writeAttr 19 (.fresh [])) .skip
def CognitiveDualQueryStrategy_query_b87 : Prog :=
  .ite CognitiveDualQueryStrategy_query_b85 CognitiveDualQueryStrategy_query_b86 (.seq (.readAttr 19) CognitiveDualQueryStrategy_query_b84)
def CognitiveDualQueryStrategy_query_b88 : Prog :=
  .seq (.writeAttr 18 (.deep (.attr 7))) .skip
def CognitiveDualQueryStrategy_query_b89 : Prog :=
  .ite CognitiveDualQueryStrategy_query_b88 .skip (.seq (.readAttr 18) (.seq (.bind 36 (.alias (.attr 18))) (.seq (.bind 35 (.alias (.loc 36))) (.seq (.writeAttr 18 (.alias (.loc 35))) CognitiveDualQueryStrategy_query_b87))))
def CognitiveDualQueryStrategy_query_b90 : Prog :=
  .seq (.bind 0 (.fresh [])) (.seq (.bind 14 (.fresh [])) (.seq (.bind 9 (.fresh [])) (.seq (.bind 6 (.fresh [])) (.seq (.bind 4 (.fresh [])) (.seq (.bind 3 (.fresh [])) (.seq (.bind 5 (.fresh [])) (.seq (.bind 10 (.fresh [])) (.seq (.bind 19 (.alias (.loc 17))) (.seq (.writeAttr 20 (.fresh [])) CognitiveDualQueryStrategy_query_b89)))))))))
def CognitiveDualQueryStrategy_query_b91 : Prog :=
  .seq (.bind 16 (.fresh [])) (.seq (.bind 12 (.fresh [])) (.seq (.bind 2 (.fresh [])) (.seq (.bind 8 (.fresh [])) (.seq (.bind 1 (.fresh [])) (.seq (.bind 27 (.fresh [])) (.seq (.bind 36 (.fresh [])) (.seq (.bind 34 (.fresh [])) (.seq (.bind 15 (.fresh [])) (.seq (.bind 11 (.fresh [])) CognitiveDualQueryStrategy_query_b90)))))))))
def CognitiveDualQueryStrategy_query_b92 : Prog :=
  .seq (.bind 32 (.fresh [])) (.seq (.bind 13 (.fresh [])) (.seq (.bind 7 (.fresh [])) (.seq (.bind 23 (.fresh [])) (.seq (.bind 25 (.fresh [])) (.seq (.bind 22 (.fresh [])) (.seq (.bind 30 (.fresh [])) (.seq (.bind 19 (.fresh [])) (.seq (.bind 24 (.fresh [])) (.seq (.bind 26 (.fresh [])) CognitiveDualQueryStrategy_query_b91)))))))))
def CognitiveDualQueryStrategy_query_b93 : Prog :=
  .seq (.bind 20 (.fresh [])) (.seq (.bind 35 (.fresh [])) (.seq (.bind 33 (.fresh [])) (.seq (.bind 29 (.fresh [])) (.seq (.bind 28 (.fresh [])) (.seq (.bind 21 (.fresh [])) (.seq (.bind 18 (.fresh [])) (.seq (.bind 31 (.fresh [])) CognitiveDualQueryStrategy_query_b92)))))))
def summary_CognitiveDualQueryStrategy_query : Summary :=
  { params := [0, 1, 2, 3, 4, 5, 6, 7], closedAttrs := [], safeAttrs := [15, 14, 10, 9, 20, 18, 12, 8, 11, 13], body := CognitiveDualQueryStrategy_query_b93 }
theorem effects_CognitiveDualQueryStrategy_query : FrameOK summary_CognitiveDualQueryStrategy_query = true := by decide +kernel

-- CognitiveDualQueryStrategy.update: locals 0=$t13 1=x_cand 2=new_positions 3=$t14 4=t_x@_calculate_ldf8 5=remove_index@_calculate_ldf8 6=distances@_calculate_ldf8 7=candidates 8=$t10 9=$t11 10=t_x@_calculate_ldf7 11=remove_index@_calculate_ldf7 12=distances@_calculate_ldf7 13=$c7 14=$ret6 15=budget_manager_@check_budget_manager6 16=budget@check_budget_manager6 17=default_budget_manager_dict@check_budget_manager6 18=budget_manager@check_budget_manager6 19=default_budget_manager_kwargs 20=random_seed 21=$ret4 22=$ret3 23=random_state@check_random_state3
def CognitiveDualQueryStrategy_update_b0 : Prog :=
  .seq (.writeAttr 16 (.fresh [])) .abort
def CognitiveDualQueryStrategy_update_b1 : Prog :=
  .ite .skip .abort (.seq (.readAttr 15) .skip)
def CognitiveDualQueryStrategy_update_b2 : Prog :=
  .seq (.mutate (.loc 2) []) (.seq (.bind 0 (.fresh [])) (.seq (.mutate (.loc 0) [(.loc 1)]) .skip))
def CognitiveDualQueryStrategy_update_b3 : Prog :=
  .seq (.mutate (.loc 2) []) (.seq (.bind 3 (.fresh [])) (.seq (.mutate (.loc 3) []) .skip))
def CognitiveDualQueryStrategy_update_b4 : Prog :=
  .ite CognitiveDualQueryStrategy_update_b3 .skip .skip
def CognitiveDualQueryStrategy_update_b5 : Prog :=
  .ite CognitiveDualQueryStrategy_update_b2 CognitiveDualQueryStrategy_update_b4 (.seq (.readAttr 8) (.seq (.writeAttr 8 (.fresh [])) .skip))
def CognitiveDualQueryStrategy_update_b6 : Prog :=
  .seq (.readAttr 14) (.seq (.mutate (.attr 14) [(.loc 1)]) (.seq (.readAttr 13) (.seq (.mutate (.attr 13) []) (.seq (.readAttr 12) (.seq (.mutate (.attr 12) []) (.seq (.readAttr 11) (.seq (.mutate (.attr 11) [(.loc 4)]) (.seq (.readAttr 10) (.seq (.mutate (.attr 10) []) CognitiveDualQueryStrategy_update_b5)))))))))
def CognitiveDualQueryStrategy_update_b7 : Prog :=
  .seq (.readAttr 13) (.seq (.mutate (.attr 13) [(.loc 5)]) (.seq (.readAttr 12) (.seq (.mutate (.attr 12) [(.loc 5)]) (.seq (.readAttr 11) (.seq (.mutate (.attr 11) [(.loc 5)]) (.seq (.readAttr 10) (.seq (.mutate (.attr 10) [(.loc 5)]) (.seq (.readAttr 9) (.seq (.mutate (.attr 9) [(.loc 5)]) .skip)))))))))
def CognitiveDualQueryStrategy_update_b8 : Prog :=
  .seq (.readAttr 12) (.seq (.bind 5 (.fresh [])) (.seq (.readAttr 14) (.seq (.mutate (.attr 14) [(.loc 5)]) CognitiveDualQueryStrategy_update_b7)))
def CognitiveDualQueryStrategy_update_b9 : Prog :=
  .ite CognitiveDualQueryStrategy_update_b8 .skip CognitiveDualQueryStrategy_update_b6
def CognitiveDualQueryStrategy_update_b10 : Prog :=
  .seq (.readAttr 14) (.seq (.readAttr 13) (.seq (.readAttr 10) (.seq (.mutate (.attr 10) []) (.seq (.readAttr 10) (.seq (.readAttr 11) (.seq (.readAttr 12) (.seq (.mutate (.attr 12) []) .skip)))))))
def CognitiveDualQueryStrategy_update_b11 : Prog :=
  .ite CognitiveDualQueryStrategy_update_b10 .skip .skip
def CognitiveDualQueryStrategy_update_b12 : Prog :=
  .seq (.readAttr 14) (.seq (.readAttr 13) (.seq (.readAttr 10) (.seq (.mutate (.attr 10) []) (.seq (.readAttr 10) (.seq (.readAttr 11) (.seq (.readAttr 12) (.seq (.mutate (.attr 12) []) CognitiveDualQueryStrategy_update_b11)))))))
def CognitiveDualQueryStrategy_update_b13 : Prog :=
  .ite CognitiveDualQueryStrategy_update_b12 .skip (.seq (.readAttr 14) CognitiveDualQueryStrategy_update_b9)
def CognitiveDualQueryStrategy_update_b14 : Prog :=
  .seq (.readAttr 11) (.seq (.mutate (.attr 11) [(.loc 4)]) (.seq (.readAttr 13) (.seq (.mutate (.attr 13) []) (.seq (.readAttr 9) (.seq (.mutate (.attr 9) [(.sub (.loc 6) 0)]) .skip)))))
def CognitiveDualQueryStrategy_update_b15 : Prog :=
  .ite CognitiveDualQueryStrategy_update_b14 .skip .skip
def CognitiveDualQueryStrategy_update_b16 : Prog :=
  .seq (.readAttr 11) (.seq (.mutate (.attr 11) [(.loc 4)]) (.seq (.readAttr 13) (.seq (.mutate (.attr 13) []) (.seq (.readAttr 9) (.seq (.mutate (.attr 9) [(.sub (.loc 6) 0)]) CognitiveDualQueryStrategy_update_b15)))))
def CognitiveDualQueryStrategy_update_b17 : Prog :=
  .ite CognitiveDualQueryStrategy_update_b16 .skip (.seq (.readAttr 9) (.seq (.mutate (.attr 9) []) .skip))
def CognitiveDualQueryStrategy_update_b18 : Prog :=
  .seq (.readAttr 14) (.seq (.bind 6 (.fresh [(.attr 14), (.loc 1)])) (.seq (.readAttr 9) CognitiveDualQueryStrategy_update_b17))
def CognitiveDualQueryStrategy_update_b19 : Prog :=
  .seq (.readAttr 9) (.seq (.mutate (.attr 9) []) .skip)
def CognitiveDualQueryStrategy_update_b20 : Prog :=
  .ite CognitiveDualQueryStrategy_update_b18 CognitiveDualQueryStrategy_update_b19 (.seq (.readAttr 14) CognitiveDualQueryStrategy_update_b13)
def CognitiveDualQueryStrategy_update_b21 : Prog :=
  .seq (.bind 1 (.alias (.sub (.loc 7) 0))) (.seq (.readAttr 8) (.seq (.bind 4 (.alias (.attr 8))) (.seq (.readAttr 14) CognitiveDualQueryStrategy_update_b20)))
def CognitiveDualQueryStrategy_update_b22 : Prog :=
  .ite CognitiveDualQueryStrategy_update_b21 .skip .skip
def CognitiveDualQueryStrategy_update_b23 : Prog :=
  .seq (.mutate (.loc 2) []) (.seq (.bind 8 (.fresh [])) (.seq (.mutate (.loc 8) [(.loc 1)]) .skip))
def CognitiveDualQueryStrategy_update_b24 : Prog :=
  .seq (.mutate (.loc 2) []) (.seq (.bind 9 (.fresh [])) (.seq (.mutate (.loc 9) []) .skip))
def CognitiveDualQueryStrategy_update_b25 : Prog :=
  .ite CognitiveDualQueryStrategy_update_b24 .skip .skip
def CognitiveDualQueryStrategy_update_b26 : Prog :=
  .ite CognitiveDualQueryStrategy_update_b23 CognitiveDualQueryStrategy_update_b25 (.seq (.readAttr 8) (.seq (.writeAttr 8 (.fresh [])) CognitiveDualQueryStrategy_update_b22))
def CognitiveDualQueryStrategy_update_b27 : Prog :=
  .seq (.readAttr 14) (.seq (.mutate (.attr 14) [(.loc 1)]) (.seq (.readAttr 13) (.seq (.mutate (.attr 13) []) (.seq (.readAttr 12) (.seq (.mutate (.attr 12) []) (.seq (.readAttr 11) (.seq (.mutate (.attr 11) [(.loc 10)]) (.seq (.readAttr 10) (.seq (.mutate (.attr 10) []) CognitiveDualQueryStrategy_update_b26)))))))))
def CognitiveDualQueryStrategy_update_b28 : Prog :=
  .seq (.readAttr 13) (.seq (.mutate (.attr 13) [(.loc 11)]) (.seq (.readAttr 12) (.seq (.mutate (.attr 12) [(.loc 11)]) (.seq (.readAttr 11) (.seq (.mutate (.attr 11) [(.loc 11)]) (.seq (.readAttr 10) (.seq (.mutate (.attr 10) [(.loc 11)]) (.seq (.readAttr 9) (.seq (.mutate (.attr 9) [(.loc 11)]) .skip)))))))))
def CognitiveDualQueryStrategy_update_b29 : Prog :=
  .seq (.readAttr 12) (.seq (.bind 11 (.fresh [])) (.seq (.readAttr 14) (.seq (.mutate (.attr 14) [(.loc 11)]) CognitiveDualQueryStrategy_update_b28)))
def CognitiveDualQueryStrategy_update_b30 : Prog :=
  .ite CognitiveDualQueryStrategy_update_b29 .skip CognitiveDualQueryStrategy_update_b27
def CognitiveDualQueryStrategy_update_b31 : Prog :=
  .seq (.readAttr 14) (.seq (.readAttr 13) (.seq (.readAttr 10) (.seq (.mutate (.attr 10) []) (.seq (.readAttr 10) (.seq (.readAttr 11) (.seq (.readAttr 12) (.seq (.mutate (.attr 12) []) .skip)))))))
def CognitiveDualQueryStrategy_update_b32 : Prog :=
  .ite CognitiveDualQueryStrategy_update_b31 .skip .skip
def CognitiveDualQueryStrategy_update_b33 : Prog :=
  .seq (.readAttr 14) (.seq (.readAttr 13) (.seq (.readAttr 10) (.seq (.mutate (.attr 10) []) (.seq (.readAttr 10) (.seq (.readAttr 11) (.seq (.readAttr 12) (.seq (.mutate (.attr 12) []) CognitiveDualQueryStrategy_update_b32)))))))
def CognitiveDualQueryStrategy_update_b34 : Prog :=
  .ite CognitiveDualQueryStrategy_update_b33 .skip (.seq (.readAttr 14) CognitiveDualQueryStrategy_update_b30)
def CognitiveDualQueryStrategy_update_b35 : Prog :=
  .seq (.readAttr 11) (.seq (.mutate (.attr 11) [(.loc 10)]) (.seq (.readAttr 13) (.seq (.mutate (.attr 13) []) (.seq (.readAttr 9) (.seq (.mutate (.attr 9) [(.sub (.loc 12) 0)]) .skip)))))
def CognitiveDualQueryStrategy_update_b36 : Prog :=
  .ite CognitiveDualQueryStrategy_update_b35 .skip .skip
def CognitiveDualQueryStrategy_update_b37 : Prog :=
  .seq (.readAttr 11) (.seq (.mutate (.attr 11) [(.loc 10)]) (.seq (.readAttr 13) (.seq (.mutate (.attr 13) []) (.seq (.readAttr 9) (.seq (.mutate (.attr 9) [(.sub (.loc 12) 0)]) CognitiveDualQueryStrategy_update_b36)))))
def CognitiveDualQueryStrategy_update_b38 : Prog :=
  .ite CognitiveDualQueryStrategy_update_b37 .skip (.seq (.readAttr 9) (.seq (.mutate (.attr 9) []) .skip))
def CognitiveDualQueryStrategy_update_b39 : Prog :=
  .seq (.readAttr 14) (.seq (.bind 12 (.fresh [(.attr 14), (.loc 1)])) (.seq (.readAttr 9) CognitiveDualQueryStrategy_update_b38))
def CognitiveDualQueryStrategy_update_b40 : Prog :=
  .seq (.readAttr 9) (.seq (.mutate (.attr 9) []) .skip)
def CognitiveDualQueryStrategy_update_b41 : Prog :=
  .ite CognitiveDualQueryStrategy_update_b39 CognitiveDualQueryStrategy_update_b40 (.seq (.readAttr 14) CognitiveDualQueryStrategy_update_b34)
def CognitiveDualQueryStrategy_update_b42 : Prog :=
  .seq (.bind 1 (.alias (.sub (.loc 7) 0))) (.seq (.readAttr 8) (.seq (.bind 10 (.alias (.attr 8))) (.seq (.readAttr 14) CognitiveDualQueryStrategy_update_b41)))
def CognitiveDualQueryStrategy_update_b43 : Prog :=
  .ite CognitiveDualQueryStrategy_update_b42 .skip CognitiveDualQueryStrategy_update_b1
def CognitiveDualQueryStrategy_update_b44 : Prog :=
  .seq (.writeAttr 11 (.fresh [])) .skip
def CognitiveDualQueryStrategy_update_b45 : Prog :=
  .ite CognitiveDualQueryStrategy_update_b44 .skip (.seq (.bind 2 (.fresh [])) CognitiveDualQueryStrategy_update_b43)
def CognitiveDualQueryStrategy_update_b46 : Prog :=
  .seq (.writeAttr 12 (.fresh [])) .skip
def CognitiveDualQueryStrategy_update_b47 : Prog :=
  .ite CognitiveDualQueryStrategy_update_b46 .skip CognitiveDualQueryStrategy_update_b45
def CognitiveDualQueryStrategy_update_b48 : Prog :=
  .seq (.writeAttr 13 (.fresh [])) .skip
def CognitiveDualQueryStrategy_update_b49 : Prog :=
  .ite CognitiveDualQueryStrategy_update_b48 .skip CognitiveDualQueryStrategy_update_b47
def CognitiveDualQueryStrategy_update_b50 : Prog :=
  .seq (.writeAttr 10 (.fresh [])) .skip
def CognitiveDualQueryStrategy_update_b51 : Prog :=
  .ite CognitiveDualQueryStrategy_update_b50 .skip CognitiveDualQueryStrategy_update_b49
def CognitiveDualQueryStrategy_update_b52 : Prog :=
  .seq (.writeAttr 14 (.fresh [])) .skip
def CognitiveDualQueryStrategy_update_b53 : Prog :=
  .ite CognitiveDualQueryStrategy_update_b52 .skip CognitiveDualQueryStrategy_update_b51
def CognitiveDualQueryStrategy_update_b54 : Prog :=
  .seq (.writeAttr 8 (.fresh [])) .skip
def CognitiveDualQueryStrategy_update_b55 : Prog :=
  .ite CognitiveDualQueryStrategy_update_b54 .skip CognitiveDualQueryStrategy_update_b53
def CognitiveDualQueryStrategy_update_b56 : Prog :=
  .seq (.writeAttr 9 (.fresh [])) .skip
def CognitiveDualQueryStrategy_update_b57 : Prog :=
  .ite CognitiveDualQueryStrategy_update_b56 .skip CognitiveDualQueryStrategy_update_b55
def CognitiveDualQueryStrategy_update_b58 : Prog :=
  .ite CognitiveDualQueryStrategy_update_b0 CognitiveDualQueryStrategy_update_b57 .skip
def CognitiveDualQueryStrategy_update_b59 : Prog :=
  .seq (.bind 13 (.alias (.attr 2))) .skip
def CognitiveDualQueryStrategy_update_b60 : Prog :=
  .seq (.bind 13 (.fresh [])) .skip
def CognitiveDualQueryStrategy_update_b61 : Prog :=
  .ite CognitiveDualQueryStrategy_update_b59 CognitiveDualQueryStrategy_update_b60 (.seq (.writeAttr 16 (.alias (.loc 13))) (.seq (.readAttr 16) CognitiveDualQueryStrategy_update_b58))
def CognitiveDualQueryStrategy_update_b62 : Prog :=
  .ite .abort CognitiveDualQueryStrategy_update_b61 .skip
def CognitiveDualQueryStrategy_update_b63 : Prog :=
  .seq (.writeAttr 17 (.fresh [])) .skip
def CognitiveDualQueryStrategy_update_b64 : Prog :=
  .seq (.writeAttr 17 (.alias (.attr 1))) .skip
def CognitiveDualQueryStrategy_update_b65 : Prog :=
  .ite CognitiveDualQueryStrategy_update_b63 CognitiveDualQueryStrategy_update_b64 (.seq (.readAttr 17) CognitiveDualQueryStrategy_update_b62)
def CognitiveDualQueryStrategy_update_b66 : Prog :=
  .seq (.bind 15 (.fresh [(.loc 16), (.sub (.loc 17) 0)])) .skip
def CognitiveDualQueryStrategy_update_b67 : Prog :=
  .seq (.bind 15 (.deep (.loc 18))) .skip
def CognitiveDualQueryStrategy_update_b68 : Prog :=
  .ite CognitiveDualQueryStrategy_update_b66 CognitiveDualQueryStrategy_update_b67 (.seq (.bind 14 (.alias (.loc 15))) (.seq (.writeAttr 15 (.alias (.loc 14))) .skip))
def CognitiveDualQueryStrategy_update_b69 : Prog :=
  .seq (.bind 17 (.fresh [])) .skip
def CognitiveDualQueryStrategy_update_b70 : Prog :=
  .seq (.mutate (.loc 17) []) .skip
def CognitiveDualQueryStrategy_update_b71 : Prog :=
  .ite CognitiveDualQueryStrategy_update_b70 .skip .skip
def CognitiveDualQueryStrategy_update_b72 : Prog :=
  .ite CognitiveDualQueryStrategy_update_b69 CognitiveDualQueryStrategy_update_b71 CognitiveDualQueryStrategy_update_b68
def CognitiveDualQueryStrategy_update_b73 : Prog :=
  .seq (.bind 22 (.alias (.loc 23))) (.seq (.writeAttr 18 (.alias (.loc 22))) (.seq (.readAttr 18) (.seq (.bind 20 (.fresh [])) (.seq (.bind 21 (.fresh [])) (.seq (.bind 19 (.alias (.loc 21))) (.seq (.mutate (.loc 19) [(.loc 20)]) (.seq (.bind 16 (.alias (.attr 6))) (.seq (.bind 18 (.alias (.attr 5))) (.seq (.bind 17 (.alias (.loc 19))) CognitiveDualQueryStrategy_update_b72)))))))))
def CognitiveDualQueryStrategy_update_b74 : Prog :=
  .seq (.writeAttr 18 (.deep (.attr 7))) .skip
def CognitiveDualQueryStrategy_update_b75 : Prog :=
  .ite CognitiveDualQueryStrategy_update_b74 .skip (.seq (.readAttr 18) (.seq (.bind 23 (.alias (.attr 18))) CognitiveDualQueryStrategy_update_b73))
def CognitiveDualQueryStrategy_update_b76 : Prog :=
  .ite CognitiveDualQueryStrategy_update_b75 .skip CognitiveDualQueryStrategy_update_b65
def CognitiveDualQueryStrategy_update_b77 : Prog :=
  .seq (.bind 2 (.fresh [])) (.seq (.bind 20 (.fresh [])) (.seq (.bind 23 (.fresh [])) (.seq (.bind 11 (.fresh [])) (.seq (.bind 5 (.fresh [])) (.seq (.bind 10 (.fresh [])) (.seq (.bind 4 (.fresh [])) (.seq (.bind 1 (.fresh [])) (.seq (.readAttr 15) (.seq (.readAttr 15) CognitiveDualQueryStrategy_update_b76)))))))))
def CognitiveDualQueryStrategy_update_b78 : Prog :=
  .seq (.bind 9 (.fresh [])) (.seq (.bind 0 (.fresh [])) (.seq (.bind 3 (.fresh [])) (.seq (.bind 16 (.fresh [])) (.seq (.bind 18 (.fresh [])) (.seq (.bind 15 (.fresh [])) (.seq (.bind 17 (.fresh [])) (.seq (.bind 19 (.fresh [])) (.seq (.bind 12 (.fresh [])) (.seq (.bind 6 (.fresh [])) CognitiveDualQueryStrategy_update_b77)))))))))
def CognitiveDualQueryStrategy_update_b79 : Prog :=
  .seq (.bind 13 (.fresh [])) (.seq (.bind 22 (.fresh [])) (.seq (.bind 21 (.fresh [])) (.seq (.bind 14 (.fresh [])) (.seq (.bind 8 (.fresh [])) CognitiveDualQueryStrategy_update_b78))))
def summary_CognitiveDualQueryStrategy_update : Summary :=
  { params := [0, 1, 2, 3, 4, 5, 6, 7], closedAttrs := [], safeAttrs := [15, 14, 10, 9, 20, 18, 12, 8, 11, 13], body := CognitiveDualQueryStrategy_update_b79 }
theorem effects_CognitiveDualQueryStrategy_update : FrameOK summary_CognitiveDualQueryStrategy_update = true := by decide +kernel

/-! ### CognitiveDualQueryStrategyRan  (skactiveml/stream/_density_uncertainty.py)
attributes: 0=force_full_budget 1=dist_func 2=dist_func_dict 3=density_threshold 4=cognition_window_size 5=budget 6=random_state 7=budget_manager 8=t_ 9=min_dist_ 10=f_ 11=t_x_ 12=s_ 13=theta_ 14=cognition_window_ 15=budget_manager_ 16=dist_func_dict_ 17=dist_func_ 18=random_state_ 19=budget_ 20=n_features_in_
keys: 0=* -/
-- CognitiveDualQueryStrategyRan.query: locals 0=t 1=min_dist 2=f 3=tmp_t_x 4=tmp_s 5=tmp_theta 6=tmp_cognition_window 7=$t32 8=i 9=t_x@_calculate_ldf15 10=x_cand 11=remove_index@_calculate_ldf15 12=distances@_calculate_ldf15 13=$t30 14=t_x@_calculate_ldf14 15=remove_index@_calculate_ldf14 16=distances@_calculate_ldf14 17=clf 18=$ret3 19=clf@_validate_data1 20=$c28 21=$ret27 22=budget_manager_@check_budget_manager13 23=budget@check_budget_manager13 24=default_budget_manager_dict@check_budget_manager13 25=budget_manager@check_budget_manager13 26=default_budget_manager_kwargs@_validate_data1 27=random_seed@_validate_data1 28=$ret25 29=$ret21 30=clf@_validate_clf9 31=$t22 32=$t23 33=$ret16 34=random_state@check_random_state7 35=$ret13 36=random_state@check_random_state4
def CognitiveDualQueryStrategyRan_query_b0 : Prog :=
  .seq (.bind 7 (.fresh [])) (.seq (.mutate (.loc 7) [(.loc 8)]) .skip)
def CognitiveDualQueryStrategyRan_query_b1 : Prog :=
  .ite CognitiveDualQueryStrategyRan_query_b0 .skip .skip
def CognitiveDualQueryStrategyRan_query_b2 : Prog :=
  .seq (.readAttr 15) (.seq (.callFit (.attr 15)) CognitiveDualQueryStrategyRan_query_b1)
def CognitiveDualQueryStrategyRan_query_b3 : Prog :=
  .seq (.readAttr 15) (.seq (.callFit (.attr 15)) .skip)
def CognitiveDualQueryStrategyRan_query_b4 : Prog :=
  .ite CognitiveDualQueryStrategyRan_query_b3 .skip .skip
def CognitiveDualQueryStrategyRan_query_b5 : Prog :=
  .ite CognitiveDualQueryStrategyRan_query_b2 CognitiveDualQueryStrategyRan_query_b4 (.seq (.readAttr 8) (.seq (.writeAttr 8 (.fresh [])) .skip))
def CognitiveDualQueryStrategyRan_query_b6 : Prog :=
  .seq (.readAttr 14) (.seq (.mutate (.attr 14) [(.loc 10)]) (.seq (.readAttr 13) (.seq (.mutate (.attr 13) []) (.seq (.readAttr 12) (.seq (.mutate (.attr 12) []) (.seq (.readAttr 11) (.seq (.mutate (.attr 11) [(.loc 9)]) (.seq (.readAttr 10) (.seq (.mutate (.attr 10) []) CognitiveDualQueryStrategyRan_query_b5)))))))))
def CognitiveDualQueryStrategyRan_query_b7 : Prog :=
  .seq (.readAttr 13) (.seq (.mutate (.attr 13) [(.loc 11)]) (.seq (.readAttr 12) (.seq (.mutate (.attr 12) [(.loc 11)]) (.seq (.readAttr 11) (.seq (.mutate (.attr 11) [(.loc 11)]) (.seq (.readAttr 10) (.seq (.mutate (.attr 10) [(.loc 11)]) (.seq (.readAttr 9) (.seq (.mutate (.attr 9) [(.loc 11)]) .skip)))))))))
def CognitiveDualQueryStrategyRan_query_b8 : Prog :=
  .seq (.readAttr 12) (.seq (.bind 11 (.fresh [])) (.seq (.readAttr 14) (.seq (.mutate (.attr 14) [(.loc 11)]) CognitiveDualQueryStrategyRan_query_b7)))
def CognitiveDualQueryStrategyRan_query_b9 : Prog :=
  .ite CognitiveDualQueryStrategyRan_query_b8 .skip CognitiveDualQueryStrategyRan_query_b6
def CognitiveDualQueryStrategyRan_query_b10 : Prog :=
  .seq (.readAttr 14) (.seq (.readAttr 13) (.seq (.readAttr 10) (.seq (.mutate (.attr 10) []) (.seq (.readAttr 10) (.seq (.readAttr 11) (.seq (.readAttr 12) (.seq (.mutate (.attr 12) []) .skip)))))))
def CognitiveDualQueryStrategyRan_query_b11 : Prog :=
  .ite CognitiveDualQueryStrategyRan_query_b10 .skip .skip
def CognitiveDualQueryStrategyRan_query_b12 : Prog :=
  .seq (.readAttr 14) (.seq (.readAttr 13) (.seq (.readAttr 10) (.seq (.mutate (.attr 10) []) (.seq (.readAttr 10) (.seq (.readAttr 11) (.seq (.readAttr 12) (.seq (.mutate (.attr 12) []) CognitiveDualQueryStrategyRan_query_b11)))))))
def CognitiveDualQueryStrategyRan_query_b13 : Prog :=
  .ite CognitiveDualQueryStrategyRan_query_b12 .skip (.seq (.readAttr 14) CognitiveDualQueryStrategyRan_query_b9)
def CognitiveDualQueryStrategyRan_query_b14 : Prog :=
  .seq (.readAttr 11) (.seq (.mutate (.attr 11) [(.loc 9)]) (.seq (.readAttr 13) (.seq (.mutate (.attr 13) []) (.seq (.readAttr 9) (.seq (.mutate (.attr 9) [(.sub (.loc 12) 0)]) .skip)))))
def CognitiveDualQueryStrategyRan_query_b15 : Prog :=
  .ite CognitiveDualQueryStrategyRan_query_b14 .skip .skip
def CognitiveDualQueryStrategyRan_query_b16 : Prog :=
  .seq (.readAttr 11) (.seq (.mutate (.attr 11) [(.loc 9)]) (.seq (.readAttr 13) (.seq (.mutate (.attr 13) []) (.seq (.readAttr 9) (.seq (.mutate (.attr 9) [(.sub (.loc 12) 0)]) CognitiveDualQueryStrategyRan_query_b15)))))
def CognitiveDualQueryStrategyRan_query_b17 : Prog :=
  .ite CognitiveDualQueryStrategyRan_query_b16 .skip (.seq (.readAttr 9) (.seq (.mutate (.attr 9) []) .skip))
def CognitiveDualQueryStrategyRan_query_b18 : Prog :=
  .seq (.readAttr 14) (.seq (.bind 12 (.fresh [(.attr 14), (.loc 10)])) (.seq (.readAttr 9) CognitiveDualQueryStrategyRan_query_b17))
def CognitiveDualQueryStrategyRan_query_b19 : Prog :=
  .seq (.readAttr 9) (.seq (.mutate (.attr 9) []) .skip)
def CognitiveDualQueryStrategyRan_query_b20 : Prog :=
  .ite CognitiveDualQueryStrategyRan_query_b18 CognitiveDualQueryStrategyRan_query_b19 (.seq (.readAttr 14) CognitiveDualQueryStrategyRan_query_b13)
def CognitiveDualQueryStrategyRan_query_b21 : Prog :=
  .seq (.bind 8 (.fresh [])) (.seq (.bind 10 (.fresh [])) (.seq (.readAttr 8) (.seq (.bind 9 (.alias (.attr 8))) (.seq (.readAttr 14) CognitiveDualQueryStrategyRan_query_b20))))
def CognitiveDualQueryStrategyRan_query_b22 : Prog :=
  .ite CognitiveDualQueryStrategyRan_query_b21 .skip .skip
def CognitiveDualQueryStrategyRan_query_b23 : Prog :=
  .seq (.bind 13 (.fresh [])) (.seq (.mutate (.loc 13) [(.loc 8)]) .skip)
def CognitiveDualQueryStrategyRan_query_b24 : Prog :=
  .ite CognitiveDualQueryStrategyRan_query_b23 .skip .skip
def CognitiveDualQueryStrategyRan_query_b25 : Prog :=
  .seq (.readAttr 15) (.seq (.callFit (.attr 15)) CognitiveDualQueryStrategyRan_query_b24)
def CognitiveDualQueryStrategyRan_query_b26 : Prog :=
  .seq (.readAttr 15) (.seq (.callFit (.attr 15)) .skip)
def CognitiveDualQueryStrategyRan_query_b27 : Prog :=
  .ite CognitiveDualQueryStrategyRan_query_b26 .skip .skip
def CognitiveDualQueryStrategyRan_query_b28 : Prog :=
  .ite CognitiveDualQueryStrategyRan_query_b25 CognitiveDualQueryStrategyRan_query_b27 (.seq (.readAttr 8) (.seq (.writeAttr 8 (.fresh [])) CognitiveDualQueryStrategyRan_query_b22))
def CognitiveDualQueryStrategyRan_query_b29 : Prog :=
  .seq (.readAttr 14) (.seq (.mutate (.attr 14) [(.loc 10)]) (.seq (.readAttr 13) (.seq (.mutate (.attr 13) []) (.seq (.readAttr 12) (.seq (.mutate (.attr 12) []) (.seq (.readAttr 11) (.seq (.mutate (.attr 11) [(.loc 14)]) (.seq (.readAttr 10) (.seq (.mutate (.attr 10) []) CognitiveDualQueryStrategyRan_query_b28)))))))))
def CognitiveDualQueryStrategyRan_query_b30 : Prog :=
  .seq (.readAttr 13) (.seq (.mutate (.attr 13) [(.loc 15)]) (.seq (.readAttr 12) (.seq (.mutate (.attr 12) [(.loc 15)]) (.seq (.readAttr 11) (.seq (.mutate (.attr 11) [(.loc 15)]) (.seq (.readAttr 10) (.seq (.mutate (.attr 10) [(.loc 15)]) (.seq (.readAttr 9) (.seq (.mutate (.attr 9) [(.loc 15)]) .skip)))))))))
def CognitiveDualQueryStrategyRan_query_b31 : Prog :=
  .seq (.readAttr 12) (.seq (.bind 15 (.fresh [])) (.seq (.readAttr 14) (.seq (.mutate (.attr 14) [(.loc 15)]) CognitiveDualQueryStrategyRan_query_b30)))
def CognitiveDualQueryStrategyRan_query_b32 : Prog :=
  .ite CognitiveDualQueryStrategyRan_query_b31 .skip CognitiveDualQueryStrategyRan_query_b29
def CognitiveDualQueryStrategyRan_query_b33 : Prog :=
  .seq (.readAttr 14) (.seq (.readAttr 13) (.seq (.readAttr 10) (.seq (.mutate (.attr 10) []) (.seq (.readAttr 10) (.seq (.readAttr 11) (.seq (.readAttr 12) (.seq (.mutate (.attr 12) []) .skip)))))))
def CognitiveDualQueryStrategyRan_query_b34 : Prog :=
  .ite CognitiveDualQueryStrategyRan_query_b33 .skip .skip
def CognitiveDualQueryStrategyRan_query_b35 : Prog :=
  .seq (.readAttr 14) (.seq (.readAttr 13) (.seq (.readAttr 10) (.seq (.mutate (.attr 10) []) (.seq (.readAttr 10) (.seq (.readAttr 11) (.seq (.readAttr 12) (.seq (.mutate (.attr 12) []) CognitiveDualQueryStrategyRan_query_b34)))))))
def CognitiveDualQueryStrategyRan_query_b36 : Prog :=
  .ite CognitiveDualQueryStrategyRan_query_b35 .skip (.seq (.readAttr 14) CognitiveDualQueryStrategyRan_query_b32)
def CognitiveDualQueryStrategyRan_query_b37 : Prog :=
  .seq (.readAttr 11) (.seq (.mutate (.attr 11) [(.loc 14)]) (.seq (.readAttr 13) (.seq (.mutate (.attr 13) []) (.seq (.readAttr 9) (.seq (.mutate (.attr 9) [(.sub (.loc 16) 0)]) .skip)))))
def CognitiveDualQueryStrategyRan_query_b38 : Prog :=
  .ite CognitiveDualQueryStrategyRan_query_b37 .skip .skip
def CognitiveDualQueryStrategyRan_query_b39 : Prog :=
  .seq (.readAttr 11) (.seq (.mutate (.attr 11) [(.loc 14)]) (.seq (.readAttr 13) (.seq (.mutate (.attr 13) []) (.seq (.readAttr 9) (.seq (.mutate (.attr 9) [(.sub (.loc 16) 0)]) CognitiveDualQueryStrategyRan_query_b38)))))
def CognitiveDualQueryStrategyRan_query_b40 : Prog :=
  .ite CognitiveDualQueryStrategyRan_query_b39 .skip (.seq (.readAttr 9) (.seq (.mutate (.attr 9) []) .skip))
def CognitiveDualQueryStrategyRan_query_b41 : Prog :=
  .seq (.readAttr 14) (.seq (.bind 16 (.fresh [(.attr 14), (.loc 10)])) (.seq (.readAttr 9) CognitiveDualQueryStrategyRan_query_b40))
def CognitiveDualQueryStrategyRan_query_b42 : Prog :=
  .seq (.readAttr 9) (.seq (.mutate (.attr 9) []) .skip)
def CognitiveDualQueryStrategyRan_query_b43 : Prog :=
  .ite CognitiveDualQueryStrategyRan_query_b41 CognitiveDualQueryStrategyRan_query_b42 (.seq (.readAttr 14) CognitiveDualQueryStrategyRan_query_b36)
def CognitiveDualQueryStrategyRan_query_b44 : Prog :=
  .seq (.bind 8 (.fresh [])) (.seq (.bind 10 (.fresh [])) (.seq (.readAttr 8) (.seq (.bind 14 (.alias (.attr 8))) (.seq (.readAttr 14) CognitiveDualQueryStrategyRan_query_b43))))
def CognitiveDualQueryStrategyRan_query_b45 : Prog :=
  .ite CognitiveDualQueryStrategyRan_query_b44 .skip (.seq (.writeAttr 14 (.alias (.loc 6))) (.seq (.writeAttr 13 (.alias (.loc 5))) (.seq (.writeAttr 12 (.alias (.loc 4))) (.seq (.writeAttr 11 (.alias (.loc 3))) (.seq (.writeAttr 10 (.alias (.loc 2))) (.seq (.writeAttr 9 (.alias (.loc 1))) (.seq (.writeAttr 8 (.alias (.loc 0))) .skip)))))))
def CognitiveDualQueryStrategyRan_query_b46 : Prog :=
  .seq (.readAttr 12) (.seq (.bind 4 (.copy (.attr 12))) (.seq (.readAttr 11) (.seq (.bind 3 (.copy (.attr 11))) (.seq (.readAttr 10) (.seq (.bind 2 (.copy (.attr 10))) (.seq (.readAttr 9) (.seq (.bind 1 (.copy (.attr 9))) (.seq (.readAttr 8) (.seq (.bind 0 (.copy (.attr 8))) CognitiveDualQueryStrategyRan_query_b45)))))))))
def CognitiveDualQueryStrategyRan_query_b47 : Prog :=
  .seq (.writeAttr 16 (.fresh [])) .abort
def CognitiveDualQueryStrategyRan_query_b48 : Prog :=
  .seq (.writeAttr 11 (.fresh [])) .skip
def CognitiveDualQueryStrategyRan_query_b49 : Prog :=
  .ite CognitiveDualQueryStrategyRan_query_b48 .skip (.seq (.bind 18 (.alias (.loc 19))) .skip)
def CognitiveDualQueryStrategyRan_query_b50 : Prog :=
  .seq (.writeAttr 12 (.fresh [])) .skip
def CognitiveDualQueryStrategyRan_query_b51 : Prog :=
  .ite CognitiveDualQueryStrategyRan_query_b50 .skip CognitiveDualQueryStrategyRan_query_b49
def CognitiveDualQueryStrategyRan_query_b52 : Prog :=
  .seq (.writeAttr 13 (.fresh [])) .skip
def CognitiveDualQueryStrategyRan_query_b53 : Prog :=
  .ite CognitiveDualQueryStrategyRan_query_b52 .skip CognitiveDualQueryStrategyRan_query_b51
def CognitiveDualQueryStrategyRan_query_b54 : Prog :=
  .seq (.writeAttr 10 (.fresh [])) .skip
def CognitiveDualQueryStrategyRan_query_b55 : Prog :=
  .ite CognitiveDualQueryStrategyRan_query_b54 .skip CognitiveDualQueryStrategyRan_query_b53
def CognitiveDualQueryStrategyRan_query_b56 : Prog :=
  .seq (.writeAttr 14 (.fresh [])) .skip
def CognitiveDualQueryStrategyRan_query_b57 : Prog :=
  .ite CognitiveDualQueryStrategyRan_query_b56 .skip CognitiveDualQueryStrategyRan_query_b55
def CognitiveDualQueryStrategyRan_query_b58 : Prog :=
  .seq (.writeAttr 8 (.fresh [])) .skip
def CognitiveDualQueryStrategyRan_query_b59 : Prog :=
  .ite CognitiveDualQueryStrategyRan_query_b58 .skip CognitiveDualQueryStrategyRan_query_b57
def CognitiveDualQueryStrategyRan_query_b60 : Prog :=
  .seq (.writeAttr 9 (.fresh [])) .skip
def CognitiveDualQueryStrategyRan_query_b61 : Prog :=
  .ite CognitiveDualQueryStrategyRan_query_b60 .skip CognitiveDualQueryStrategyRan_query_b59
def CognitiveDualQueryStrategyRan_query_b62 : Prog :=
  .ite CognitiveDualQueryStrategyRan_query_b47 CognitiveDualQueryStrategyRan_query_b61 .skip
def CognitiveDualQueryStrategyRan_query_b63 : Prog :=
  .seq (.bind 20 (.alias (.attr 2))) .skip
def CognitiveDualQueryStrategyRan_query_b64 : Prog :=
  .seq (.bind 20 (.fresh [])) .skip
def CognitiveDualQueryStrategyRan_query_b65 : Prog :=
  .ite CognitiveDualQueryStrategyRan_query_b63 CognitiveDualQueryStrategyRan_query_b64 (.seq (.writeAttr 16 (.alias (.loc 20))) (.seq (.readAttr 16) CognitiveDualQueryStrategyRan_query_b62))
def CognitiveDualQueryStrategyRan_query_b66 : Prog :=
  .ite .abort CognitiveDualQueryStrategyRan_query_b65 (.seq (.bind 17 (.alias (.loc 18))) (.seq (.readAttr 14) (.seq (.bind 6 (.copy (.attr 14))) (.seq (.readAttr 13) (.seq (.bind 5 (.copy (.attr 13))) CognitiveDualQueryStrategyRan_query_b46)))))
def CognitiveDualQueryStrategyRan_query_b67 : Prog :=
  .seq (.writeAttr 17 (.fresh [])) .skip
def CognitiveDualQueryStrategyRan_query_b68 : Prog :=
  .seq (.writeAttr 17 (.alias (.attr 1))) .skip
def CognitiveDualQueryStrategyRan_query_b69 : Prog :=
  .ite CognitiveDualQueryStrategyRan_query_b67 CognitiveDualQueryStrategyRan_query_b68 (.seq (.readAttr 17) CognitiveDualQueryStrategyRan_query_b66)
def CognitiveDualQueryStrategyRan_query_b70 : Prog :=
  .seq (.bind 22 (.fresh [(.loc 23), (.sub (.loc 24) 0)])) .skip
def CognitiveDualQueryStrategyRan_query_b71 : Prog :=
  .seq (.bind 22 (.deep (.loc 25))) .skip
def CognitiveDualQueryStrategyRan_query_b72 : Prog :=
  .ite CognitiveDualQueryStrategyRan_query_b70 CognitiveDualQueryStrategyRan_query_b71 (.seq (.bind 21 (.alias (.loc 22))) (.seq (.writeAttr 15 (.alias (.loc 21))) .skip))
def CognitiveDualQueryStrategyRan_query_b73 : Prog :=
  .seq (.bind 24 (.fresh [])) .skip
def CognitiveDualQueryStrategyRan_query_b74 : Prog :=
  .seq (.mutate (.loc 24) []) .skip
def CognitiveDualQueryStrategyRan_query_b75 : Prog :=
  .ite CognitiveDualQueryStrategyRan_query_b74 .skip .skip
def CognitiveDualQueryStrategyRan_query_b76 : Prog :=
  .ite CognitiveDualQueryStrategyRan_query_b73 CognitiveDualQueryStrategyRan_query_b75 CognitiveDualQueryStrategyRan_query_b72
def CognitiveDualQueryStrategyRan_query_b77 : Prog :=
  .seq (.readAttr 18) (.seq (.bind 27 (.fresh [])) (.seq (.bind 28 (.fresh [])) (.seq (.bind 26 (.alias (.loc 28))) (.seq (.mutate (.loc 26) [(.loc 27)]) (.seq (.bind 23 (.alias (.attr 5))) (.seq (.bind 25 (.alias (.attr 7))) (.seq (.bind 24 (.alias (.loc 26))) CognitiveDualQueryStrategyRan_query_b76)))))))
def CognitiveDualQueryStrategyRan_query_b78 : Prog :=
  .ite CognitiveDualQueryStrategyRan_query_b77 .skip CognitiveDualQueryStrategyRan_query_b69
def CognitiveDualQueryStrategyRan_query_b79 : Prog :=
  .seq (.bind 31 (.deep (.loc 30))) (.seq (.callFit (.loc 31)) (.seq (.bind 30 (.alias (.loc 31))) .skip))
def CognitiveDualQueryStrategyRan_query_b80 : Prog :=
  .seq (.bind 32 (.deep (.loc 30))) (.seq (.callFit (.loc 32)) (.seq (.bind 30 (.alias (.loc 32))) .skip))
def CognitiveDualQueryStrategyRan_query_b81 : Prog :=
  .ite CognitiveDualQueryStrategyRan_query_b79 CognitiveDualQueryStrategyRan_query_b80 .skip
def CognitiveDualQueryStrategyRan_query_b82 : Prog :=
  .ite CognitiveDualQueryStrategyRan_query_b81 .skip (.seq (.bind 29 (.alias (.loc 30))) (.seq (.bind 19 (.alias (.loc 29))) (.seq (.readAttr 15) (.seq (.readAttr 15) CognitiveDualQueryStrategyRan_query_b78))))
def CognitiveDualQueryStrategyRan_query_b83 : Prog :=
  .seq (.writeAttr 18 (.deep (.attr 6))) .skip
def CognitiveDualQueryStrategyRan_query_b84 : Prog :=
  .ite CognitiveDualQueryStrategyRan_query_b83 .skip (.seq (.readAttr 18) (.seq (.bind 34 (.alias (.attr 18))) (.seq (.bind 33 (.alias (.loc 34))) (.seq (.writeAttr 18 (.alias (.loc 33))) (.seq (.bind 30 (.alias (.loc 19))) CognitiveDualQueryStrategyRan_query_b82)))))
def CognitiveDualQueryStrategyRan_query_b85 : Prog :=
  .seq (.writeAttr 19 (.alias (.attr 5))) .skip
def CognitiveDualQueryStrategyRan_query_b86 : Prog :=
  .seq (.writeAttr 19 (.fresh [])) .skip
def CognitiveDualQueryStrategyRan_query_b87 : Prog :=
  .ite CognitiveDualQueryStrategyRan_query_b85 CognitiveDualQueryStrategyRan_query_b86 (.seq (.readAttr 19) CognitiveDualQueryStrategyRan_query_b84)
def CognitiveDualQueryStrategyRan_query_b88 : Prog :=
  .seq (.writeAttr 18 (.deep (.attr 6))) .skip
def CognitiveDualQueryStrategyRan_query_b89 : Prog :=
  .ite CognitiveDualQueryStrategyRan_query_b88 .skip (.seq (.readAttr 18) (.seq (.bind 36 (.alias (.attr 18))) (.seq (.bind 35 (.alias (.loc 36))) (.seq (.writeAttr 18 (.alias (.loc 35))) CognitiveDualQueryStrategyRan_query_b87))))
def CognitiveDualQueryStrategyRan_query_b90 : Prog :=
  .seq (.bind 0 (.fresh [])) (.seq (.bind 14 (.fresh [])) (.seq (.bind 9 (.fresh [])) (.seq (.bind 6 (.fresh [])) (.seq (.bind 4 (.fresh [])) (.seq (.bind 3 (.fresh [])) (.seq (.bind 5 (.fresh [])) (.seq (.bind 10 (.fresh [])) (.seq (.bind 19 (.alias (.loc 17))) (.seq (.writeAttr 20 (.fresh [])) CognitiveDualQueryStrategyRan_query_b89)))))))))
def CognitiveDualQueryStrategyRan_query_b91 : Prog :=
  .seq (.bind 16 (.fresh [])) (.seq (.bind 12 (.fresh [])) (.seq (.bind 2 (.fresh [])) (.seq (.bind 8 (.fresh [])) (.seq (.bind 1 (.fresh [])) (.seq (.bind 27 (.fresh [])) (.seq (.bind 36 (.fresh [])) (.seq (.bind 34 (.fresh [])) (.seq (.bind 15 (.fresh [])) (.seq (.bind 11 (.fresh [])) CognitiveDualQueryStrategyRan_query_b90)))))))))
def CognitiveDualQueryStrategyRan_query_b92 : Prog :=
  .seq (.bind 32 (.fresh [])) (.seq (.bind 13 (.fresh [])) (.seq (.bind 7 (.fresh [])) (.seq (.bind 23 (.fresh [])) (.seq (.bind 25 (.fresh [])) (.seq (.bind 22 (.fresh [])) (.seq (.bind 30 (.fresh [])) (.seq (.bind 19 (.fresh [])) (.seq (.bind 24 (.fresh [])) (.seq (.bind 26 (.fresh [])) CognitiveDualQueryStrategyRan_query_b91)))))))))
def CognitiveDualQueryStrategyRan_query_b93 : Prog :=
  .seq (.bind 20 (.fresh [])) (.seq (.bind 35 (.fresh [])) (.seq (.bind 33 (.fresh [])) (.seq (.bind 29 (.fresh [])) (.seq (.bind 28 (.fresh [])) (.seq (.bind 21 (.fresh [])) (.seq (.bind 18 (.fresh [])) (.seq (.bind 31 (.fresh [])) CognitiveDualQueryStrategyRan_query_b92)))))))
def summary_CognitiveDualQueryStrategyRan_query : Summary :=
  { params := [0, 1, 2, 3, 4, 5, 6, 7], closedAttrs := [], safeAttrs := [15, 14, 10, 9, 20, 18, 12, 8, 11, 13], body := CognitiveDualQueryStrategyRan_query_b93 }
theorem effects_CognitiveDualQueryStrategyRan_query : FrameOK summary_CognitiveDualQueryStrategyRan_query = true := by decide +kernel

-- CognitiveDualQueryStrategyRan.update: locals 0=$t13 1=x_cand 2=new_positions 3=$t14 4=t_x@_calculate_ldf8 5=remove_index@_calculate_ldf8 6=distances@_calculate_ldf8 7=candidates 8=$t10 9=$t11 10=t_x@_calculate_ldf7 11=remove_index@_calculate_ldf7 12=distances@_calculate_ldf7 13=$c7 14=$ret6 15=budget_manager_@check_budget_manager6 16=budget@check_budget_manager6 17=default_budget_manager_dict@check_budget_manager6 18=budget_manager@check_budget_manager6 19=default_budget_manager_kwargs 20=random_seed 21=$ret4 22=$ret3 23=random_state@check_random_state3
def CognitiveDualQueryStrategyRan_update_b0 : Prog :=
  .seq (.writeAttr 16 (.fresh [])) .abort
def CognitiveDualQueryStrategyRan_update_b1 : Prog :=
  .ite .skip .abort (.seq (.readAttr 15) .skip)
def CognitiveDualQueryStrategyRan_update_b2 : Prog :=
  .seq (.mutate (.loc 2) []) (.seq (.bind 0 (.fresh [])) (.seq (.mutate (.loc 0) [(.loc 1)]) .skip))
def CognitiveDualQueryStrategyRan_update_b3 : Prog :=
  .seq (.mutate (.loc 2) []) (.seq (.bind 3 (.fresh [])) (.seq (.mutate (.loc 3) []) .skip))
def CognitiveDualQueryStrategyRan_update_b4 : Prog :=
  .ite CognitiveDualQueryStrategyRan_update_b3 .skip .skip
def CognitiveDualQueryStrategyRan_update_b5 : Prog :=
  .ite CognitiveDualQueryStrategyRan_update_b2 CognitiveDualQueryStrategyRan_update_b4 (.seq (.readAttr 8) (.seq (.writeAttr 8 (.fresh [])) .skip))
def CognitiveDualQueryStrategyRan_update_b6 : Prog :=
  .seq (.readAttr 14) (.seq (.mutate (.attr 14) [(.loc 1)]) (.seq (.readAttr 13) (.seq (.mutate (.attr 13) []) (.seq (.readAttr 12) (.seq (.mutate (.attr 12) []) (.seq (.readAttr 11) (.seq (.mutate (.attr 11) [(.loc 4)]) (.seq (.readAttr 10) (.seq (.mutate (.attr 10) []) CognitiveDualQueryStrategyRan_update_b5)))))))))
def CognitiveDualQueryStrategyRan_update_b7 : Prog :=
  .seq (.readAttr 13) (.seq (.mutate (.attr 13) [(.loc 5)]) (.seq (.readAttr 12) (.seq (.mutate (.attr 12) [(.loc 5)]) (.seq (.readAttr 11) (.seq (.mutate (.attr 11) [(.loc 5)]) (.seq (.readAttr 10) (.seq (.mutate (.attr 10) [(.loc 5)]) (.seq (.readAttr 9) (.seq (.mutate (.attr 9) [(.loc 5)]) .skip)))))))))
def CognitiveDualQueryStrategyRan_update_b8 : Prog :=
  .seq (.readAttr 12) (.seq (.bind 5 (.fresh [])) (.seq (.readAttr 14) (.seq (.mutate (.attr 14) [(.loc 5)]) CognitiveDualQueryStrategyRan_update_b7)))
def CognitiveDualQueryStrategyRan_update_b9 : Prog :=
  .ite CognitiveDualQueryStrategyRan_update_b8 .skip CognitiveDualQueryStrategyRan_update_b6
def CognitiveDualQueryStrategyRan_update_b10 : Prog :=
  .seq (.readAttr 14) (.seq (.readAttr 13) (.seq (.readAttr 10) (.seq (.mutate (.attr 10) []) (.seq (.readAttr 10) (.seq (.readAttr 11) (.seq (.readAttr 12) (.seq (.mutate (.attr 12) []) .skip)))))))
def CognitiveDualQueryStrategyRan_update_b11 : Prog :=
  .ite CognitiveDualQueryStrategyRan_update_b10 .skip .skip
def CognitiveDualQueryStrategyRan_update_b12 : Prog :=
  .seq (.readAttr 14) (.seq (.readAttr 13) (.seq (.readAttr 10) (.seq (.mutate (.attr 10) []) (.seq (.readAttr 10) (.seq (.readAttr 11) (.seq (.readAttr 12) (.seq (.mutate (.attr 12) []) CognitiveDualQueryStrategyRan_update_b11)))))))
def CognitiveDualQueryStrategyRan_update_b13 : Prog :=
  .ite CognitiveDualQueryStrategyRan_update_b12 .skip (.seq (.readAttr 14) CognitiveDualQueryStrategyRan_update_b9)
def CognitiveDualQueryStrategyRan_update_b14 : Prog :=
  .seq (.readAttr 11) (.seq (.mutate (.attr 11) [(.loc 4)]) (.seq (.readAttr 13) (.seq (.mutate (.attr 13) []) (.seq (.readAttr 9) (.seq (.mutate (.attr 9) [(.sub (.loc 6) 0)]) .skip)))))
def CognitiveDualQueryStrategyRan_update_b15 : Prog :=
  .ite CognitiveDualQueryStrategyRan_update_b14 .skip .skip
def CognitiveDualQueryStrategyRan_update_b16 : Prog :=
  .seq (.readAttr 11) (.seq (.mutate (.attr 11) [(.loc 4)]) (.seq (.readAttr 13) (.seq (.mutate (.attr 13) []) (.seq (.readAttr 9) (.seq (.mutate (.attr 9) [(.sub (.loc 6) 0)]) CognitiveDualQueryStrategyRan_update_b15)))))
def CognitiveDualQueryStrategyRan_update_b17 : Prog :=
  .ite CognitiveDualQueryStrategyRan_update_b16 .skip (.seq (.readAttr 9) (.seq (.mutate (.attr 9) []) .skip))
def CognitiveDualQueryStrategyRan_update_b18 : Prog :=
  .seq (.readAttr 14) (.seq (.bind 6 (.fresh [(.attr 14), (.loc 1)])) (.seq (.readAttr 9) CognitiveDualQueryStrategyRan_update_b17))
def CognitiveDualQueryStrategyRan_update_b19 : Prog :=
  .seq (.readAttr 9) (.seq (.mutate (.attr 9) []) .skip)
def CognitiveDualQueryStrategyRan_update_b20 : Prog :=
  .ite CognitiveDualQueryStrategyRan_update_b18 CognitiveDualQueryStrategyRan_update_b19 (.seq (.readAttr 14) CognitiveDualQueryStrategyRan_update_b13)
def CognitiveDualQueryStrategyRan_update_b21 : Prog :=
  .seq (.bind 1 (.alias (.sub (.loc 7) 0))) (.seq (.readAttr 8) (.seq (.bind 4 (.alias (.attr 8))) (.seq (.readAttr 14) CognitiveDualQueryStrategyRan_update_b20)))
def CognitiveDualQueryStrategyRan_update_b22 : Prog :=
  .ite CognitiveDualQueryStrategyRan_update_b21 .skip .skip
def CognitiveDualQueryStrategyRan_update_b23 : Prog :=
  .seq (.mutate (.loc 2) []) (.seq (.bind 8 (.fresh [])) (.seq (.mutate (.loc 8) [(.loc 1)]) .skip))
def CognitiveDualQueryStrategyRan_update_b24 : Prog :=
  .seq (.mutate (.loc 2) []) (.seq (.bind 9 (.fresh [])) (.seq (.mutate (.loc 9) []) .skip))
def CognitiveDualQueryStrategyRan_update_b25 : Prog :=
  .ite CognitiveDualQueryStrategyRan_update_b24 .skip .skip
def CognitiveDualQueryStrategyRan_update_b26 : Prog :=
  .ite CognitiveDualQueryStrategyRan_update_b23 CognitiveDualQueryStrategyRan_update_b25 (.seq (.readAttr 8) (.seq (.writeAttr 8 (.fresh [])) CognitiveDualQueryStrategyRan_update_b22))
def CognitiveDualQueryStrategyRan_update_b27 : Prog :=
  .seq (.readAttr 14) (.seq (.mutate (.attr 14) [(.loc 1)]) (.seq (.readAttr 13) (.seq (.mutate (.attr 13) []) (.seq (.readAttr 12) (.seq (.mutate (.attr 12) []) (.seq (.readAttr 11) (.seq (.mutate (.attr 11) [(.loc 10)]) (.seq (.readAttr 10) (.seq (.mutate (.attr 10) []) CognitiveDualQueryStrategyRan_update_b26)))))))))
def CognitiveDualQueryStrategyRan_update_b28 : Prog :=
  .seq (.readAttr 13) (.seq (.mutate (.attr 13) [(.loc 11)]) (.seq (.readAttr 12) (.seq (.mutate (.attr 12) [(.loc 11)]) (.seq (.readAttr 11) (.seq (.mutate (.attr 11) [(.loc 11)]) (.seq (.readAttr 10) (.seq (.mutate (.attr 10) [(.loc 11)]) (.seq (.readAttr 9) (.seq (.mutate (.attr 9) [(.loc 11)]) .skip)))))))))
def CognitiveDualQueryStrategyRan_update_b29 : Prog :=
  .seq (.readAttr 12) (.seq (.bind 11 (.fresh [])) (.seq (.readAttr 14) (.seq (.mutate (.attr 14) [(.loc 11)]) CognitiveDualQueryStrategyRan_update_b28)))
def CognitiveDualQueryStrategyRan_update_b30 : Prog :=
  .ite CognitiveDualQueryStrategyRan_update_b29 .skip CognitiveDualQueryStrategyRan_update_b27
def CognitiveDualQueryStrategyRan_update_b31 : Prog :=
  .seq (.readAttr 14) (.seq (.readAttr 13) (.seq (.readAttr 10) (.seq (.mutate (.attr 10) []) (.seq (.readAttr 10) (.seq (.readAttr 11) (.seq (.readAttr 12) (.seq (.mutate (.attr 12) []) .skip)))))))
def CognitiveDualQueryStrategyRan_update_b32 : Prog :=
  .ite CognitiveDualQueryStrategyRan_update_b31 .skip .skip
def CognitiveDualQueryStrategyRan_update_b33 : Prog :=
  .seq (.readAttr 14) (.seq (.readAttr 13) (.seq (.readAttr 10) (.seq (.mutate (.attr 10) []) (.seq (.readAttr 10) (.seq (.readAttr 11) (.seq (.readAttr 12) (.seq (.mutate (.attr 12) []) CognitiveDualQueryStrategyRan_update_b32)))))))
def CognitiveDualQueryStrategyRan_update_b34 : Prog :=
  .ite CognitiveDualQueryStrategyRan_update_b33 .skip (.seq (.readAttr 14) CognitiveDualQueryStrategyRan_update_b30)
def CognitiveDualQueryStrategyRan_update_b35 : Prog :=
  .seq (.readAttr 11) (.seq (.mutate (.attr 11) [(.loc 10)]) (.seq (.readAttr 13) (.seq (.mutate (.attr 13) []) (.seq (.readAttr 9) (.seq (.mutate (.attr 9) [(.sub (.loc 12) 0)]) .skip)))))
def CognitiveDualQueryStrategyRan_update_b36 : Prog :=
  .ite CognitiveDualQueryStrategyRan_update_b35 .skip .skip
def CognitiveDualQueryStrategyRan_update_b37 : Prog :=
  .seq (.readAttr 11) (.seq (.mutate (.attr 11) [(.loc 10)]) (.seq (.readAttr 13) (.seq (.mutate (.attr 13) []) (.seq (.readAttr 9) (.seq (.mutate (.attr 9) [(.sub (.loc 12) 0)]) CognitiveDualQueryStrategyRan_update_b36)))))
def CognitiveDualQueryStrategyRan_update_b38 : Prog :=
  .ite CognitiveDualQueryStrategyRan_update_b37 .skip (.seq (.readAttr 9) (.seq (.mutate (.attr 9) []) .skip))
def CognitiveDualQueryStrategyRan_update_b39 : Prog :=
  .seq (.readAttr 14) (.seq (.bind 12 (.fresh [(.attr 14), (.loc 1)])) (.seq (.readAttr 9) CognitiveDualQueryStrategyRan_update_b38))
def CognitiveDualQueryStrategyRan_update_b40 : Prog :=
  .seq (.readAttr 9) (.seq (.mutate (.attr 9) []) .skip)
def CognitiveDualQueryStrategyRan_update_b41 : Prog :=
  .ite CognitiveDualQueryStrategyRan_update_b39 CognitiveDualQueryStrategyRan_update_b40 (.seq (.readAttr 14) CognitiveDualQueryStrategyRan_update_b34)
def CognitiveDualQueryStrategyRan_update_b42 : Prog :=
  .seq (.bind 1 (.alias (.sub (.loc 7) 0))) (.seq (.readAttr 8) (.seq (.bind 10 (.alias (.attr 8))) (.seq (.readAttr 14) CognitiveDualQueryStrategyRan_update_b41)))
def CognitiveDualQueryStrategyRan_update_b43 : Prog :=
  .ite CognitiveDualQueryStrategyRan_update_b42 .skip CognitiveDualQueryStrategyRan_update_b1
def CognitiveDualQueryStrategyRan_update_b44 : Prog :=
  .seq (.writeAttr 11 (.fresh [])) .skip
def CognitiveDualQueryStrategyRan_update_b45 : Prog :=
  .ite CognitiveDualQueryStrategyRan_update_b44 .skip (.seq (.bind 2 (.fresh [])) CognitiveDualQueryStrategyRan_update_b43)
def CognitiveDualQueryStrategyRan_update_b46 : Prog :=
  .seq (.writeAttr 12 (.fresh [])) .skip
def CognitiveDualQueryStrategyRan_update_b47 : Prog :=
  .ite CognitiveDualQueryStrategyRan_update_b46 .skip CognitiveDualQueryStrategyRan_update_b45
def CognitiveDualQueryStrategyRan_update_b48 : Prog :=
  .seq (.writeAttr 13 (.fresh [])) .skip
def CognitiveDualQueryStrategyRan_update_b49 : Prog :=
  .ite CognitiveDualQueryStrategyRan_update_b48 .skip CognitiveDualQueryStrategyRan_update_b47
def CognitiveDualQueryStrategyRan_update_b50 : Prog :=
  .seq (.writeAttr 10 (.fresh [])) .skip
def CognitiveDualQueryStrategyRan_update_b51 : Prog :=
  .ite CognitiveDualQueryStrategyRan_update_b50 .skip CognitiveDualQueryStrategyRan_update_b49
def CognitiveDualQueryStrategyRan_update_b52 : Prog :=
  .seq (.writeAttr 14 (.fresh [])) .skip
def CognitiveDualQueryStrategyRan_update_b53 : Prog :=
  .ite CognitiveDualQueryStrategyRan_update_b52 .skip CognitiveDualQueryStrategyRan_update_b51
def CognitiveDualQueryStrategyRan_update_b54 : Prog :=
  .seq (.writeAttr 8 (.fresh [])) .skip
def CognitiveDualQueryStrategyRan_update_b55 : Prog :=
  .ite CognitiveDualQueryStrategyRan_update_b54 .skip CognitiveDualQueryStrategyRan_update_b53
def CognitiveDualQueryStrategyRan_update_b56 : Prog :=
  .seq (.writeAttr 9 (.fresh [])) .skip
def CognitiveDualQueryStrategyRan_update_b57 : Prog :=
  .ite CognitiveDualQueryStrategyRan_update_b56 .skip CognitiveDualQueryStrategyRan_update_b55
def CognitiveDualQueryStrategyRan_update_b58 : Prog :=
  .ite CognitiveDualQueryStrategyRan_update_b0 CognitiveDualQueryStrategyRan_update_b57 .skip
def CognitiveDualQueryStrategyRan_update_b59 : Prog :=
  .seq (.bind 13 (.alias (.attr 2))) .skip
def CognitiveDualQueryStrategyRan_update_b60 : Prog :=
  .seq (.bind 13 (.fresh [])) .skip
def CognitiveDualQueryStrategyRan_update_b61 : Prog :=
  .ite CognitiveDualQueryStrategyRan_update_b59 CognitiveDualQueryStrategyRan_update_b60 (.seq (.writeAttr 16 (.alias (.loc 13))) (.seq (.readAttr 16) CognitiveDualQueryStrategyRan_update_b58))
def CognitiveDualQueryStrategyRan_update_b62 : Prog :=
  .ite .abort CognitiveDualQueryStrategyRan_update_b61 .skip
def CognitiveDualQueryStrategyRan_update_b63 : Prog :=
  .seq (.writeAttr 17 (.fresh [])) .skip
def CognitiveDualQueryStrategyRan_update_b64 : Prog :=
  .seq (.writeAttr 17 (.alias (.attr 1))) .skip
def CognitiveDualQueryStrategyRan_update_b65 : Prog :=
  .ite CognitiveDualQueryStrategyRan_update_b63 CognitiveDualQueryStrategyRan_update_b64 (.seq (.readAttr 17) CognitiveDualQueryStrategyRan_update_b62)
def CognitiveDualQueryStrategyRan_update_b66 : Prog :=
  .seq (.bind 15 (.fresh [(.loc 16), (.sub (.loc 17) 0)])) .skip
def CognitiveDualQueryStrategyRan_update_b67 : Prog :=
  .seq (.bind 15 (.deep (.loc 18))) .skip
def CognitiveDualQueryStrategyRan_update_b68 : Prog :=
  .ite CognitiveDualQueryStrategyRan_update_b66 CognitiveDualQueryStrategyRan_update_b67 (.seq (.bind 14 (.alias (.loc 15))) (.seq (.writeAttr 15 (.alias (.loc 14))) .skip))
def CognitiveDualQueryStrategyRan_update_b69 : Prog :=
  .seq (.bind 17 (.fresh [])) .skip
def CognitiveDualQueryStrategyRan_update_b70 : Prog :=
  .seq (.mutate (.loc 17) []) .skip
def CognitiveDualQueryStrategyRan_update_b71 : Prog :=
  .ite CognitiveDualQueryStrategyRan_update_b70 .skip .skip
def CognitiveDualQueryStrategyRan_update_b72 : Prog :=
  .ite CognitiveDualQueryStrategyRan_update_b69 CognitiveDualQueryStrategyRan_update_b71 CognitiveDualQueryStrategyRan_update_b68
def CognitiveDualQueryStrategyRan_update_b73 : Prog :=
  .seq (.bind 22 (.alias (.loc 23))) (.seq (.writeAttr 18 (.alias (.loc 22))) (.seq (.readAttr 18) (.seq (.bind 20 (.fresh [])) (.seq (.bind 21 (.fresh [])) (.seq (.bind 19 (.alias (.loc 21))) (.seq (.mutate (.loc 19) [(.loc 20)]) (.seq (.bind 16 (.alias (.attr 5))) (.seq (.bind 18 (.alias (.attr 7))) (.seq (.bind 17 (.alias (.loc 19))) CognitiveDualQueryStrategyRan_update_b72)))))))))
def CognitiveDualQueryStrategyRan_update_b74 : Prog :=
  .seq (.writeAttr 18 (.deep (.attr 6))) .skip
def CognitiveDualQueryStrategyRan_update_b75 : Prog :=
  .ite CognitiveDualQueryStrategyRan_update_b74 .skip (.seq (.readAttr 18) (.seq (.bind 23 (.alias (.attr 18))) CognitiveDualQueryStrategyRan_update_b73))
def CognitiveDualQueryStrategyRan_update_b76 : Prog :=
  .ite CognitiveDualQueryStrategyRan_update_b75 .skip CognitiveDualQueryStrategyRan_update_b65
def CognitiveDualQueryStrategyRan_update_b77 : Prog :=
  .seq (.bind 2 (.fresh [])) (.seq (.bind 20 (.fresh [])) (.seq (.bind 23 (.fresh [])) (.seq (.bind 11 (.fresh [])) (.seq (.bind 5 (.fresh [])) (.seq (.bind 10 (.fresh [])) (.seq (.bind 4 (.fresh [])) (.seq (.bind 1 (.fresh [])) (.seq (.readAttr 15) (.seq (.readAttr 15) CognitiveDualQueryStrategyRan_update_b76)))))))))
def CognitiveDualQueryStrategyRan_update_b78 : Prog :=
  .seq (.bind 9 (.fresh [])) (.seq (.bind 0 (.fresh [])) (.seq (.bind 3 (.fresh [])) (.seq (.bind 16 (.fresh [])) (.seq (.bind 18 (.fresh [])) (.seq (.bind 15 (.fresh [])) (.seq (.bind 17 (.fresh [])) (.seq (.bind 19 (.fresh [])) (.seq (.bind 12 (.fresh [])) (.seq (.bind 6 (.fresh [])) CognitiveDualQueryStrategyRan_update_b77)))))))))
def CognitiveDualQueryStrategyRan_update_b79 : Prog :=
  .seq (.bind 13 (.fresh [])) (.seq (.bind 22 (.fresh [])) (.seq (.bind 21 (.fresh [])) (.seq (.bind 14 (.fresh [])) (.seq (.bind 8 (.fresh [])) CognitiveDualQueryStrategyRan_update_b78))))
def summary_CognitiveDualQueryStrategyRan_update : Summary :=
  { params := [0, 1, 2, 3, 4, 5, 6, 7], closedAttrs := [], safeAttrs := [15, 14, 10, 9, 20, 18, 12, 8, 11, 13], body := CognitiveDualQueryStrategyRan_update_b79 }
theorem effects_CognitiveDualQueryStrategyRan_update : FrameOK summary_CognitiveDualQueryStrategyRan_update = true := by decide +kernel

/-! ### CognitiveDualQueryStrategyRanVarUn  (skactiveml/stream/_density_uncertainty.py)
attributes: 0=force_full_budget 1=dist_func 2=dist_func_dict 3=density_threshold 4=cognition_window_size 5=budget 6=random_state 7=budget_manager 8=t_ 9=min_dist_ 10=f_ 11=t_x_ 12=s_ 13=theta_ 14=cognition_window_ 15=budget_manager_ 16=dist_func_dict_ 17=dist_func_ 18=random_state_ 19=budget_ 20=n_features_in_
keys: 0=* -/
-- CognitiveDualQueryStrategyRanVarUn.query: locals 0=t 1=min_dist 2=f 3=tmp_t_x 4=tmp_s 5=tmp_theta 6=tmp_cognition_window 7=$t32 8=i 9=t_x@_calculate_ldf15 10=x_cand 11=remove_index@_calculate_ldf15 12=distances@_calculate_ldf15 13=$t30 14=t_x@_calculate_ldf14 15=remove_index@_calculate_ldf14 16=distances@_calculate_ldf14 17=clf 18=$ret3 19=clf@_validate_data1 20=$c28 21=$ret27 22=budget_manager_@check_budget_manager13 23=budget@check_budget_manager13 24=default_budget_manager_dict@check_budget_manager13 25=budget_manager@check_budget_manager13 26=default_budget_manager_kwargs@_validate_data1 27=random_seed@_validate_data1 28=$ret25 29=$ret21 30=clf@_validate_clf9 31=$t22 32=$t23 33=$ret16 34=random_state@check_random_state7 35=$ret13 36=random_state@check_random_state4
def CognitiveDualQueryStrategyRanVarUn_query_b0 : Prog :=
  .seq (.bind 7 (.fresh [])) (.seq (.mutate (.loc 7) [(.loc 8)]) .skip)
def CognitiveDualQueryStrategyRanVarUn_query_b1 : Prog :=
  .ite CognitiveDualQueryStrategyRanVarUn_query_b0 .skip .skip
def CognitiveDualQueryStrategyRanVarUn_query_b2 : Prog :=
  .seq (.readAttr 15) (.seq (.callFit (.attr 15)) CognitiveDualQueryStrategyRanVarUn_query_b1)
def CognitiveDualQueryStrategyRanVarUn_query_b3 : Prog :=
  .seq (.readAttr 15) (.seq (.callFit (.attr 15)) .skip)
def CognitiveDualQueryStrategyRanVarUn_query_b4 : Prog :=
  .ite CognitiveDualQueryStrategyRanVarUn_query_b3 .skip .skip
def CognitiveDualQueryStrategyRanVarUn_query_b5 : Prog :=
  .ite CognitiveDualQueryStrategyRanVarUn_query_b2 CognitiveDualQueryStrategyRanVarUn_query_b4 (.seq (.readAttr 8) (.seq (.writeAttr 8 (.fresh [])) .skip))
def CognitiveDualQueryStrategyRanVarUn_query_b6 : Prog :=
  .seq (.readAttr 14) (.seq (.mutate (.attr 14) [(.loc 10)]) (.seq (.readAttr 13) (.seq (.mutate (.attr 13) []) (.seq (.readAttr 12) (.seq (.mutate (.attr 12) []) (.seq (.readAttr 11) (.seq (.mutate (.attr 11) [(.loc 9)]) (.seq (.readAttr 10) (.seq (.mutate (.attr 10) []) CognitiveDualQueryStrategyRanVarUn_query_b5)))))))))
def CognitiveDualQueryStrategyRanVarUn_query_b7 : Prog :=
  .seq (.readAttr 13) (.seq (.mutate (.attr 13) [(.loc 11)]) (.seq (.readAttr 12) (.seq (.mutate (.attr 12) [(.loc 11)]) (.seq (.readAttr 11) (.seq (.mutate (.attr 11) [(.loc 11)]) (.seq (.readAttr 10) (.seq (.mutate (.attr 10) [(.loc 11)]) (.seq (.readAttr 9) (.seq (.mutate (.attr 9) [(.loc 11)]) .skip)))))))))
def CognitiveDualQueryStrategyRanVarUn_query_b8 : Prog :=
  .seq (.readAttr 12) (.seq (.bind 11 (.fresh [])) (.seq (.readAttr 14) (.seq (.mutate (.attr 14) [(.loc 11)]) CognitiveDualQueryStrategyRanVarUn_query_b7)))
def CognitiveDualQueryStrategyRanVarUn_query_b9 : Prog :=
  .ite CognitiveDualQueryStrategyRanVarUn_query_b8 .skip CognitiveDualQueryStrategyRanVarUn_query_b6
def CognitiveDualQueryStrategyRanVarUn_query_b10 : Prog :=
  .seq (.readAttr 14) (.seq (.readAttr 13) (.seq (.readAttr 10) (.seq (.mutate (.attr 10) []) (.seq (.readAttr 10) (.seq (.readAttr 11) (.seq (.readAttr 12) (.seq (.mutate (.attr 12) []) .skip)))))))
def CognitiveDualQueryStrategyRanVarUn_query_b11 : Prog :=
  .ite CognitiveDualQueryStrategyRanVarUn_query_b10 .skip .skip
def CognitiveDualQueryStrategyRanVarUn_query_b12 : Prog :=
  .seq (.readAttr 14) (.seq (.readAttr 13) (.seq (.readAttr 10) (.seq (.mutate (.attr 10) []) (.seq (.readAttr 10) (.seq (.readAttr 11) (.seq (.readAttr 12) (.seq (.mutate (.attr 12) []) CognitiveDualQueryStrategyRanVarUn_query_b11)))))))
def CognitiveDualQueryStrategyRanVarUn_query_b13 : Prog :=
  .ite CognitiveDualQueryStrategyRanVarUn_query_b12 .skip (.seq (.readAttr 14) CognitiveDualQueryStrategyRanVarUn_query_b9)
def CognitiveDualQueryStrategyRanVarUn_query_b14 : Prog :=
  .seq (.readAttr 11) (.seq (.mutate (.attr 11) [(.loc 9)]) (.seq (.readAttr 13) (.seq (.mutate (.attr 13) []) (.seq (.readAttr 9) (.seq (.mutate (.attr 9) [(.sub (.loc 12) 0)]) .skip)))))
def CognitiveDualQueryStrategyRanVarUn_query_b15 : Prog :=
  .ite CognitiveDualQueryStrategyRanVarUn_query_b14 .skip .skip
def CognitiveDualQueryStrategyRanVarUn_query_b16 : Prog :=
  .seq (.readAttr 11) (.seq (.mutate (.attr 11) [(.loc 9)]) (.seq (.readAttr 13) (.seq (.mutate (.attr 13) []) (.seq (.readAttr 9) (.seq (.mutate (.attr 9) [(.sub (.loc 12) 0)]) CognitiveDualQueryStrategyRanVarUn_query_b15)))))
def CognitiveDualQueryStrategyRanVarUn_query_b17 : Prog :=
  .ite CognitiveDualQueryStrategyRanVarUn_query_b16 .skip (.seq (.readAttr 9) (.seq (.mutate (.attr 9) []) .skip))
def CognitiveDualQueryStrategyRanVarUn_query_b18 : Prog :=
  .seq (.readAttr 14) (.seq (.bind 12 (.fresh [(.attr 14), (.loc 10)])) (.seq (.readAttr 9) CognitiveDualQueryStrategyRanVarUn_query_b17))
def CognitiveDualQueryStrategyRanVarUn_query_b19 : Prog :=
  .seq (.readAttr 9) (.seq (.mutate (.attr 9) []) .skip)
def CognitiveDualQueryStrategyRanVarUn_query_b20 : Prog :=
  .ite CognitiveDualQueryStrategyRanVarUn_query_b18 CognitiveDualQueryStrategyRanVarUn_query_b19 (.seq (.readAttr 14) CognitiveDualQueryStrategyRanVarUn_query_b13)
def CognitiveDualQueryStrategyRanVarUn_query_b21 : Prog :=
  .seq (.bind 8 (.fresh [])) (.seq (.bind 10 (.fresh [])) (.seq (.readAttr 8) (.seq (.bind 9 (.alias (.attr 8))) (.seq (.readAttr 14) CognitiveDualQueryStrategyRanVarUn_query_b20))))
def CognitiveDualQueryStrategyRanVarUn_query_b22 : Prog :=
  .ite CognitiveDualQueryStrategyRanVarUn_query_b21 .skip .skip
def CognitiveDualQueryStrategyRanVarUn_query_b23 : Prog :=
  .seq (.bind 13 (.fresh [])) (.seq (.mutate (.loc 13) [(.loc 8)]) .skip)
def CognitiveDualQueryStrategyRanVarUn_query_b24 : Prog :=
  .ite CognitiveDualQueryStrategyRanVarUn_query_b23 .skip .skip
def CognitiveDualQueryStrategyRanVarUn_query_b25 : Prog :=
  .seq (.readAttr 15) (.seq (.callFit (.attr 15)) CognitiveDualQueryStrategyRanVarUn_query_b24)
def CognitiveDualQueryStrategyRanVarUn_query_b26 : Prog :=
  .seq (.readAttr 15) (.seq (.callFit (.attr 15)) .skip)
def CognitiveDualQueryStrategyRanVarUn_query_b27 : Prog :=
  .ite CognitiveDualQueryStrategyRanVarUn_query_b26 .skip .skip
def CognitiveDualQueryStrategyRanVarUn_query_b28 : Prog :=
  .ite CognitiveDualQueryStrategyRanVarUn_query_b25 CognitiveDualQueryStrategyRanVarUn_query_b27 (.seq (.readAttr 8) (.seq (.writeAttr 8 (.fresh [])) CognitiveDualQueryStrategyRanVarUn_query_b22))
def CognitiveDualQueryStrategyRanVarUn_query_b29 : Prog :=
  .seq (.readAttr 14) (.seq (.mutate (.attr 14) [(.loc 10)]) (.seq (.readAttr 13) (.seq (.mutate (.attr 13) []) (.seq (.readAttr 12) (.seq (.mutate (.attr 12) []) (.seq (.readAttr 11) (.seq (.mutate (.attr 11) [(.loc 14)]) (.seq (.readAttr 10) (.seq (.mutate (.attr 10) []) CognitiveDualQueryStrategyRanVarUn_query_b28)))))))))
def CognitiveDualQueryStrategyRanVarUn_query_b30 : Prog :=
  .seq (.readAttr 13) (.seq (.mutate (.attr 13) [(.loc 15)]) (.seq (.readAttr 12) (.seq (.mutate (.attr 12) [(.loc 15)]) (.seq (.readAttr 11) (.seq (.mutate (.attr 11) [(.loc 15)]) (.seq (.readAttr 10) (.seq (.mutate (.attr 10) [(.loc 15)]) (.seq (.readAttr 9) (.seq (.mutate (.attr 9) [(.loc 15)]) .skip)))))))))
def CognitiveDualQueryStrategyRanVarUn_query_b31 : Prog :=
  .seq (.readAttr 12) (.seq (.bind 15 (.fresh [])) (.seq (.readAttr 14) (.seq (.mutate (.attr 14) [(.loc 15)]) CognitiveDualQueryStrategyRanVarUn_query_b30)))
def CognitiveDualQueryStrategyRanVarUn_query_b32 : Prog :=
  .ite CognitiveDualQueryStrategyRanVarUn_query_b31 .skip CognitiveDualQueryStrategyRanVarUn_query_b29
def CognitiveDualQueryStrategyRanVarUn_query_b33 : Prog :=
  .seq (.readAttr 14) (.seq (.readAttr 13) (.seq (.readAttr 10) (.seq (.mutate (.attr 10) []) (.seq (.readAttr 10) (.seq (.readAttr 11) (.seq (.readAttr 12) (.seq (.mutate (.attr 12) []) .skip)))))))
def CognitiveDualQueryStrategyRanVarUn_query_b34 : Prog :=
  .ite CognitiveDualQueryStrategyRanVarUn_query_b33 .skip .skip
def CognitiveDualQueryStrategyRanVarUn_query_b35 : Prog :=
  .seq (.readAttr 14) (.seq (.readAttr 13) (.seq (.readAttr 10) (.seq (.mutate (.attr 10) []) (.seq (.readAttr 10) (.seq (.readAttr 11) (.seq (.readAttr 12) (.seq (.mutate (.attr 12) []) CognitiveDualQueryStrategyRanVarUn_query_b34)))))))
def CognitiveDualQueryStrategyRanVarUn_query_b36 : Prog :=
  .ite CognitiveDualQueryStrategyRanVarUn_query_b35 .skip (.seq (.readAttr 14) CognitiveDualQueryStrategyRanVarUn_query_b32)
def CognitiveDualQueryStrategyRanVarUn_query_b37 : Prog :=
  .seq (.readAttr 11) (.seq (.mutate (.attr 11) [(.loc 14)]) (.seq (.readAttr 13) (.seq (.mutate (.attr 13) []) (.seq (.readAttr 9) (.seq (.mutate (.attr 9) [(.sub (.loc 16) 0)]) .skip)))))
def CognitiveDualQueryStrategyRanVarUn_query_b38 : Prog :=
  .ite CognitiveDualQueryStrategyRanVarUn_query_b37 .skip .skip
def CognitiveDualQueryStrategyRanVarUn_query_b39 : Prog :=
  .seq (.readAttr 11) (.seq (.mutate (.attr 11) [(.loc 14)]) (.seq (.readAttr 13) (.seq (.mutate (.attr 13) []) (.seq (.readAttr 9) (.seq (.mutate (.attr 9) [(.sub (.loc 16) 0)]) CognitiveDualQueryStrategyRanVarUn_query_b38)))))
def CognitiveDualQueryStrategyRanVarUn_query_b40 : Prog :=
  .ite CognitiveDualQueryStrategyRanVarUn_query_b39 .skip (.seq (.readAttr 9) (.seq (.mutate (.attr 9) []) .skip))
def CognitiveDualQueryStrategyRanVarUn_query_b41 : Prog :=
  .seq (.readAttr 14) (.seq (.bind 16 (.fresh [(.attr 14), (.loc 10)])) (.seq (.readAttr 9) CognitiveDualQueryStrategyRanVarUn_query_b40))
def CognitiveDualQueryStrategyRanVarUn_query_b42 : Prog :=
  .seq (.readAttr 9) (.seq (.mutate (.attr 9) []) .skip)
def CognitiveDualQueryStrategyRanVarUn_query_b43 : Prog :=
  .ite CognitiveDualQueryStrategyRanVarUn_query_b41 CognitiveDualQueryStrategyRanVarUn_query_b42 (.seq (.readAttr 14) CognitiveDualQueryStrategyRanVarUn_query_b36)
def CognitiveDualQueryStrategyRanVarUn_query_b44 : Prog :=
  .seq (.bind 8 (.fresh [])) (.seq (.bind 10 (.fresh [])) (.seq (.readAttr 8) (.seq (.bind 14 (.alias (.attr 8))) (.seq (.readAttr 14) CognitiveDualQueryStrategyRanVarUn_query_b43))))
def CognitiveDualQueryStrategyRanVarUn_query_b45 : Prog :=
  .ite CognitiveDualQueryStrategyRanVarUn_query_b44 .skip (.seq (.writeAttr 14 (.alias (.loc 6))) (.seq (.writeAttr 13 (.alias (.loc 5))) (.seq (.writeAttr 12 (.alias (.loc 4))) (.seq (.writeAttr 11 (.alias (.loc 3))) (.seq (.writeAttr 10 (.alias (.loc 2))) (.seq (.writeAttr 9 (.alias (.loc 1))) (.seq (.writeAttr 8 (.alias (.loc 0))) .skip)))))))
def CognitiveDualQueryStrategyRanVarUn_query_b46 : Prog :=
  .seq (.readAttr 12) (.seq (.bind 4 (.copy (.attr 12))) (.seq (.readAttr 11) (.seq (.bind 3 (.copy (.attr 11))) (.seq (.readAttr 10) (.seq (.bind 2 (.copy (.attr 10))) (.seq (.readAttr 9) (.seq (.bind 1 (.copy (.attr 9))) (.seq (.readAttr 8) (.seq (.bind 0 (.copy (.attr 8))) CognitiveDualQueryStrategyRanVarUn_query_b45)))))))))
def CognitiveDualQueryStrategyRanVarUn_query_b47 : Prog :=
  .seq (.writeAttr 16 (.fresh [])) .abort
def CognitiveDualQueryStrategyRanVarUn_query_b48 : Prog :=
  .seq (.writeAttr 11 (.fresh [])) .skip
def CognitiveDualQueryStrategyRanVarUn_query_b49 : Prog :=
  .ite CognitiveDualQueryStrategyRanVarUn_query_b48 .skip (.seq (.bind 18 (.alias (.loc 19))) .skip)
def CognitiveDualQueryStrategyRanVarUn_query_b50 : Prog :=
  .seq (.writeAttr 12 (.fresh [])) .skip
def CognitiveDualQueryStrategyRanVarUn_query_b51 : Prog :=
  .ite CognitiveDualQueryStrategyRanVarUn_query_b50 .skip CognitiveDualQueryStrategyRanVarUn_query_b49
def CognitiveDualQueryStrategyRanVarUn_query_b52 : Prog :=
  .seq (.writeAttr 13 (.fresh [])) .skip
def CognitiveDualQueryStrategyRanVarUn_query_b53 : Prog :=
  .ite CognitiveDualQueryStrategyRanVarUn_query_b52 .skip CognitiveDualQueryStrategyRanVarUn_query_b51
def CognitiveDualQueryStrategyRanVarUn_query_b54 : Prog :=
  .seq (.writeAttr 10 (.fresh [])) .skip
def CognitiveDualQueryStrategyRanVarUn_query_b55 : Prog :=
  .ite CognitiveDualQueryStrategyRanVarUn_query_b54 .skip CognitiveDualQueryStrategyRanVarUn_query_b53
def CognitiveDualQueryStrategyRanVarUn_query_b56 : Prog :=
  .seq (.writeAttr 14 (.fresh [])) .skip
def CognitiveDualQueryStrategyRanVarUn_query_b57 : Prog :=
  .ite CognitiveDualQueryStrategyRanVarUn_query_b56 .skip CognitiveDualQueryStrategyRanVarUn_query_b55
def CognitiveDualQueryStrategyRanVarUn_query_b58 : Prog :=
  .seq (.writeAttr 8 (.fresh [])) .skip
def CognitiveDualQueryStrategyRanVarUn_query_b59 : Prog :=
  .ite CognitiveDualQueryStrategyRanVarUn_query_b58 .skip CognitiveDualQueryStrategyRanVarUn_query_b57
def CognitiveDualQueryStrategyRanVarUn_query_b60 : Prog :=
  .seq (.writeAttr 9 (.fresh [])) .skip
def CognitiveDualQueryStrategyRanVarUn_query_b61 : Prog :=
  .ite CognitiveDualQueryStrategyRanVarUn_query_b60 .skip CognitiveDualQueryStrategyRanVarUn_query_b59
def CognitiveDualQueryStrategyRanVarUn_query_b62 : Prog :=
  .ite CognitiveDualQueryStrategyRanVarUn_query_b47 CognitiveDualQueryStrategyRanVarUn_query_b61 .skip
def CognitiveDualQueryStrategyRanVarUn_query_b63 : Prog :=
  .seq (.bind 20 (.alias (.attr 2))) .skip
def CognitiveDualQueryStrategyRanVarUn_query_b64 : Prog :=
  .seq (.bind 20 (.fresh [])) .skip
def CognitiveDualQueryStrategyRanVarUn_query_b65 : Prog :=
  .ite CognitiveDualQueryStrategyRanVarUn_query_b63 CognitiveDualQueryStrategyRanVarUn_query_b64 (.seq (.writeAttr 16 (.alias (.loc 20))) (.seq (.readAttr 16) CognitiveDualQueryStrategyRanVarUn_query_b62))
def CognitiveDualQueryStrategyRanVarUn_query_b66 : Prog :=
  .ite .abort CognitiveDualQueryStrategyRanVarUn_query_b65 (.seq (.bind 17 (.alias (.loc 18))) (.seq (.readAttr 14) (.seq (.bind 6 (.copy (.attr 14))) (.seq (.readAttr 13) (.seq (.bind 5 (.copy (.attr 13))) CognitiveDualQueryStrategyRanVarUn_query_b46)))))
def CognitiveDualQueryStrategyRanVarUn_query_b67 : Prog :=
  .seq (.writeAttr 17 (.fresh [])) .skip
def CognitiveDualQueryStrategyRanVarUn_query_b68 : Prog :=
  .seq (.writeAttr 17 (.alias (.attr 1))) .skip
def CognitiveDualQueryStrategyRanVarUn_query_b69 : Prog :=
  .ite CognitiveDualQueryStrategyRanVarUn_query_b67 CognitiveDualQueryStrategyRanVarUn_query_b68 (.seq (.readAttr 17) CognitiveDualQueryStrategyRanVarUn_query_b66)
def CognitiveDualQueryStrategyRanVarUn_query_b70 : Prog :=
  .seq (.bind 22 (.fresh [(.loc 23), (.sub (.loc 24) 0)])) .skip
def CognitiveDualQueryStrategyRanVarUn_query_b71 : Prog :=
  .seq (.bind 22 (.deep (.loc 25))) .skip
def CognitiveDualQueryStrategyRanVarUn_query_b72 : Prog :=
  .ite CognitiveDualQueryStrategyRanVarUn_query_b70 CognitiveDualQueryStrategyRanVarUn_query_b71 (.seq (.bind 21 (.alias (.loc 22))) (.seq (.writeAttr 15 (.alias (.loc 21))) .skip))
def CognitiveDualQueryStrategyRanVarUn_query_b73 : Prog :=
  .seq (.bind 24 (.fresh [])) .skip
def CognitiveDualQueryStrategyRanVarUn_query_b74 : Prog :=
  .seq (.mutate (.loc 24) []) .skip
def CognitiveDualQueryStrategyRanVarUn_query_b75 : Prog :=
  .ite CognitiveDualQueryStrategyRanVarUn_query_b74 .skip .skip
def CognitiveDualQueryStrategyRanVarUn_query_b76 : Prog :=
  .ite CognitiveDualQueryStrategyRanVarUn_query_b73 CognitiveDualQueryStrategyRanVarUn_query_b75 CognitiveDualQueryStrategyRanVarUn_query_b72
def CognitiveDualQueryStrategyRanVarUn_query_b77 : Prog :=
  .seq (.readAttr 18) (.seq (.bind 27 (.fresh [])) (.seq (.bind 28 (.fresh [])) (.seq (.bind 26 (.alias (.loc 28))) (.seq (.mutate (.loc 26) [(.loc 27)]) (.seq (.bind 23 (.alias (.attr 5))) (.seq (.bind 25 (.alias (.attr 7))) (.seq (.bind 24 (.alias (.loc 26))) CognitiveDualQueryStrategyRanVarUn_query_b76)))))))
def CognitiveDualQueryStrategyRanVarUn_query_b78 : Prog :=
  .ite CognitiveDualQueryStrategyRanVarUn_query_b77 .skip CognitiveDualQueryStrategyRanVarUn_query_b69
def CognitiveDualQueryStrategyRanVarUn_query_b79 : Prog :=
  .seq (.bind 31 (.deep (.loc 30))) (.seq (.callFit (.loc 31)) (.seq (.bind 30 (.alias (.loc 31))) .skip))
def CognitiveDualQueryStrategyRanVarUn_query_b80 : Prog :=
  .seq (.bind 32 (.deep (.loc 30))) (.seq (.callFit (.loc 32)) (.seq (.bind 30 (.alias (.loc 32))) .skip))
def CognitiveDualQueryStrategyRanVarUn_query_b81 : Prog :=
  .ite CognitiveDualQueryStrategyRanVarUn_query_b79 CognitiveDualQueryStrategyRanVarUn_query_b80 .skip
def CognitiveDualQueryStrategyRanVarUn_query_b82 : Prog :=
  .ite CognitiveDualQueryStrategyRanVarUn_query_b81 .skip (.seq (.bind 29 (.alias (.loc 30))) (.seq (.bind 19 (.alias (.loc 29))) (.seq (.readAttr 15) (.seq (.readAttr 15) CognitiveDualQueryStrategyRanVarUn_query_b78))))
def CognitiveDualQueryStrategyRanVarUn_query_b83 : Prog :=
  .seq (.writeAttr 18 (.deep (.attr 6))) .skip
def CognitiveDualQueryStrategyRanVarUn_query_b84 : Prog :=
  .ite CognitiveDualQueryStrategyRanVarUn_query_b83 .skip (.seq (.readAttr 18) (.seq (.bind 34 (.alias (.attr 18))) (.seq (.bind 33 (.alias (.loc 34))) (.seq (.writeAttr 18 (.alias (.loc 33))) (.seq (.bind 30 (.alias (.loc 19))) CognitiveDualQueryStrategyRanVarUn_query_b82)))))
def CognitiveDualQueryStrategyRanVarUn_query_b85 : Prog :=
  .seq (.writeAttr 19 (.alias (.attr 5))) .skip
def CognitiveDualQueryStrategyRanVarUn_query_b86 : Prog :=
  .seq (.writeAttr 19 (.fresh [])) .skip
def CognitiveDualQueryStrategyRanVarUn_query_b87 : Prog :=
  .ite CognitiveDualQueryStrategyRanVarUn_query_b85 CognitiveDualQueryStrategyRanVarUn_query_b86 (.seq (.readAttr 19) CognitiveDualQueryStrategyRanVarUn_query_b84)
def CognitiveDualQueryStrategyRanVarUn_query_b88 : Prog :=
  .seq (.writeAttr 18 (.deep (.attr 6))) .skip
def CognitiveDualQueryStrategyRanVarUn_query_b89 : Prog :=
  .ite CognitiveDualQueryStrategyRanVarUn_query_b88 .skip (.seq (.readAttr 18) (.seq (.bind 36 (.alias (.attr 18))) (.seq (.bind 35 (.alias (.loc 36))) (.seq (.writeAttr 18 (.alias (.loc 35))) CognitiveDualQueryStrategyRanVarUn_query_b87))))
def CognitiveDualQueryStrategyRanVarUn_query_b90 : Prog :=
  .seq (.bind 0 (.fresh [])) (.seq (.bind 14 (.fresh [])) (.seq (.bind 9 (.fresh [])) (.seq (.bind 6 (.fresh [])) (.seq (.bind 4 (.fresh [])) (.seq (.bind 3 (.fresh [])) (.seq (.bind 5 (.fresh [])) (.seq (.bind 10 (.fresh [])) (.seq (.bind 19 (.alias (.loc 17))) (.seq (.writeAttr 20 (.fresh [])) CognitiveDualQueryStrategyRanVarUn_query_b89)))))))))
def CognitiveDualQueryStrategyRanVarUn_query_b91 : Prog :=
  .seq (.bind 16 (.fresh [])) (.seq (.bind 12 (.fresh [])) (.seq (.bind 2 (.fresh [])) (.seq (.bind 8 (.fresh [])) (.seq (.bind 1 (.fresh [])) (.seq (.bind 27 (.fresh [])) (.seq (.bind 36 (.fresh [])) (.seq (.bind 34 (.fresh [])) (.seq (.bind 15 (.fresh [])) (.seq (.bind 11 (.fresh [])) CognitiveDualQueryStrategyRanVarUn_query_b90)))))))))
def CognitiveDualQueryStrategyRanVarUn_query_b92 : Prog :=
  .seq (.bind 32 (.fresh [])) (.seq (.bind 13 (.fresh [])) (.seq (.bind 7 (.fresh [])) (.seq (.bind 23 (.fresh [])) (.seq (.bind 25 (.fresh [])) (.seq (.bind 22 (.fresh [])) (.seq (.bind 30 (.fresh [])) (.seq (.bind 19 (.fresh [])) (.seq (.bind 24 (.fresh [])) (.seq (.bind 26 (.fresh [])) CognitiveDualQueryStrategyRanVarUn_query_b91)))))))))
def CognitiveDualQueryStrategyRanVarUn_query_b93 : Prog :=
  .seq (.bind 20 (.fresh [])) (.seq (.bind 35 (.fresh [])) (.seq (.bind 33 (.fresh [])) (.seq (.bind 29 (.fresh [])) (.seq (.bind 28 (.fresh [])) (.seq (.bind 21 (.fresh [])) (.seq (.bind 18 (.fresh [])) (.seq (.bind 31 (.fresh [])) CognitiveDualQueryStrategyRanVarUn_query_b92)))))))
def summary_CognitiveDualQueryStrategyRanVarUn_query : Summary :=
  { params := [0, 1, 2, 3, 4, 5, 6, 7], closedAttrs := [], safeAttrs := [15, 14, 10, 9, 20, 18, 12, 8, 11, 13], body := CognitiveDualQueryStrategyRanVarUn_query_b93 }
theorem effects_CognitiveDualQueryStrategyRanVarUn_query : FrameOK summary_CognitiveDualQueryStrategyRanVarUn_query = true := by decide +kernel

-- CognitiveDualQueryStrategyRanVarUn.update: locals 0=$t13 1=x_cand 2=new_positions 3=$t14 4=t_x@_calculate_ldf8 5=remove_index@_calculate_ldf8 6=distances@_calculate_ldf8 7=candidates 8=$t10 9=$t11 10=t_x@_calculate_ldf7 11=remove_index@_calculate_ldf7 12=distances@_calculate_ldf7 13=$c7 14=$ret6 15=budget_manager_@check_budget_manager6 16=budget@check_budget_manager6 17=default_budget_manager_dict@check_budget_manager6 18=budget_manager@check_budget_manager6 19=default_budget_manager_kwargs 20=random_seed 21=$ret4 22=$ret3 23=random_state@check_random_state3
def CognitiveDualQueryStrategyRanVarUn_update_b0 : Prog :=
  .seq (.writeAttr 16 (.fresh [])) .abort
def CognitiveDualQueryStrategyRanVarUn_update_b1 : Prog :=
  .ite .skip .abort (.seq (.readAttr 15) .skip)
def CognitiveDualQueryStrategyRanVarUn_update_b2 : Prog :=
  .seq (.mutate (.loc 2) []) (.seq (.bind 0 (.fresh [])) (.seq (.mutate (.loc 0) [(.loc 1)]) .skip))
def CognitiveDualQueryStrategyRanVarUn_update_b3 : Prog :=
  .seq (.mutate (.loc 2) []) (.seq (.bind 3 (.fresh [])) (.seq (.mutate (.loc 3) []) .skip))
def CognitiveDualQueryStrategyRanVarUn_update_b4 : Prog :=
  .ite CognitiveDualQueryStrategyRanVarUn_update_b3 .skip .skip
def CognitiveDualQueryStrategyRanVarUn_update_b5 : Prog :=
  .ite CognitiveDualQueryStrategyRanVarUn_update_b2 CognitiveDualQueryStrategyRanVarUn_update_b4 (.seq (.readAttr 8) (.seq (.writeAttr 8 (.fresh [])) .skip))
def CognitiveDualQueryStrategyRanVarUn_update_b6 : Prog :=
  .seq (.readAttr 14) (.seq (.mutate (.attr 14) [(.loc 1)]) (.seq (.readAttr 13) (.seq (.mutate (.attr 13) []) (.seq (.readAttr 12) (.seq (.mutate (.attr 12) []) (.seq (.readAttr 11) (.seq (.mutate (.attr 11) [(.loc 4)]) (.seq (.readAttr 10) (.seq (.mutate (.attr 10) []) CognitiveDualQueryStrategyRanVarUn_update_b5)))))))))
def CognitiveDualQueryStrategyRanVarUn_update_b7 : Prog :=
  .seq (.readAttr 13) (.seq (.mutate (.attr 13) [(.loc 5)]) (.seq (.readAttr 12) (.seq (.mutate (.attr 12) [(.loc 5)]) (.seq (.readAttr 11) (.seq (.mutate (.attr 11) [(.loc 5)]) (.seq (.readAttr 10) (.seq (.mutate (.attr 10) [(.loc 5)]) (.seq (.readAttr 9) (.seq (.mutate (.attr 9) [(.loc 5)]) .skip)))))))))
def CognitiveDualQueryStrategyRanVarUn_update_b8 : Prog :=
  .seq (.readAttr 12) (.seq (.bind 5 (.fresh [])) (.seq (.readAttr 14) (.seq (.mutate (.attr 14) [(.loc 5)]) CognitiveDualQueryStrategyRanVarUn_update_b7)))
def CognitiveDualQueryStrategyRanVarUn_update_b9 : Prog :=
  .ite CognitiveDualQueryStrategyRanVarUn_update_b8 .skip CognitiveDualQueryStrategyRanVarUn_update_b6
def CognitiveDualQueryStrategyRanVarUn_update_b10 : Prog :=
  .seq (.readAttr 14) (.seq (.readAttr 13) (.seq (.readAttr 10) (.seq (.mutate (.attr 10) []) (.seq (.readAttr 10) (.seq (.readAttr 11) (.seq (.readAttr 12) (.seq (.mutate (.attr 12) []) .skip)))))))
def CognitiveDualQueryStrategyRanVarUn_update_b11 : Prog :=
  .ite CognitiveDualQueryStrategyRanVarUn_update_b10 .skip .skip
def CognitiveDualQueryStrategyRanVarUn_update_b12 : Prog :=
  .seq (.readAttr 14) (.seq (.readAttr 13) (.seq (.readAttr 10) (.seq (.mutate (.attr 10) []) (.seq (.readAttr 10) (.seq (.readAttr 11) (.seq (.readAttr 12) (.seq (.mutate (.attr 12) []) CognitiveDualQueryStrategyRanVarUn_update_b11)))))))
def CognitiveDualQueryStrategyRanVarUn_update_b13 : Prog :=
  .ite CognitiveDualQueryStrategyRanVarUn_update_b12 .skip (.seq (.readAttr 14) CognitiveDualQueryStrategyRanVarUn_update_b9)
def CognitiveDualQueryStrategyRanVarUn_update_b14 : Prog :=
  .seq (.readAttr 11) (.seq (.mutate (.attr 11) [(.loc 4)]) (.seq (.readAttr 13) (.seq (.mutate (.attr 13) []) (.seq (.readAttr 9) (.seq (.mutate (.attr 9) [(.sub (.loc 6) 0)]) .skip)))))
def CognitiveDualQueryStrategyRanVarUn_update_b15 : Prog :=
  .ite CognitiveDualQueryStrategyRanVarUn_update_b14 .skip .skip
def CognitiveDualQueryStrategyRanVarUn_update_b16 : Prog :=
  .seq (.readAttr 11) (.seq (.mutate (.attr 11) [(.loc 4)]) (.seq (.readAttr 13) (.seq (.mutate (.attr 13) []) (.seq (.readAttr 9) (.seq (.mutate (.attr 9) [(.sub (.loc 6) 0)]) CognitiveDualQueryStrategyRanVarUn_update_b15)))))
def CognitiveDualQueryStrategyRanVarUn_update_b17 : Prog :=
  .ite CognitiveDualQueryStrategyRanVarUn_update_b16 .skip (.seq (.readAttr 9) (.seq (.mutate (.attr 9) []) .skip))
def CognitiveDualQueryStrategyRanVarUn_update_b18 : Prog :=
  .seq (.readAttr 14) (.seq (.bind 6 (.fresh [(.attr 14), (.loc 1)])) (.seq (.readAttr 9) CognitiveDualQueryStrategyRanVarUn_update_b17))
def CognitiveDualQueryStrategyRanVarUn_update_b19 : Prog :=
  .seq (.readAttr 9) (.seq (.mutate (.attr 9) []) .skip)
def CognitiveDualQueryStrategyRanVarUn_update_b20 : Prog :=
  .ite CognitiveDualQueryStrategyRanVarUn_update_b18 CognitiveDualQueryStrategyRanVarUn_update_b19 (.seq (.readAttr 14) CognitiveDualQueryStrategyRanVarUn_update_b13)
def CognitiveDualQueryStrategyRanVarUn_update_b21 : Prog :=
  .seq (.bind 1 (.alias (.sub (.loc 7) 0))) (.seq (.readAttr 8) (.seq (.bind 4 (.alias (.attr 8))) (.seq (.readAttr 14) CognitiveDualQueryStrategyRanVarUn_update_b20)))
def CognitiveDualQueryStrategyRanVarUn_update_b22 : Prog :=
  .ite CognitiveDualQueryStrategyRanVarUn_update_b21 .skip .skip
def CognitiveDualQueryStrategyRanVarUn_update_b23 : Prog :=
  .seq (.mutate (.loc 2) []) (.seq (.bind 8 (.fresh [])) (.seq (.mutate (.loc 8) [(.loc 1)]) .skip))
def CognitiveDualQueryStrategyRanVarUn_update_b24 : Prog :=
  .seq (.mutate (.loc 2) []) (.seq (.bind 9 (.fresh [])) (.seq (.mutate (.loc 9) []) .skip))
def CognitiveDualQueryStrategyRanVarUn_update_b25 : Prog :=
  .ite CognitiveDualQueryStrategyRanVarUn_update_b24 .skip .skip
def CognitiveDualQueryStrategyRanVarUn_update_b26 : Prog :=
  .ite CognitiveDualQueryStrategyRanVarUn_update_b23 CognitiveDualQueryStrategyRanVarUn_update_b25 (.seq (.readAttr 8) (.seq (.writeAttr 8 (.fresh [])) CognitiveDualQueryStrategyRanVarUn_update_b22))
def CognitiveDualQueryStrategyRanVarUn_update_b27 : Prog :=
  .seq (.readAttr 14) (.seq (.mutate (.attr 14) [(.loc 1)]) (.seq (.readAttr 13) (.seq (.mutate (.attr 13) []) (.seq (.readAttr 12) (.seq (.mutate (.attr 12) []) (.seq (.readAttr 11) (.seq (.mutate (.attr 11) [(.loc 10)]) (.seq (.readAttr 10) (.seq (.mutate (.attr 10) []) CognitiveDualQueryStrategyRanVarUn_update_b26)))))))))
def CognitiveDualQueryStrategyRanVarUn_update_b28 : Prog :=
  .seq (.readAttr 13) (.seq (.mutate (.attr 13) [(.loc 11)]) (.seq (.readAttr 12) (.seq (.mutate (.attr 12) [(.loc 11)]) (.seq (.readAttr 11) (.seq (.mutate (.attr 11) [(.loc 11)]) (.seq (.readAttr 10) (.seq (.mutate (.attr 10) [(.loc 11)]) (.seq (.readAttr 9) (.seq (.mutate (.attr 9) [(.loc 11)]) .skip)))))))))
def CognitiveDualQueryStrategyRanVarUn_update_b29 : Prog :=
  .seq (.readAttr 12) (.seq (.bind 11 (.fresh [])) (.seq (.readAttr 14) (.seq (.mutate (.attr 14) [(.loc 11)]) CognitiveDualQueryStrategyRanVarUn_update_b28)))
def CognitiveDualQueryStrategyRanVarUn_update_b30 : Prog :=
  .ite CognitiveDualQueryStrategyRanVarUn_update_b29 .skip CognitiveDualQueryStrategyRanVarUn_update_b27
def CognitiveDualQueryStrategyRanVarUn_update_b31 : Prog :=
  .seq (.readAttr 14) (.seq (.readAttr 13) (.seq (.readAttr 10) (.seq (.mutate (.attr 10) []) (.seq (.readAttr 10) (.seq (.readAttr 11) (.seq (.readAttr 12) (.seq (.mutate (.attr 12) []) .skip)))))))
def CognitiveDualQueryStrategyRanVarUn_update_b32 : Prog :=
  .ite CognitiveDualQueryStrategyRanVarUn_update_b31 .skip .skip
def CognitiveDualQueryStrategyRanVarUn_update_b33 : Prog :=
  .seq (.readAttr 14) (.seq (.readAttr 13) (.seq (.readAttr 10) (.seq (.mutate (.attr 10) []) (.seq (.readAttr 10) (.seq (.readAttr 11) (.seq (.readAttr 12) (.seq (.mutate (.attr 12) []) CognitiveDualQueryStrategyRanVarUn_update_b32)))))))
def CognitiveDualQueryStrategyRanVarUn_update_b34 : Prog :=
  .ite CognitiveDualQueryStrategyRanVarUn_update_b33 .skip (.seq (.readAttr 14) CognitiveDualQueryStrategyRanVarUn_update_b30)
def CognitiveDualQueryStrategyRanVarUn_update_b35 : Prog :=
  .seq (.readAttr 11) (.seq (.mutate (.attr 11) [(.loc 10)]) (.seq (.readAttr 13) (.seq (.mutate (.attr 13) []) (.seq (.readAttr 9) (.seq (.mutate (.attr 9) [(.sub (.loc 12) 0)]) .skip)))))
def CognitiveDualQueryStrategyRanVarUn_update_b36 : Prog :=
  .ite CognitiveDualQueryStrategyRanVarUn_update_b35 .skip .skip
def CognitiveDualQueryStrategyRanVarUn_update_b37 : Prog :=
  .seq (.readAttr 11) (.seq (.mutate (.attr 11) [(.loc 10)]) (.seq (.readAttr 13) (.seq (.mutate (.attr 13) []) (.seq (.readAttr 9) (.seq (.mutate (.attr 9) [(.sub (.loc 12) 0)]) CognitiveDualQueryStrategyRanVarUn_update_b36)))))
def CognitiveDualQueryStrategyRanVarUn_update_b38 : Prog :=
  .ite CognitiveDualQueryStrategyRanVarUn_update_b37 .skip (.seq (.readAttr 9) (.seq (.mutate (.attr 9) []) .skip))
def CognitiveDualQueryStrategyRanVarUn_update_b39 : Prog :=
  .seq (.readAttr 14) (.seq (.bind 12 (.fresh [(.attr 14), (.loc 1)])) (.seq (.readAttr 9) CognitiveDualQueryStrategyRanVarUn_update_b38))
def CognitiveDualQueryStrategyRanVarUn_update_b40 : Prog :=
  .seq (.readAttr 9) (.seq (.mutate (.attr 9) []) .skip)
def CognitiveDualQueryStrategyRanVarUn_update_b41 : Prog :=
  .ite CognitiveDualQueryStrategyRanVarUn_update_b39 CognitiveDualQueryStrategyRanVarUn_update_b40 (.seq (.readAttr 14) CognitiveDualQueryStrategyRanVarUn_update_b34)
def CognitiveDualQueryStrategyRanVarUn_update_b42 : Prog :=
  .seq (.bind 1 (.alias (.sub (.loc 7) 0))) (.seq (.readAttr 8) (.seq (.bind 10 (.alias (.attr 8))) (.seq (.readAttr 14) CognitiveDualQueryStrategyRanVarUn_update_b41)))
def CognitiveDualQueryStrategyRanVarUn_update_b43 : Prog :=
  .ite CognitiveDualQueryStrategyRanVarUn_update_b42 .skip CognitiveDualQueryStrategyRanVarUn_update_b1
def CognitiveDualQueryStrategyRanVarUn_update_b44 : Prog :=
  .seq (.writeAttr 11 (.fresh [])) .skip
def CognitiveDualQueryStrategyRanVarUn_update_b45 : Prog :=
  .ite CognitiveDualQueryStrategyRanVarUn_update_b44 .skip (.seq (.bind 2 (.fresh [])) CognitiveDualQueryStrategyRanVarUn_update_b43)
def CognitiveDualQueryStrategyRanVarUn_update_b46 : Prog :=
  .seq (.writeAttr 12 (.fresh [])) .skip
def CognitiveDualQueryStrategyRanVarUn_update_b47 : Prog :=
  .ite CognitiveDualQueryStrategyRanVarUn_update_b46 .skip CognitiveDualQueryStrategyRanVarUn_update_b45
def CognitiveDualQueryStrategyRanVarUn_update_b48 : Prog :=
  .seq (.writeAttr 13 (.fresh [])) .skip
def CognitiveDualQueryStrategyRanVarUn_update_b49 : Prog :=
  .ite CognitiveDualQueryStrategyRanVarUn_update_b48 .skip CognitiveDualQueryStrategyRanVarUn_update_b47
def CognitiveDualQueryStrategyRanVarUn_update_b50 : Prog :=
  .seq (.writeAttr 10 (.fresh [])) .skip
def CognitiveDualQueryStrategyRanVarUn_update_b51 : Prog :=
  .ite CognitiveDualQueryStrategyRanVarUn_update_b50 .skip CognitiveDualQueryStrategyRanVarUn_update_b49
def CognitiveDualQueryStrategyRanVarUn_update_b52 : Prog :=
  .seq (.writeAttr 14 (.fresh [])) .skip
def CognitiveDualQueryStrategyRanVarUn_update_b53 : Prog :=
  .ite CognitiveDualQueryStrategyRanVarUn_update_b52 .skip CognitiveDualQueryStrategyRanVarUn_update_b51
def CognitiveDualQueryStrategyRanVarUn_update_b54 : Prog :=
  .seq (.writeAttr 8 (.fresh [])) .skip
def CognitiveDualQueryStrategyRanVarUn_update_b55 : Prog :=
  .ite CognitiveDualQueryStrategyRanVarUn_update_b54 .skip CognitiveDualQueryStrategyRanVarUn_update_b53
def CognitiveDualQueryStrategyRanVarUn_update_b56 : Prog :=
  .seq (.writeAttr 9 (.fresh [])) .skip
def CognitiveDualQueryStrategyRanVarUn_update_b57 : Prog :=
  .ite CognitiveDualQueryStrategyRanVarUn_update_b56 .skip CognitiveDualQueryStrategyRanVarUn_update_b55
def CognitiveDualQueryStrategyRanVarUn_update_b58 : Prog :=
  .ite CognitiveDualQueryStrategyRanVarUn_update_b0 CognitiveDualQueryStrategyRanVarUn_update_b57 .skip
def CognitiveDualQueryStrategyRanVarUn_update_b59 : Prog :=
  .seq (.bind 13 (.alias (.attr 2))) .skip
def CognitiveDualQueryStrategyRanVarUn_update_b60 : Prog :=
  .seq (.bind 13 (.fresh [])) .skip
def CognitiveDualQueryStrategyRanVarUn_update_b61 : Prog :=
  .ite CognitiveDualQueryStrategyRanVarUn_update_b59 CognitiveDualQueryStrategyRanVarUn_update_b60 (.seq (.writeAttr 16 (.alias (.loc 13))) (.seq (.readAttr 16) CognitiveDualQueryStrategyRanVarUn_update_b58))
def CognitiveDualQueryStrategyRanVarUn_update_b62 : Prog :=
  .ite .abort CognitiveDualQueryStrategyRanVarUn_update_b61 .skip
def CognitiveDualQueryStrategyRanVarUn_update_b63 : Prog :=
  .seq (.writeAttr 17 (.fresh [])) .skip
def CognitiveDualQueryStrategyRanVarUn_update_b64 : Prog :=
  .seq (.writeAttr 17 (.alias (.attr 1))) .skip
def CognitiveDualQueryStrategyRanVarUn_update_b65 : Prog :=
  .ite CognitiveDualQueryStrategyRanVarUn_update_b63 CognitiveDualQueryStrategyRanVarUn_update_b64 (.seq (.readAttr 17) CognitiveDualQueryStrategyRanVarUn_update_b62)
def CognitiveDualQueryStrategyRanVarUn_update_b66 : Prog :=
  .seq (.bind 15 (.fresh [(.loc 16), (.sub (.loc 17) 0)])) .skip
def CognitiveDualQueryStrategyRanVarUn_update_b67 : Prog :=
  .seq (.bind 15 (.deep (.loc 18))) .skip
def CognitiveDualQueryStrategyRanVarUn_update_b68 : Prog :=
  .ite CognitiveDualQueryStrategyRanVarUn_update_b66 CognitiveDualQueryStrategyRanVarUn_update_b67 (.seq (.bind 14 (.alias (.loc 15))) (.seq (.writeAttr 15 (.alias (.loc 14))) .skip))
def CognitiveDualQueryStrategyRanVarUn_update_b69 : Prog :=
  .seq (.bind 17 (.fresh [])) .skip
def CognitiveDualQueryStrategyRanVarUn_update_b70 : Prog :=
  .seq (.mutate (.loc 17) []) .skip
def CognitiveDualQueryStrategyRanVarUn_update_b71 : Prog :=
  .ite CognitiveDualQueryStrategyRanVarUn_update_b70 .skip .skip
def CognitiveDualQueryStrategyRanVarUn_update_b72 : Prog :=
  .ite CognitiveDualQueryStrategyRanVarUn_update_b69 CognitiveDualQueryStrategyRanVarUn_update_b71 CognitiveDualQueryStrategyRanVarUn_update_b68
def CognitiveDualQueryStrategyRanVarUn_update_b73 : Prog :=
  .seq (.bind 22 (.alias (.loc 23))) (.seq (.writeAttr 18 (.alias (.loc 22))) (.seq (.readAttr 18) (.seq (.bind 20 (.fresh [])) (.seq (.bind 21 (.fresh [])) (.seq (.bind 19 (.alias (.loc 21))) (.seq (.mutate (.loc 19) [(.loc 20)]) (.seq (.bind 16 (.alias (.attr 5))) (.seq (.bind 18 (.alias (.attr 7))) (.seq (.bind 17 (.alias (.loc 19))) CognitiveDualQueryStrategyRanVarUn_update_b72)))))))))
def CognitiveDualQueryStrategyRanVarUn_update_b74 : Prog :=
  .seq (.writeAttr 18 (.deep (.attr 6))) .skip
def CognitiveDualQueryStrategyRanVarUn_update_b75 : Prog :=
  .ite CognitiveDualQueryStrategyRanVarUn_update_b74 .skip (.seq (.readAttr 18) (.seq (.bind 23 (.alias (.attr 18))) CognitiveDualQueryStrategyRanVarUn_update_b73))
def CognitiveDualQueryStrategyRanVarUn_update_b76 : Prog :=
  .ite CognitiveDualQueryStrategyRanVarUn_update_b75 .skip CognitiveDualQueryStrategyRanVarUn_update_b65
def CognitiveDualQueryStrategyRanVarUn_update_b77 : Prog :=
  .seq (.bind 2 (.fresh [])) (.seq (.bind 20 (.fresh [])) (.seq (.bind 23 (.fresh [])) (.seq (.bind 11 (.fresh [])) (.seq (.bind 5 (.fresh [])) (.seq (.bind 10 (.fresh [])) (.seq (.bind 4 (.fresh [])) (.seq (.bind 1 (.fresh [])) (.seq (.readAttr 15) (.seq (.readAttr 15) CognitiveDualQueryStrategyRanVarUn_update_b76)))))))))
def CognitiveDualQueryStrategyRanVarUn_update_b78 : Prog :=
  .seq (.bind 9 (.fresh [])) (.seq (.bind 0 (.fresh [])) (.seq (.bind 3 (.fresh [])) (.seq (.bind 16 (.fresh [])) (.seq (.bind 18 (.fresh [])) (.seq (.bind 15 (.fresh [])) (.seq (.bind 17 (.fresh [])) (.seq (.bind 19 (.fresh [])) (.seq (.bind 12 (.fresh [])) (.seq (.bind 6 (.fresh [])) CognitiveDualQueryStrategyRanVarUn_update_b77)))))))))
def CognitiveDualQueryStrategyRanVarUn_update_b79 : Prog :=
  .seq (.bind 13 (.fresh [])) (.seq (.bind 22 (.fresh [])) (.seq (.bind 21 (.fresh [])) (.seq (.bind 14 (.fresh [])) (.seq (.bind 8 (.fresh [])) CognitiveDualQueryStrategyRanVarUn_update_b78))))
def summary_CognitiveDualQueryStrategyRanVarUn_update : Summary :=
  { params := [0, 1, 2, 3, 4, 5, 6, 7], closedAttrs := [], safeAttrs := [15, 14, 10, 9, 20, 18, 12, 8, 11, 13], body := CognitiveDualQueryStrategyRanVarUn_update_b79 }
theorem effects_CognitiveDualQueryStrategyRanVarUn_update : FrameOK summary_CognitiveDualQueryStrategyRanVarUn_update = true := by decide +kernel

/-! ### CognitiveDualQueryStrategyVarUn  (skactiveml/stream/_density_uncertainty.py)
attributes: 0=force_full_budget 1=dist_func 2=dist_func_dict 3=density_threshold 4=cognition_window_size 5=budget 6=random_state 7=budget_manager 8=t_ 9=min_dist_ 10=f_ 11=t_x_ 12=s_ 13=theta_ 14=cognition_window_ 15=budget_manager_ 16=dist_func_dict_ 17=dist_func_ 18=random_state_ 19=budget_ 20=n_features_in_
keys: 0=* -/
-- CognitiveDualQueryStrategyVarUn.query: locals 0=t 1=min_dist 2=f 3=tmp_t_x 4=tmp_s 5=tmp_theta 6=tmp_cognition_window 7=$t32 8=i 9=t_x@_calculate_ldf15 10=x_cand 11=remove_index@_calculate_ldf15 12=distances@_calculate_ldf15 13=$t30 14=t_x@_calculate_ldf14 15=remove_index@_calculate_ldf14 16=distances@_calculate_ldf14 17=clf 18=$ret3 19=clf@_validate_data1 20=$c28 21=$ret27 22=budget_manager_@check_budget_manager13 23=budget@check_budget_manager13 24=default_budget_manager_dict@check_budget_manager13 25=budget_manager@check_budget_manager13 26=default_budget_manager_kwargs@_validate_data1 27=random_seed@_validate_data1 28=$ret25 29=$ret21 30=clf@_validate_clf9 31=$t22 32=$t23 33=$ret16 34=random_state@check_random_state7 35=$ret13 36=random_state@check_random_state4
def CognitiveDualQueryStrategyVarUn_query_b0 : Prog :=
  .seq (.bind 7 (.fresh [])) (.seq (.mutate (.loc 7) [(.loc 8)]) .skip)
def CognitiveDualQueryStrategyVarUn_query_b1 : Prog :=
  .ite CognitiveDualQueryStrategyVarUn_query_b0 .skip .skip
def CognitiveDualQueryStrategyVarUn_query_b2 : Prog :=
  .seq (.readAttr 15) (.seq (.callFit (.attr 15)) CognitiveDualQueryStrategyVarUn_query_b1)
def CognitiveDualQueryStrategyVarUn_query_b3 : Prog :=
  .seq (.readAttr 15) (.seq (.callFit (.attr 15)) .skip)
def CognitiveDualQueryStrategyVarUn_query_b4 : Prog :=
  .ite CognitiveDualQueryStrategyVarUn_query_b3 .skip .skip
def CognitiveDualQueryStrategyVarUn_query_b5 : Prog :=
  .ite CognitiveDualQueryStrategyVarUn_query_b2 CognitiveDualQueryStrategyVarUn_query_b4 (.seq (.readAttr 8) (.seq (.writeAttr 8 (.fresh [])) .skip))
def CognitiveDualQueryStrategyVarUn_query_b6 : Prog :=
  .seq (.readAttr 14) (.seq (.mutate (.attr 14) [(.loc 10)]) (.seq (.readAttr 13) (.seq (.mutate (.attr 13) []) (.seq (.readAttr 12) (.seq (.mutate (.attr 12) []) (.seq (.readAttr 11) (.seq (.mutate (.attr 11) [(.loc 9)]) (.seq (.readAttr 10) (.seq (.mutate (.attr 10) []) CognitiveDualQueryStrategyVarUn_query_b5)))))))))
def CognitiveDualQueryStrategyVarUn_query_b7 : Prog :=
  .seq (.readAttr 13) (.seq (.mutate (.attr 13) [(.loc 11)]) (.seq (.readAttr 12) (.seq (.mutate (.attr 12) [(.loc 11)]) (.seq (.readAttr 11) (.seq (.mutate (.attr 11) [(.loc 11)]) (.seq (.readAttr 10) (.seq (.mutate (.attr 10) [(.loc 11)]) (.seq (.readAttr 9) (.seq (.mutate (.attr 9) [(.loc 11)]) .skip)))))))))
def CognitiveDualQueryStrategyVarUn_query_b8 : Prog :=
  .seq (.readAttr 12) (.seq (.bind 11 (.fresh [])) (.seq (.readAttr 14) (.seq (.mutate (.attr 14) [(.loc 11)]) CognitiveDualQueryStrategyVarUn_query_b7)))
def CognitiveDualQueryStrategyVarUn_query_b9 : Prog :=
  .ite CognitiveDualQueryStrategyVarUn_query_b8 .skip CognitiveDualQueryStrategyVarUn_query_b6
def CognitiveDualQueryStrategyVarUn_query_b10 : Prog :=
  .seq (.readAttr 14) (.seq (.readAttr 13) (.seq (.readAttr 10) (.seq (.mutate (.attr 10) []) (.seq (.readAttr 10) (.seq (.readAttr 11) (.seq (.readAttr 12) (.seq (.mutate (.attr 12) []) .skip)))))))
def CognitiveDualQueryStrategyVarUn_query_b11 : Prog :=
  .ite CognitiveDualQueryStrategyVarUn_query_b10 .skip .skip
def CognitiveDualQueryStrategyVarUn_query_b12 : Prog :=
  .seq (.readAttr 14) (.seq (.readAttr 13) (.seq (.readAttr 10) (.seq (.mutate (.attr 10) []) (.seq (.readAttr 10) (.seq (.readAttr 11) (.seq (.readAttr 12) (.seq (.mutate (.attr 12) []) CognitiveDualQueryStrategyVarUn_query_b11)))))))
def CognitiveDualQueryStrategyVarUn_query_b13 : Prog :=
  .ite CognitiveDualQueryStrategyVarUn_query_b12 .skip (.seq (.readAttr 14) CognitiveDualQueryStrategyVarUn_query_b9)
def CognitiveDualQueryStrategyVarUn_query_b14 : Prog :=
  .seq (.readAttr 11) (.seq (.mutate (.attr 11) [(.loc 9)]) (.seq (.readAttr 13) (.seq (.mutate (.attr 13) []) (.seq (.readAttr 9) (.seq (.mutate (.attr 9) [(.sub (.loc 12) 0)]) .skip)))))
def CognitiveDualQueryStrategyVarUn_query_b15 : Prog :=
  .ite CognitiveDualQueryStrategyVarUn_query_b14 .skip .skip
def CognitiveDualQueryStrategyVarUn_query_b16 : Prog :=
  .seq (.readAttr 11) (.seq (.mutate (.attr 11) [(.loc 9)]) (.seq (.readAttr 13) (.seq (.mutate (.attr 13) []) (.seq (.readAttr 9) (.seq (.mutate (.attr 9) [(.sub (.loc 12) 0)]) CognitiveDualQueryStrategyVarUn_query_b15)))))
def CognitiveDualQueryStrategyVarUn_query_b17 : Prog :=
  .ite CognitiveDualQueryStrategyVarUn_query_b16 .skip (.seq (.readAttr 9) (.seq (.mutate (.attr 9) []) .skip))
def CognitiveDualQueryStrategyVarUn_query_b18 : Prog :=
  .seq (.readAttr 14) (.seq (.bind 12 (.fresh [(.attr 14), (.loc 10)])) (.seq (.readAttr 9) CognitiveDualQueryStrategyVarUn_query_b17))
def CognitiveDualQueryStrategyVarUn_query_b19 : Prog :=
  .seq (.readAttr 9) (.seq (.mutate (.attr 9) []) .skip)
def CognitiveDualQueryStrategyVarUn_query_b20 : Prog :=
  .ite CognitiveDualQueryStrategyVarUn_query_b18 CognitiveDualQueryStrategyVarUn_query_b19 (.seq (.readAttr 14) CognitiveDualQueryStrategyVarUn_query_b13)
def CognitiveDualQueryStrategyVarUn_query_b21 : Prog :=
  .seq (.bind 8 (.fresh [])) (.seq (.bind 10 (.fresh [])) (.seq (.readAttr 8) (.seq (.bind 9 (.alias (.attr 8))) (.seq (.readAttr 14) CognitiveDualQueryStrategyVarUn_query_b20))))
def CognitiveDualQueryStrategyVarUn_query_b22 : Prog :=
  .ite CognitiveDualQueryStrategyVarUn_query_b21 .skip .skip
def CognitiveDualQueryStrategyVarUn_query_b23 : Prog :=
  .seq (.bind 13 (.fresh [])) (.seq (.mutate (.loc 13) [(.loc 8)]) .skip)
def CognitiveDualQueryStrategyVarUn_query_b24 : Prog :=
  .ite CognitiveDualQueryStrategyVarUn_query_b23 .skip .skip
def CognitiveDualQueryStrategyVarUn_query_b25 : Prog :=
  .seq (.readAttr 15) (.seq (.callFit (.attr 15)) CognitiveDualQueryStrategyVarUn_query_b24)
def CognitiveDualQueryStrategyVarUn_query_b26 : Prog :=
  .seq (.readAttr 15) (.seq (.callFit (.attr 15)) .skip)
def CognitiveDualQueryStrategyVarUn_query_b27 : Prog :=
  .ite CognitiveDualQueryStrategyVarUn_query_b26 .skip .skip
def CognitiveDualQueryStrategyVarUn_query_b28 : Prog :=
  .ite CognitiveDualQueryStrategyVarUn_query_b25 CognitiveDualQueryStrategyVarUn_query_b27 (.seq (.readAttr 8) (.seq (.writeAttr 8 (.fresh [])) CognitiveDualQueryStrategyVarUn_query_b22))
def CognitiveDualQueryStrategyVarUn_query_b29 : Prog :=
  .seq (.readAttr 14) (.seq (.mutate (.attr 14) [(.loc 10)]) (.seq (.readAttr 13) (.seq (.mutate (.attr 13) []) (.seq (.readAttr 12) (.seq (.mutate (.attr 12) []) (.seq (.readAttr 11) (.seq (.mutate (.attr 11) [(.loc 14)]) (.seq (.readAttr 10) (.seq (.mutate (.attr 10) []) CognitiveDualQueryStrategyVarUn_query_b28)))))))))
def CognitiveDualQueryStrategyVarUn_query_b30 : Prog :=
  .seq (.readAttr 13) (.seq (.mutate (.attr 13) [(.loc 15)]) (.seq (.readAttr 12) (.seq (.mutate (.attr 12) [(.loc 15)]) (.seq (.readAttr 11) (.seq (.mutate (.attr 11) [(.loc 15)]) (.seq (.readAttr 10) (.seq (.mutate (.attr 10) [(.loc 15)]) (.seq (.readAttr 9) (.seq (.mutate (.attr 9) [(.loc 15)]) .skip)))))))))
def CognitiveDualQueryStrategyVarUn_query_b31 : Prog :=
  .seq (.readAttr 12) (.seq (.bind 15 (.fresh [])) (.seq (.readAttr 14) (.seq (.mutate (.attr 14) [(.loc 15)]) CognitiveDualQueryStrategyVarUn_query_b30)))
def CognitiveDualQueryStrategyVarUn_query_b32 : Prog :=
  .ite CognitiveDualQueryStrategyVarUn_query_b31 .skip CognitiveDualQueryStrategyVarUn_query_b29
def CognitiveDualQueryStrategyVarUn_query_b33 : Prog :=
  .seq (.readAttr 14) (.seq (.readAttr 13) (.seq (.readAttr 10) (.seq (.mutate (.attr 10) []) (.seq (.readAttr 10) (.seq (.readAttr 11) (.seq (.readAttr 12) (.seq (.mutate (.attr 12) []) .skip)))))))
def CognitiveDualQueryStrategyVarUn_query_b34 : Prog :=
  .ite CognitiveDualQueryStrategyVarUn_query_b33 .skip .skip
def CognitiveDualQueryStrategyVarUn_query_b35 : Prog :=
  .seq (.readAttr 14) (.seq (.readAttr 13) (.seq (.readAttr 10) (.seq (.mutate (.attr 10) []) (.seq (.readAttr 10) (.seq (.readAttr 11) (.seq (.readAttr 12) (.seq (.mutate (.attr 12) []) CognitiveDualQueryStrategyVarUn_query_b34)))))))
def CognitiveDualQueryStrategyVarUn_query_b36 : Prog :=
  .ite CognitiveDualQueryStrategyVarUn_query_b35 .skip (.seq (.readAttr 14) CognitiveDualQueryStrategyVarUn_query_b32)
def CognitiveDualQueryStrategyVarUn_query_b37 : Prog :=
  .seq (.readAttr 11) (.seq (.mutate (.attr 11) [(.loc 14)]) (.seq (.readAttr 13) (.seq (.mutate (.attr 13) []) (.seq (.readAttr 9) (.seq (.mutate (.attr 9) [(.sub (.loc 16) 0)]) .skip)))))
def CognitiveDualQueryStrategyVarUn_query_b38 : Prog :=
  .ite CognitiveDualQueryStrategyVarUn_query_b37 .skip .skip
def CognitiveDualQueryStrategyVarUn_query_b39 : Prog :=
  .seq (.readAttr 11) (.seq (.mutate (.attr 11) [(.loc 14)]) (.seq (.readAttr 13) (.seq (.mutate (.attr 13) []) (.seq (.readAttr 9) (.seq (.mutate (.attr 9) [(.sub (.loc 16) 0)]) CognitiveDualQueryStrategyVarUn_query_b38)))))
def CognitiveDualQueryStrategyVarUn_query_b40 : Prog :=
  .ite CognitiveDualQueryStrategyVarUn_query_b39 .skip (.seq (.readAttr 9) (.seq (.mutate (.attr 9) []) .skip))
def CognitiveDualQueryStrategyVarUn_query_b41 : Prog :=
  .seq (.readAttr 14) (.seq (.bind 16 (.fresh [(.attr 14), (.loc 10)])) (.seq (.readAttr 9) CognitiveDualQueryStrategyVarUn_query_b40))
def CognitiveDualQueryStrategyVarUn_query_b42 : Prog :=
  .seq (.readAttr 9) (.seq (.mutate (.attr 9) []) .skip)
def CognitiveDualQueryStrategyVarUn_query_b43 : Prog :=
  .ite CognitiveDualQueryStrategyVarUn_query_b41 CognitiveDualQueryStrategyVarUn_query_b42 (.seq (.readAttr 14) CognitiveDualQueryStrategyVarUn_query_b36)
def CognitiveDualQueryStrategyVarUn_query_b44 : Prog :=
  .seq (.bind 8 (.fresh [])) (.seq (.bind 10 (.fresh [])) (.seq (.readAttr 8) (.seq (.bind 14 (.alias (.attr 8))) (.seq (.readAttr 14) CognitiveDualQueryStrategyVarUn_query_b43))))
def CognitiveDualQueryStrategyVarUn_query_b45 : Prog :=
  .ite CognitiveDualQueryStrategyVarUn_query_b44 .skip (.seq (.writeAttr 14 (.alias (.loc 6))) (.seq (.writeAttr 13 (.alias (.loc 5))) (.seq (.writeAttr 12 (.alias (.loc 4))) (.seq (.writeAttr 11 (.alias (.loc 3))) (.seq (.writeAttr 10 (.alias (.loc 2))) (.seq (.writeAttr 9 (.alias (.loc 1))) (.seq (.writeAttr 8 (.alias (.loc 0))) .skip)))))))
def CognitiveDualQueryStrategyVarUn_query_b46 : Prog :=
  .seq (.readAttr 12) (.seq (.bind 4 (.copy (.attr 12))) (.seq (.readAttr 11) (.seq (.bind 3 (.copy (.attr 11))) (.seq (.readAttr 10) (.seq (.bind 2 (.copy (.attr 10))) (.seq (.readAttr 9) (.seq (.bind 1 (.copy (.attr 9))) (.seq (.readAttr 8) (.seq (.bind 0 (.copy (.attr 8))) CognitiveDualQueryStrategyVarUn_query_b45)))))))))
def CognitiveDualQueryStrategyVarUn_query_b47 : Prog :=
  .seq (.writeAttr 16 (.fresh [])) .abort
def CognitiveDualQueryStrategyVarUn_query_b48 : Prog :=
  .seq (.writeAttr 11 (.fresh [])) .skip
def CognitiveDualQueryStrategyVarUn_query_b49 : Prog :=
  .ite CognitiveDualQueryStrategyVarUn_query_b48 .skip (.seq (.bind 18 (.alias (.loc 19))) .skip)
def CognitiveDualQueryStrategyVarUn_query_b50 : Prog :=
  .seq (.writeAttr 12 (.fresh [])) .skip
def CognitiveDualQueryStrategyVarUn_query_b51 : Prog :=
  .ite CognitiveDualQueryStrategyVarUn_query_b50 .skip CognitiveDualQueryStrategyVarUn_query_b49
def CognitiveDualQueryStrategyVarUn_query_b52 : Prog :=
  .seq (.writeAttr 13 (.fresh [])) .skip
def CognitiveDualQueryStrategyVarUn_query_b53 : Prog :=
  .ite CognitiveDualQueryStrategyVarUn_query_b52 .skip CognitiveDualQueryStrategyVarUn_query_b51
def CognitiveDualQueryStrategyVarUn_query_b54 : Prog :=
  .seq (.writeAttr 10 (.fresh [])) .skip
def CognitiveDualQueryStrategyVarUn_query_b55 : Prog :=
  .ite CognitiveDualQueryStrategyVarUn_query_b54 .skip CognitiveDualQueryStrategyVarUn_query_b53
def CognitiveDualQueryStrategyVarUn_query_b56 : Prog :=
  .seq (.writeAttr 14 (.fresh [])) .skip
def CognitiveDualQueryStrategyVarUn_query_b57 : Prog :=
  .ite CognitiveDualQueryStrategyVarUn_query_b56 .skip CognitiveDualQueryStrategyVarUn_query_b55
def CognitiveDualQueryStrategyVarUn_query_b58 : Prog :=
  .seq (.writeAttr 8 (.fresh [])) .skip
def CognitiveDualQueryStrategyVarUn_query_b59 : Prog :=
  .ite CognitiveDualQueryStrategyVarUn_query_b58 .skip CognitiveDualQueryStrategyVarUn_query_b57
def CognitiveDualQueryStrategyVarUn_query_b60 : Prog :=
  .seq (.writeAttr 9 (.fresh [])) .skip
def CognitiveDualQueryStrategyVarUn_query_b61 : Prog :=
  .ite CognitiveDualQueryStrategyVarUn_query_b60 .skip CognitiveDualQueryStrategyVarUn_query_b59
def CognitiveDualQueryStrategyVarUn_query_b62 : Prog :=
  .ite CognitiveDualQueryStrategyVarUn_query_b47 CognitiveDualQueryStrategyVarUn_query_b61 .skip
def CognitiveDualQueryStrategyVarUn_query_b63 : Prog :=
  .seq (.bind 20 (.alias (.attr 2))) .skip
def CognitiveDualQueryStrategyVarUn_query_b64 : Prog :=
  .seq (.bind 20 (.fresh [])) .skip
def CognitiveDualQueryStrategyVarUn_query_b65 : Prog :=
  .ite CognitiveDualQueryStrategyVarUn_query_b63 CognitiveDualQueryStrategyVarUn_query_b64 (.seq (.writeAttr 16 (.alias (.loc 20))) (.seq (.readAttr 16) CognitiveDualQueryStrategyVarUn_query_b62))
def CognitiveDualQueryStrategyVarUn_query_b66 : Prog :=
  .ite .abort CognitiveDualQueryStrategyVarUn_query_b65 (.seq (.bind 17 (.alias (.loc 18))) (.seq (.readAttr 14) (.seq (.bind 6 (.copy (.attr 14))) (.seq (.readAttr 13) (.seq (.bind 5 (.copy (.attr 13))) CognitiveDualQueryStrategyVarUn_query_b46)))))
def CognitiveDualQueryStrategyVarUn_query_b67 : Prog :=
  .seq (.writeAttr 17 (.fresh [])) .skip
def CognitiveDualQueryStrategyVarUn_query_b68 : Prog :=
  .seq (.writeAttr 17 (.alias (.attr 1))) .skip
def CognitiveDualQueryStrategyVarUn_query_b69 : Prog :=
  .ite CognitiveDualQueryStrategyVarUn_query_b67 CognitiveDualQueryStrategyVarUn_query_b68 (.seq (.readAttr 17) CognitiveDualQueryStrategyVarUn_query_b66)
def CognitiveDualQueryStrategyVarUn_query_b70 : Prog :=
  .seq (.bind 22 (.fresh [(.loc 23), (.sub (.loc 24) 0)])) .skip
def CognitiveDualQueryStrategyVarUn_query_b71 : Prog :=
  .seq (.bind 22 (.deep (.loc 25))) .skip
def CognitiveDualQueryStrategyVarUn_query_b72 : Prog :=
  .ite CognitiveDualQueryStrategyVarUn_query_b70 CognitiveDualQueryStrategyVarUn_query_b71 (.seq (.bind 21 (.alias (.loc 22))) (.seq (.writeAttr 15 (.alias (.loc 21))) .skip))
def CognitiveDualQueryStrategyVarUn_query_b73 : Prog :=
  .seq (.bind 24 (.fresh [])) .skip
def CognitiveDualQueryStrategyVarUn_query_b74 : Prog :=
  .seq (.mutate (.loc 24) []) .skip
def CognitiveDualQueryStrategyVarUn_query_b75 : Prog :=
  .ite CognitiveDualQueryStrategyVarUn_query_b74 .skip .skip
def CognitiveDualQueryStrategyVarUn_query_b76 : Prog :=
  .ite CognitiveDualQueryStrategyVarUn_query_b73 CognitiveDualQueryStrategyVarUn_query_b75 CognitiveDualQueryStrategyVarUn_query_b72
def CognitiveDualQueryStrategyVarUn_query_b77 : Prog :=
  .seq (.readAttr 18) (.seq (.bind 27 (.fresh [])) (.seq (.bind 28 (.fresh [])) (.seq (.bind 26 (.alias (.loc 28))) (.seq (.mutate (.loc 26) [(.loc 27)]) (.seq (.bind 23 (.alias (.attr 5))) (.seq (.bind 25 (.alias (.attr 7))) (.seq (.bind 24 (.alias (.loc 26))) CognitiveDualQueryStrategyVarUn_query_b76)))))))
def CognitiveDualQueryStrategyVarUn_query_b78 : Prog :=
  .ite CognitiveDualQueryStrategyVarUn_query_b77 .skip CognitiveDualQueryStrategyVarUn_query_b69
def CognitiveDualQueryStrategyVarUn_query_b79 : Prog :=
  .seq (.bind 31 (.deep (.loc 30))) (.seq (.callFit (.loc 31)) (.seq (.bind 30 (.alias (.loc 31))) .skip))
def CognitiveDualQueryStrategyVarUn_query_b80 : Prog :=
  .seq (.bind 32 (.deep (.loc 30))) (.seq (.callFit (.loc 32)) (.seq (.bind 30 (.alias (.loc 32))) .skip))
def CognitiveDualQueryStrategyVarUn_query_b81 : Prog :=
  .ite CognitiveDualQueryStrategyVarUn_query_b79 CognitiveDualQueryStrategyVarUn_query_b80 .skip
def CognitiveDualQueryStrategyVarUn_query_b82 : Prog :=
  .ite CognitiveDualQueryStrategyVarUn_query_b81 .skip (.seq (.bind 29 (.alias (.loc 30))) (.seq (.bind 19 (.alias (.loc 29))) (.seq (.readAttr 15) (.seq (.readAttr 15) CognitiveDualQueryStrategyVarUn_query_b78))))
def CognitiveDualQueryStrategyVarUn_query_b83 : Prog :=
  .seq (.writeAttr 18 (.deep (.attr 6))) .skip
def CognitiveDualQueryStrategyVarUn_query_b84 : Prog :=
  .ite CognitiveDualQueryStrategyVarUn_query_b83 .skip (.seq (.readAttr 18) (.seq (.bind 34 (.alias (.attr 18))) (.seq (.bind 33 (.alias (.loc 34))) (.seq (.writeAttr 18 (.alias (.loc 33))) (.seq (.bind 30 (.alias (.loc 19))) CognitiveDualQueryStrategyVarUn_query_b82)))))
def CognitiveDualQueryStrategyVarUn_query_b85 : Prog :=
  .seq (.writeAttr 19 (.alias (.attr 5))) .skip
def CognitiveDualQueryStrategyVarUn_query_b86 : Prog :=
  .seq (.writeAttr 19 (.fresh [])) .skip
def CognitiveDualQueryStrategyVarUn_query_b87 : Prog :=
  .ite CognitiveDualQueryStrategyVarUn_query_b85 CognitiveDualQueryStrategyVarUn_query_b86 (.seq (.readAttr 19) CognitiveDualQueryStrategyVarUn_query_b84)
def CognitiveDualQueryStrategyVarUn_query_b88 : Prog :=
  .seq (.writeAttr 18 (.deep (.attr 6))) .skip
def CognitiveDualQueryStrategyVarUn_query_b89 : Prog :=
  .ite CognitiveDualQueryStrategyVarUn_query_b88 .skip (.seq (.readAttr 18) (.seq (.bind 36 (.alias (.attr 18))) (.seq (.bind 35 (.alias (.loc 36))) (.seq (.writeAttr 18 (.alias (.loc 35))) CognitiveDualQueryStrategyVarUn_query_b87))))
def CognitiveDualQueryStrategyVarUn_query_b90 : Prog :=
  .seq (.bind 0 (.fresh [])) (.seq (.bind 14 (.fresh [])) (.seq (.bind 9 (.fresh [])) (.seq (.bind 6 (.fresh [])) (.seq (.bind 4 (.fresh [])) (.seq (.bind 3 (.fresh [])) (.seq (.bind 5 (.fresh [])) (.seq (.bind 10 (.fresh [])) (.seq (.bind 19 (.alias (.loc 17))) (.seq (.writeAttr 20 (.fresh [])) CognitiveDualQueryStrategyVarUn_query_b89)))))))))
def CognitiveDualQueryStrategyVarUn_query_b91 : Prog :=
  .seq (.bind 16 (.fresh [])) (.seq (.bind 12 (.fresh [])) (.seq (.bind 2 (.fresh [])) (.seq (.bind 8 (.fresh [])) (.seq (.bind 1 (.fresh [])) (.seq (.bind 27 (.fresh [])) (.seq (.bind 36 (.fresh [])) (.seq (.bind 34 (.fresh [])) (.seq (.bind 15 (.fresh [])) (.seq (.bind 11 (.fresh [])) CognitiveDualQueryStrategyVarUn_query_b90)))))))))
def CognitiveDualQueryStrategyVarUn_query_b92 : Prog :=
  .seq (.bind 32 (.fresh [])) (.seq (.bind 13 (.fresh [])) (.seq (.bind 7 (.fresh [])) (.seq (.bind 23 (.fresh [])) (.seq (.bind 25 (.fresh [])) (.seq (.bind 22 (.fresh [])) (.seq (.bind 30 (.fresh [])) (.seq (.bind 19 (.fresh [])) (.seq (.bind 24 (.fresh [])) (.seq (.bind 26 (.fresh [])) CognitiveDualQueryStrategyVarUn_query_b91)))))))))
def CognitiveDualQueryStrategyVarUn_query_b93 : Prog :=
  .seq (.bind 20 (.fresh [])) (.seq (.bind 35 (.fresh [])) (.seq (.bind 33 (.fresh [])) (.seq (.bind 29 (.fresh [])) (.seq (.bind 28 (.fresh [])) (.seq (.bind 21 (.fresh [])) (.seq (.bind 18 (.fresh [])) (.seq (.bind 31 (.fresh [])) CognitiveDualQueryStrategyVarUn_query_b92)))))))
def summary_CognitiveDualQueryStrategyVarUn_query : Summary :=
  { params := [0, 1, 2, 3, 4, 5, 6, 7], closedAttrs := [], safeAttrs := [15, 14, 10, 9, 20, 18, 12, 8, 11, 13], body := CognitiveDualQueryStrategyVarUn_query_b93 }
theorem effects_CognitiveDualQueryStrategyVarUn_query : FrameOK summary_CognitiveDualQueryStrategyVarUn_query = true := by decide +kernel

-- CognitiveDualQueryStrategyVarUn.update: locals 0=$t13 1=x_cand 2=new_positions 3=$t14 4=t_x@_calculate_ldf8 5=remove_index@_calculate_ldf8 6=distances@_calculate_ldf8 7=candidates 8=$t10 9=$t11 10=t_x@_calculate_ldf7 11=remove_index@_calculate_ldf7 12=distances@_calculate_ldf7 13=$c7 14=$ret6 15=budget_manager_@check_budget_manager6 16=budget@check_budget_manager6 17=default_budget_manager_dict@check_budget_manager6 18=budget_manager@check_budget_manager6 19=default_budget_manager_kwargs 20=random_seed 21=$ret4 22=$ret3 23=random_state@check_random_state3
def CognitiveDualQueryStrategyVarUn_update_b0 : Prog :=
  .seq (.writeAttr 16 (.fresh [])) .abort
def CognitiveDualQueryStrategyVarUn_update_b1 : Prog :=
  .ite .skip .abort (.seq (.readAttr 15) .skip)
def CognitiveDualQueryStrategyVarUn_update_b2 : Prog :=
  .seq (.mutate (.loc 2) []) (.seq (.bind 0 (.fresh [])) (.seq (.mutate (.loc 0) [(.loc 1)]) .skip))
def CognitiveDualQueryStrategyVarUn_update_b3 : Prog :=
  .seq (.mutate (.loc 2) []) (.seq (.bind 3 (.fresh [])) (.seq (.mutate (.loc 3) []) .skip))
def CognitiveDualQueryStrategyVarUn_update_b4 : Prog :=
  .ite CognitiveDualQueryStrategyVarUn_update_b3 .skip .skip
def CognitiveDualQueryStrategyVarUn_update_b5 : Prog :=
  .ite CognitiveDualQueryStrategyVarUn_update_b2 CognitiveDualQueryStrategyVarUn_update_b4 (.seq (.readAttr 8) (.seq (.writeAttr 8 (.fresh [])) .skip))
def CognitiveDualQueryStrategyVarUn_update_b6 : Prog :=
  .seq (.readAttr 14) (.seq (.mutate (.attr 14) [(.loc 1)]) (.seq (.readAttr 13) (.seq (.mutate (.attr 13) []) (.seq (.readAttr 12) (.seq (.mutate (.attr 12) []) (.seq (.readAttr 11) (.seq (.mutate (.attr 11) [(.loc 4)]) (.seq (.readAttr 10) (.seq (.mutate (.attr 10) []) CognitiveDualQueryStrategyVarUn_update_b5)))))))))
def CognitiveDualQueryStrategyVarUn_update_b7 : Prog :=
  .seq (.readAttr 13) (.seq (.mutate (.attr 13) [(.loc 5)]) (.seq (.readAttr 12) (.seq (.mutate (.attr 12) [(.loc 5)]) (.seq (.readAttr 11) (.seq (.mutate (.attr 11) [(.loc 5)]) (.seq (.readAttr 10) (.seq (.mutate (.attr 10) [(.loc 5)]) (.seq (.readAttr 9) (.seq (.mutate (.attr 9) [(.loc 5)]) .skip)))))))))
def CognitiveDualQueryStrategyVarUn_update_b8 : Prog :=
  .seq (.readAttr 12) (.seq (.bind 5 (.fresh [])) (.seq (.readAttr 14) (.seq (.mutate (.attr 14) [(.loc 5)]) CognitiveDualQueryStrategyVarUn_update_b7)))
def CognitiveDualQueryStrategyVarUn_update_b9 : Prog :=
  .ite CognitiveDualQueryStrategyVarUn_update_b8 .skip CognitiveDualQueryStrategyVarUn_update_b6
def CognitiveDualQueryStrategyVarUn_update_b10 : Prog :=
  .seq (.readAttr 14) (.seq (.readAttr 13) (.seq (.readAttr 10) (.seq (.mutate (.attr 10) []) (.seq (.readAttr 10) (.seq (.readAttr 11) (.seq (.readAttr 12) (.seq (.mutate (.attr 12) []) .skip)))))))
def CognitiveDualQueryStrategyVarUn_update_b11 : Prog :=
  .ite CognitiveDualQueryStrategyVarUn_update_b10 .skip .skip
def CognitiveDualQueryStrategyVarUn_update_b12 : Prog :=
  .seq (.readAttr 14) (.seq (.readAttr 13) (.seq (.readAttr 10) (.seq (.mutate (.attr 10) []) (.seq (.readAttr 10) (.seq (.readAttr 11) (.seq (.readAttr 12) (.seq (.mutate (.attr 12) []) CognitiveDualQueryStrategyVarUn_update_b11)))))))
def CognitiveDualQueryStrategyVarUn_update_b13 : Prog :=
  .ite CognitiveDualQueryStrategyVarUn_update_b12 .skip (.seq (.readAttr 14) CognitiveDualQueryStrategyVarUn_update_b9)
def CognitiveDualQueryStrategyVarUn_update_b14 : Prog :=
  .seq (.readAttr 11) (.seq (.mutate (.attr 11) [(.loc 4)]) (.seq (.readAttr 13) (.seq (.mutate (.attr 13) []) (.seq (.readAttr 9) (.seq (.mutate (.attr 9) [(.sub (.loc 6) 0)]) .skip)))))
def CognitiveDualQueryStrategyVarUn_update_b15 : Prog :=
  .ite CognitiveDualQueryStrategyVarUn_update_b14 .skip .skip
def CognitiveDualQueryStrategyVarUn_update_b16 : Prog :=
  .seq (.readAttr 11) (.seq (.mutate (.attr 11) [(.loc 4)]) (.seq (.readAttr 13) (.seq (.mutate (.attr 13) []) (.seq (.readAttr 9) (.seq (.mutate (.attr 9) [(.sub (.loc 6) 0)]) CognitiveDualQueryStrategyVarUn_update_b15)))))
def CognitiveDualQueryStrategyVarUn_update_b17 : Prog :=
  .ite CognitiveDualQueryStrategyVarUn_update_b16 .skip (.seq (.readAttr 9) (.seq (.mutate (.attr 9) []) .skip))
def CognitiveDualQueryStrategyVarUn_update_b18 : Prog :=
  .seq (.readAttr 14) (.seq (.bind 6 (.fresh [(.attr 14), (.loc 1)])) (.seq (.readAttr 9) CognitiveDualQueryStrategyVarUn_update_b17))
def CognitiveDualQueryStrategyVarUn_update_b19 : Prog :=
  .seq (.readAttr 9) (.seq (.mutate (.attr 9) []) .skip)
def CognitiveDualQueryStrategyVarUn_update_b20 : Prog :=
  .ite CognitiveDualQueryStrategyVarUn_update_b18 CognitiveDualQueryStrategyVarUn_update_b19 (.seq (.readAttr 14) CognitiveDualQueryStrategyVarUn_update_b13)
def CognitiveDualQueryStrategyVarUn_update_b21 : Prog :=
  .seq (.bind 1 (.alias (.sub (.loc 7) 0))) (.seq (.readAttr 8) (.seq (.bind 4 (.alias (.attr 8))) (.seq (.readAttr 14) CognitiveDualQueryStrategyVarUn_update_b20)))
def CognitiveDualQueryStrategyVarUn_update_b22 : Prog :=
  .ite CognitiveDualQueryStrategyVarUn_update_b21 .skip .skip
def CognitiveDualQueryStrategyVarUn_update_b23 : Prog :=
  .seq (.mutate (.loc 2) []) (.seq (.bind 8 (.fresh [])) (.seq (.mutate (.loc 8) [(.loc 1)]) .skip))
def CognitiveDualQueryStrategyVarUn_update_b24 : Prog :=
  .seq (.mutate (.loc 2) []) (.seq (.bind 9 (.fresh [])) (.seq (.mutate (.loc 9) []) .skip))
def CognitiveDualQueryStrategyVarUn_update_b25 : Prog :=
  .ite CognitiveDualQueryStrategyVarUn_update_b24 .skip .skip
def CognitiveDualQueryStrategyVarUn_update_b26 : Prog :=
  .ite CognitiveDualQueryStrategyVarUn_update_b23 CognitiveDualQueryStrategyVarUn_update_b25 (.seq (.readAttr 8) (.seq (.writeAttr 8 (.fresh [])) CognitiveDualQueryStrategyVarUn_update_b22))
def CognitiveDualQueryStrategyVarUn_update_b27 : Prog :=
  .seq (.readAttr 14) (.seq (.mutate (.attr 14) [(.loc 1)]) (.seq (.readAttr 13) (.seq (.mutate (.attr 13) []) (.seq (.readAttr 12) (.seq (.mutate (.attr 12) []) (.seq (.readAttr 11) (.seq (.mutate (.attr 11) [(.loc 10)]) (.seq (.readAttr 10) (.seq (.mutate (.attr 10) []) CognitiveDualQueryStrategyVarUn_update_b26)))))))))
def CognitiveDualQueryStrategyVarUn_update_b28 : Prog :=
  .seq (.readAttr 13) (.seq (.mutate (.attr 13) [(.loc 11)]) (.seq (.readAttr 12) (.seq (.mutate (.attr 12) [(.loc 11)]) (.seq (.readAttr 11) (.seq (.mutate (.attr 11) [(.loc 11)]) (.seq (.readAttr 10) (.seq (.mutate (.attr 10) [(.loc 11)]) (.seq (.readAttr 9) (.seq (.mutate (.attr 9) [(.loc 11)]) .skip)))))))))
def CognitiveDualQueryStrategyVarUn_update_b29 : Prog :=
  .seq (.readAttr 12) (.seq (.bind 11 (.fresh [])) (.seq (.readAttr 14) (.seq (.mutate (.attr 14) [(.loc 11)]) CognitiveDualQueryStrategyVarUn_update_b28)))
def CognitiveDualQueryStrategyVarUn_update_b30 : Prog :=
  .ite CognitiveDualQueryStrategyVarUn_update_b29 .skip CognitiveDualQueryStrategyVarUn_update_b27
def CognitiveDualQueryStrategyVarUn_update_b31 : Prog :=
  .seq (.readAttr 14) (.seq (.readAttr 13) (.seq (.readAttr 10) (.seq (.mutate (.attr 10) []) (.seq (.readAttr 10) (.seq (.readAttr 11) (.seq (.readAttr 12) (.seq (.mutate (.attr 12) []) .skip)))))))
def CognitiveDualQueryStrategyVarUn_update_b32 : Prog :=
  .ite CognitiveDualQueryStrategyVarUn_update_b31 .skip .skip
def CognitiveDualQueryStrategyVarUn_update_b33 : Prog :=
  .seq (.readAttr 14) (.seq (.readAttr 13) (.seq (.readAttr 10) (.seq (.mutate (.attr 10) []) (.seq (.readAttr 10) (.seq (.readAttr 11) (.seq (.readAttr 12) (.seq (.mutate (.attr 12) []) CognitiveDualQueryStrategyVarUn_update_b32)))))))
def CognitiveDualQueryStrategyVarUn_update_b34 : Prog :=
  .ite CognitiveDualQueryStrategyVarUn_update_b33 .skip (.seq (.readAttr 14) CognitiveDualQueryStrategyVarUn_update_b30)
def CognitiveDualQueryStrategyVarUn_update_b35 : Prog :=
  .seq (.readAttr 11) (.seq (.mutate (.attr 11) [(.loc 10)]) (.seq (.readAttr 13) (.seq (.mutate (.attr 13) []) (.seq (.readAttr 9) (.seq (.mutate (.attr 9) [(.sub (.loc 12) 0)]) .skip)))))
def CognitiveDualQueryStrategyVarUn_update_b36 : Prog :=
  .ite CognitiveDualQueryStrategyVarUn_update_b35 .skip .skip
def CognitiveDualQueryStrategyVarUn_update_b37 : Prog :=
  .seq (.readAttr 11) (.seq (.mutate (.attr 11) [(.loc 10)]) (.seq (.readAttr 13) (.seq (.mutate (.attr 13) []) (.seq (.readAttr 9) (.seq (.mutate (.attr 9) [(.sub (.loc 12) 0)]) CognitiveDualQueryStrategyVarUn_update_b36)))))
def CognitiveDualQueryStrategyVarUn_update_b38 : Prog :=
  .ite CognitiveDualQueryStrategyVarUn_update_b37 .skip (.seq (.readAttr 9) (.seq (.mutate (.attr 9) []) .skip))
def CognitiveDualQueryStrategyVarUn_update_b39 : Prog :=
  .seq (.readAttr 14) (.seq (.bind 12 (.fresh [(.attr 14), (.loc 1)])) (.seq (.readAttr 9) CognitiveDualQueryStrategyVarUn_update_b38))
def CognitiveDualQueryStrategyVarUn_update_b40 : Prog :=
  .seq (.readAttr 9) (.seq (.mutate (.attr 9) []) .skip)
def CognitiveDualQueryStrategyVarUn_update_b41 : Prog :=
  .ite CognitiveDualQueryStrategyVarUn_update_b39 CognitiveDualQueryStrategyVarUn_update_b40 (.seq (.readAttr 14) CognitiveDualQueryStrategyVarUn_update_b34)
def CognitiveDualQueryStrategyVarUn_update_b42 : Prog :=
  .seq (.bind 1 (.alias (.sub (.loc 7) 0))) (.seq (.readAttr 8) (.seq (.bind 10 (.alias (.attr 8))) (.seq (.readAttr 14) CognitiveDualQueryStrategyVarUn_update_b41)))
def CognitiveDualQueryStrategyVarUn_update_b43 : Prog :=
  .ite CognitiveDualQueryStrategyVarUn_update_b42 .skip CognitiveDualQueryStrategyVarUn_update_b1
def CognitiveDualQueryStrategyVarUn_update_b44 : Prog :=
  .seq (.writeAttr 11 (.fresh [])) .skip
def CognitiveDualQueryStrategyVarUn_update_b45 : Prog :=
  .ite CognitiveDualQueryStrategyVarUn_update_b44 .skip (.seq (.bind 2 (.fresh [])) CognitiveDualQueryStrategyVarUn_update_b43)
def CognitiveDualQueryStrategyVarUn_update_b46 : Prog :=
  .seq (.writeAttr 12 (.fresh [])) .skip
def CognitiveDualQueryStrategyVarUn_update_b47 : Prog :=
  .ite CognitiveDualQueryStrategyVarUn_update_b46 .skip CognitiveDualQueryStrategyVarUn_update_b45
def CognitiveDualQueryStrategyVarUn_update_b48 : Prog :=
  .seq (.writeAttr 13 (.fresh [])) .skip
def CognitiveDualQueryStrategyVarUn_update_b49 : Prog :=
  .ite CognitiveDualQueryStrategyVarUn_update_b48 .skip CognitiveDualQueryStrategyVarUn_update_b47
def CognitiveDualQueryStrategyVarUn_update_b50 : Prog :=
  .seq (.writeAttr 10 (.fresh [])) .skip
def CognitiveDualQueryStrategyVarUn_update_b51 : Prog :=
  .ite CognitiveDualQueryStrategyVarUn_update_b50 .skip CognitiveDualQueryStrategyVarUn_update_b49
def CognitiveDualQueryStrategyVarUn_update_b52 : Prog :=
  .seq (.writeAttr 14 (.fresh [])) .skip
def CognitiveDualQueryStrategyVarUn_update_b53 : Prog :=
  .ite CognitiveDualQueryStrategyVarUn_update_b52 .skip CognitiveDualQueryStrategyVarUn_update_b51
def CognitiveDualQueryStrategyVarUn_update_b54 : Prog :=
  .seq (.writeAttr 8 (.fresh [])) .skip
def CognitiveDualQueryStrategyVarUn_update_b55 : Prog :=
  .ite CognitiveDualQueryStrategyVarUn_update_b54 .skip CognitiveDualQueryStrategyVarUn_update_b53
def CognitiveDualQueryStrategyVarUn_update_b56 : Prog :=
  .seq (.writeAttr 9 (.fresh [])) .skip
def CognitiveDualQueryStrategyVarUn_update_b57 : Prog :=
  .ite CognitiveDualQueryStrategyVarUn_update_b56 .skip CognitiveDualQueryStrategyVarUn_update_b55
def CognitiveDualQueryStrategyVarUn_update_b58 : Prog :=
  .ite CognitiveDualQueryStrategyVarUn_update_b0 CognitiveDualQueryStrategyVarUn_update_b57 .skip
def CognitiveDualQueryStrategyVarUn_update_b59 : Prog :=
  .seq (.bind 13 (.alias (.attr 2))) .skip
def CognitiveDualQueryStrategyVarUn_update_b60 : Prog :=
  .seq (.bind 13 (.fresh [])) .skip
def CognitiveDualQueryStrategyVarUn_update_b61 : Prog :=
  .ite CognitiveDualQueryStrategyVarUn_update_b59 CognitiveDualQueryStrategyVarUn_update_b60 (.seq (.writeAttr 16 (.alias (.loc 13))) (.seq (.readAttr 16) CognitiveDualQueryStrategyVarUn_update_b58))
def CognitiveDualQueryStrategyVarUn_update_b62 : Prog :=
  .ite .abort CognitiveDualQueryStrategyVarUn_update_b61 .skip
def CognitiveDualQueryStrategyVarUn_update_b63 : Prog :=
  .seq (.writeAttr 17 (.fresh [])) .skip
def CognitiveDualQueryStrategyVarUn_update_b64 : Prog :=
  .seq (.writeAttr 17 (.alias (.attr 1))) .skip
def CognitiveDualQueryStrategyVarUn_update_b65 : Prog :=
  .ite CognitiveDualQueryStrategyVarUn_update_b63 CognitiveDualQueryStrategyVarUn_update_b64 (.seq (.readAttr 17) CognitiveDualQueryStrategyVarUn_update_b62)
def CognitiveDualQueryStrategyVarUn_update_b66 : Prog :=
  .seq (.bind 15 (.fresh [(.loc 16), (.sub (.loc 17) 0)])) .skip
def CognitiveDualQueryStrategyVarUn_update_b67 : Prog :=
  .seq (.bind 15 (.deep (.loc 18))) .skip
def CognitiveDualQueryStrategyVarUn_update_b68 : Prog :=
  .ite CognitiveDualQueryStrategyVarUn_update_b66 CognitiveDualQueryStrategyVarUn_update_b67 (.seq (.bind 14 (.alias (.loc 15))) (.seq (.writeAttr 15 (.alias (.loc 14))) .skip))
def CognitiveDualQueryStrategyVarUn_update_b69 : Prog :=
  .seq (.bind 17 (.fresh [])) .skip
def CognitiveDualQueryStrategyVarUn_update_b70 : Prog :=
  .seq (.mutate (.loc 17) []) .skip
def CognitiveDualQueryStrategyVarUn_update_b71 : Prog :=
  .ite CognitiveDualQueryStrategyVarUn_update_b70 .skip .skip
def CognitiveDualQueryStrategyVarUn_update_b72 : Prog :=
  .ite CognitiveDualQueryStrategyVarUn_update_b69 CognitiveDualQueryStrategyVarUn_update_b71 CognitiveDualQueryStrategyVarUn_update_b68
def CognitiveDualQueryStrategyVarUn_update_b73 : Prog :=
  .seq (.bind 22 (.alias (.loc 23))) (.seq (.writeAttr 18 (.alias (.loc 22))) (.seq (.readAttr 18) (.seq (.bind 20 (.fresh [])) (.seq (.bind 21 (.fresh [])) (.seq (.bind 19 (.alias (.loc 21))) (.seq (.mutate (.loc 19) [(.loc 20)]) (.seq (.bind 16 (.alias (.attr 5))) (.seq (.bind 18 (.alias (.attr 7))) (.seq (.bind 17 (.alias (.loc 19))) CognitiveDualQueryStrategyVarUn_update_b72)))))))))
def CognitiveDualQueryStrategyVarUn_update_b74 : Prog :=
  .seq (.writeAttr 18 (.deep (.attr 6))) .skip
def CognitiveDualQueryStrategyVarUn_update_b75 : Prog :=
  .ite CognitiveDualQueryStrategyVarUn_update_b74 .skip (.seq (.readAttr 18) (.seq (.bind 23 (.alias (.attr 18))) CognitiveDualQueryStrategyVarUn_update_b73))
def CognitiveDualQueryStrategyVarUn_update_b76 : Prog :=
  .ite CognitiveDualQueryStrategyVarUn_update_b75 .skip CognitiveDualQueryStrategyVarUn_update_b65
def CognitiveDualQueryStrategyVarUn_update_b77 : Prog :=
  .seq (.bind 2 (.fresh [])) (.seq (.bind 20 (.fresh [])) (.seq (.bind 23 (.fresh [])) (.seq (.bind 11 (.fresh [])) (.seq (.bind 5 (.fresh [])) (.seq (.bind 10 (.fresh [])) (.seq (.bind 4 (.fresh [])) (.seq (.bind 1 (.fresh [])) (.seq (.readAttr 15) (.seq (.readAttr 15) CognitiveDualQueryStrategyVarUn_update_b76)))))))))
def CognitiveDualQueryStrategyVarUn_update_b78 : Prog :=
  .seq (.bind 9 (.fresh [])) (.seq (.bind 0 (.fresh [])) (.seq (.bind 3 (.fresh [])) (.seq (.bind 16 (.fresh [])) (.seq (.bind 18 (.fresh [])) (.seq (.bind 15 (.fresh [])) (.seq (.bind 17 (.fresh [])) (.seq (.bind 19 (.fresh [])) (.seq (.bind 12 (.fresh [])) (.seq (.bind 6 (.fresh [])) CognitiveDualQueryStrategyVarUn_update_b77)))))))))
def CognitiveDualQueryStrategyVarUn_update_b79 : Prog :=
  .seq (.bind 13 (.fresh [])) (.seq (.bind 22 (.fresh [])) (.seq (.bind 21 (.fresh [])) (.seq (.bind 14 (.fresh [])) (.seq (.bind 8 (.fresh [])) CognitiveDualQueryStrategyVarUn_update_b78))))
def summary_CognitiveDualQueryStrategyVarUn_update : Summary :=
  { params := [0, 1, 2, 3, 4, 5, 6, 7], closedAttrs := [], safeAttrs := [15, 14, 10, 9, 20, 18, 12, 8, 11, 13], body := CognitiveDualQueryStrategyVarUn_update_b79 }
theorem effects_CognitiveDualQueryStrategyVarUn_update : FrameOK summary_CognitiveDualQueryStrategyVarUn_update = true := by decide +kernel

/-! ### CognitiveDualQueryStrategyFixUn  (skactiveml/stream/_density_uncertainty.py)
attributes: 0=classes 1=force_full_budget 2=dist_func 3=dist_func_dict 4=density_threshold 5=cognition_window_size 6=budget 7=random_state 8=budget_manager 9=t_ 10=min_dist_ 11=f_ 12=t_x_ 13=s_ 14=theta_ 15=cognition_window_ 16=budget_manager_ 17=dist_func_dict_ 18=dist_func_ 19=random_state_ 20=budget_ 21=n_features_in_
keys: 0=* -/
-- CognitiveDualQueryStrategyFixUn.query: locals 0=t 1=min_dist 2=f 3=tmp_t_x 4=tmp_s 5=tmp_theta 6=tmp_cognition_window 7=$t32 8=i 9=t_x@_calculate_ldf15 10=x_cand 11=remove_index@_calculate_ldf15 12=distances@_calculate_ldf15 13=$t30 14=t_x@_calculate_ldf14 15=remove_index@_calculate_ldf14 16=distances@_calculate_ldf14 17=clf 18=$ret3 19=clf@_validate_data1 20=$c28 21=$ret27 22=budget_manager_@check_budget_manager13 23=budget@check_budget_manager13 24=default_budget_manager_dict@check_budget_manager13 25=budget_manager@check_budget_manager13 26=default_budget_manager_kwargs@_validate_data1 27=random_seed@_validate_data1 28=$ret25 29=$ret21 30=clf@_validate_clf9 31=$t22 32=$t23 33=$ret16 34=random_state@check_random_state7 35=$ret13 36=random_state@check_random_state4
def CognitiveDualQueryStrategyFixUn_query_b0 : Prog :=
  .seq (.bind 7 (.fresh [])) (.seq (.mutate (.loc 7) [(.loc 8)]) .skip)
def CognitiveDualQueryStrategyFixUn_query_b1 : Prog :=
  .ite CognitiveDualQueryStrategyFixUn_query_b0 .skip .skip
def CognitiveDualQueryStrategyFixUn_query_b2 : Prog :=
  .seq (.readAttr 16) (.seq (.callFit (.attr 16)) CognitiveDualQueryStrategyFixUn_query_b1)
def CognitiveDualQueryStrategyFixUn_query_b3 : Prog :=
  .seq (.readAttr 16) (.seq (.callFit (.attr 16)) .skip)
def CognitiveDualQueryStrategyFixUn_query_b4 : Prog :=
  .ite CognitiveDualQueryStrategyFixUn_query_b3 .skip .skip
def CognitiveDualQueryStrategyFixUn_query_b5 : Prog :=
  .ite CognitiveDualQueryStrategyFixUn_query_b2 CognitiveDualQueryStrategyFixUn_query_b4 (.seq (.readAttr 9) (.seq (.writeAttr 9 (.fresh [])) .skip))
def CognitiveDualQueryStrategyFixUn_query_b6 : Prog :=
  .seq (.readAttr 15) (.seq (.mutate (.attr 15) [(.loc 10)]) (.seq (.readAttr 14) (.seq (.mutate (.attr 14) []) (.seq (.readAttr 13) (.seq (.mutate (.attr 13) []) (.seq (.readAttr 12) (.seq (.mutate (.attr 12) [(.loc 9)]) (.seq (.readAttr 11) (.seq (.mutate (.attr 11) []) CognitiveDualQueryStrategyFixUn_query_b5)))))))))
def CognitiveDualQueryStrategyFixUn_query_b7 : Prog :=
  .seq (.readAttr 14) (.seq (.mutate (.attr 14) [(.loc 11)]) (.seq (.readAttr 13) (.seq (.mutate (.attr 13) [(.loc 11)]) (.seq (.readAttr 12) (.seq (.mutate (.attr 12) [(.loc 11)]) (.seq (.readAttr 11) (.seq (.mutate (.attr 11) [(.loc 11)]) (.seq (.readAttr 10) (.seq (.mutate (.attr 10) [(.loc 11)]) .skip)))))))))
def CognitiveDualQueryStrategyFixUn_query_b8 : Prog :=
  .seq (.readAttr 13) (.seq (.bind 11 (.fresh [])) (.seq (.readAttr 15) (.seq (.mutate (.attr 15) [(.loc 11)]) CognitiveDualQueryStrategyFixUn_query_b7)))
def CognitiveDualQueryStrategyFixUn_query_b9 : Prog :=
  .ite CognitiveDualQueryStrategyFixUn_query_b8 .skip CognitiveDualQueryStrategyFixUn_query_b6
def CognitiveDualQueryStrategyFixUn_query_b10 : Prog :=
  .seq (.readAttr 15) (.seq (.readAttr 14) (.seq (.readAttr 11) (.seq (.mutate (.attr 11) []) (.seq (.readAttr 11) (.seq (.readAttr 12) (.seq (.readAttr 13) (.seq (.mutate (.attr 13) []) .skip)))))))
def CognitiveDualQueryStrategyFixUn_query_b11 : Prog :=
  .ite CognitiveDualQueryStrategyFixUn_query_b10 .skip .skip
def CognitiveDualQueryStrategyFixUn_query_b12 : Prog :=
  .seq (.readAttr 15) (.seq (.readAttr 14) (.seq (.readAttr 11) (.seq (.mutate (.attr 11) []) (.seq (.readAttr 11) (.seq (.readAttr 12) (.seq (.readAttr 13) (.seq (.mutate (.attr 13) []) CognitiveDualQueryStrategyFixUn_query_b11)))))))
def CognitiveDualQueryStrategyFixUn_query_b13 : Prog :=
  .ite CognitiveDualQueryStrategyFixUn_query_b12 .skip (.seq (.readAttr 15) CognitiveDualQueryStrategyFixUn_query_b9)
def CognitiveDualQueryStrategyFixUn_query_b14 : Prog :=
  .seq (.readAttr 12) (.seq (.mutate (.attr 12) [(.loc 9)]) (.seq (.readAttr 14) (.seq (.mutate (.attr 14) []) (.seq (.readAttr 10) (.seq (.mutate (.attr 10) [(.sub (.loc 12) 0)]) .skip)))))
def CognitiveDualQueryStrategyFixUn_query_b15 : Prog :=
  .ite CognitiveDualQueryStrategyFixUn_query_b14 .skip .skip
def CognitiveDualQueryStrategyFixUn_query_b16 : Prog :=
  .seq (.readAttr 12) (.seq (.mutate (.attr 12) [(.loc 9)]) (.seq (.readAttr 14) (.seq (.mutate (.attr 14) []) (.seq (.readAttr 10) (.seq (.mutate (.attr 10) [(.sub (.loc 12) 0)]) CognitiveDualQueryStrategyFixUn_query_b15)))))
def CognitiveDualQueryStrategyFixUn_query_b17 : Prog :=
  .ite CognitiveDualQueryStrategyFixUn_query_b16 .skip (.seq (.readAttr 10) (.seq (.mutate (.attr 10) []) .skip))
def CognitiveDualQueryStrategyFixUn_query_b18 : Prog :=
  .seq (.readAttr 15) (.seq (.bind 12 (.fresh [(.attr 15), (.loc 10)])) (.seq (.readAttr 10) CognitiveDualQueryStrategyFixUn_query_b17))
def CognitiveDualQueryStrategyFixUn_query_b19 : Prog :=
  .seq (.readAttr 10) (.seq (.mutate (.attr 10) []) .skip)
def CognitiveDualQueryStrategyFixUn_query_b20 : Prog :=
  .ite CognitiveDualQueryStrategyFixUn_query_b18 CognitiveDualQueryStrategyFixUn_query_b19 (.seq (.readAttr 15) CognitiveDualQueryStrategyFixUn_query_b13)
def CognitiveDualQueryStrategyFixUn_query_b21 : Prog :=
  .seq (.bind 8 (.fresh [])) (.seq (.bind 10 (.fresh [])) (.seq (.readAttr 9) (.seq (.bind 9 (.alias (.attr 9))) (.seq (.readAttr 15) CognitiveDualQueryStrategyFixUn_query_b20))))
def CognitiveDualQueryStrategyFixUn_query_b22 : Prog :=
  .ite CognitiveDualQueryStrategyFixUn_query_b21 .skip .skip
def CognitiveDualQueryStrategyFixUn_query_b23 : Prog :=
  .seq (.bind 13 (.fresh [])) (.seq (.mutate (.loc 13) [(.loc 8)]) .skip)
def CognitiveDualQueryStrategyFixUn_query_b24 : Prog :=
  .ite CognitiveDualQueryStrategyFixUn_query_b23 .skip .skip
def CognitiveDualQueryStrategyFixUn_query_b25 : Prog :=
  .seq (.readAttr 16) (.seq (.callFit (.attr 16)) CognitiveDualQueryStrategyFixUn_query_b24)
def CognitiveDualQueryStrategyFixUn_query_b26 : Prog :=
  .seq (.readAttr 16) (.seq (.callFit (.attr 16)) .skip)
def CognitiveDualQueryStrategyFixUn_query_b27 : Prog :=
  .ite CognitiveDualQueryStrategyFixUn_query_b26 .skip .skip
def CognitiveDualQueryStrategyFixUn_query_b28 : Prog :=
  .ite CognitiveDualQueryStrategyFixUn_query_b25 CognitiveDualQueryStrategyFixUn_query_b27 (.seq (.readAttr 9) (.seq (.writeAttr 9 (.fresh [])) CognitiveDualQueryStrategyFixUn_query_b22))
def CognitiveDualQueryStrategyFixUn_query_b29 : Prog :=
  .seq (.readAttr 15) (.seq (.mutate (.attr 15) [(.loc 10)]) (.seq (.readAttr 14) (.seq (.mutate (.attr 14) []) (.seq (.readAttr 13) (.seq (.mutate (.attr 13) []) (.seq (.readAttr 12) (.seq (.mutate (.attr 12) [(.loc 14)]) (.seq (.readAttr 11) (.seq (.mutate (.attr 11) []) CognitiveDualQueryStrategyFixUn_query_b28)))))))))
def CognitiveDualQueryStrategyFixUn_query_b30 : Prog :=
  .seq (.readAttr 14) (.seq (.mutate (.attr 14) [(.loc 15)]) (.seq (.readAttr 13) (.seq (.mutate (.attr 13) [(.loc 15)]) (.seq (.readAttr 12) (.seq (.mutate (.attr 12) [(.loc 15)]) (.seq (.readAttr 11) (.seq (.mutate (.attr 11) [(.loc 15)]) (.seq (.readAttr 10) (.seq (.mutate (.attr 10) [(.loc 15)]) .skip)))))))))
def CognitiveDualQueryStrategyFixUn_query_b31 : Prog :=
  .seq (.readAttr 13) (.seq (.bind 15 (.fresh [])) (.seq (.readAttr 15) (.seq (.mutate (.attr 15) [(.loc 15)]) CognitiveDualQueryStrategyFixUn_query_b30)))
def CognitiveDualQueryStrategyFixUn_query_b32 : Prog :=
  .ite CognitiveDualQueryStrategyFixUn_query_b31 .skip CognitiveDualQueryStrategyFixUn_query_b29
def CognitiveDualQueryStrategyFixUn_query_b33 : Prog :=
  .seq (.readAttr 15) (.seq (.readAttr 14) (.seq (.readAttr 11) (.seq (.mutate (.attr 11) []) (.seq (.readAttr 11) (.seq (.readAttr 12) (.seq (.readAttr 13) (.seq (.mutate (.attr 13) []) .skip)))))))
def CognitiveDualQueryStrategyFixUn_query_b34 : Prog :=
  .ite CognitiveDualQueryStrategyFixUn_query_b33 .skip .skip
def CognitiveDualQueryStrategyFixUn_query_b35 : Prog :=
  .seq (.readAttr 15) (.seq (.readAttr 14) (.seq (.readAttr 11) (.seq (.mutate (.attr 11) []) (.seq (.readAttr 11) (.seq (.readAttr 12) (.seq (.readAttr 13) (.seq (.mutate (.attr 13) []) CognitiveDualQueryStrategyFixUn_query_b34)))))))
def CognitiveDualQueryStrategyFixUn_query_b36 : Prog :=
  .ite CognitiveDualQueryStrategyFixUn_query_b35 .skip (.seq (.readAttr 15) CognitiveDualQueryStrategyFixUn_query_b32)
def CognitiveDualQueryStrategyFixUn_query_b37 : Prog :=
  .seq (.readAttr 12) (.seq (.mutate (.attr 12) [(.loc 14)]) (.seq (.readAttr 14) (.seq (.mutate (.attr 14) []) (.seq (.readAttr 10) (.seq (.mutate (.attr 10) [(.sub (.loc 16) 0)]) .skip)))))
def CognitiveDualQueryStrategyFixUn_query_b38 : Prog :=
  .ite CognitiveDualQueryStrategyFixUn_query_b37 .skip .skip
def CognitiveDualQueryStrategyFixUn_query_b39 : Prog :=
  .seq (.readAttr 12) (.seq (.mutate (.attr 12) [(.loc 14)]) (.seq (.readAttr 14) (.seq (.mutate (.attr 14) []) (.seq (.readAttr 10) (.seq (.mutate (.attr 10) [(.sub (.loc 16) 0)]) CognitiveDualQueryStrategyFixUn_query_b38)))))
def CognitiveDualQueryStrategyFixUn_query_b40 : Prog :=
  .ite CognitiveDualQueryStrategyFixUn_query_b39 .skip (.seq (.readAttr 10) (.seq (.mutate (.attr 10) []) .skip))
def CognitiveDualQueryStrategyFixUn_query_b41 : Prog :=
  .seq (.readAttr 15) (.seq (.bind 16 (.fresh [(.attr 15), (.loc 10)])) (.seq (.readAttr 10) CognitiveDualQueryStrategyFixUn_query_b40))
def CognitiveDualQueryStrategyFixUn_query_b42 : Prog :=
  .seq (.readAttr 10) (.seq (.mutate (.attr 10) []) .skip)
def CognitiveDualQueryStrategyFixUn_query_b43 : Prog :=
  .ite CognitiveDualQueryStrategyFixUn_query_b41 CognitiveDualQueryStrategyFixUn_query_b42 (.seq (.readAttr 15) CognitiveDualQueryStrategyFixUn_query_b36)
def CognitiveDualQueryStrategyFixUn_query_b44 : Prog :=
  .seq (.bind 8 (.fresh [])) (.seq (.bind 10 (.fresh [])) (.seq (.readAttr 9) (.seq (.bind 14 (.alias (.attr 9))) (.seq (.readAttr 15) CognitiveDualQueryStrategyFixUn_query_b43))))
def CognitiveDualQueryStrategyFixUn_query_b45 : Prog :=
  .ite CognitiveDualQueryStrategyFixUn_query_b44 .skip (.seq (.writeAttr 15 (.alias (.loc 6))) (.seq (.writeAttr 14 (.alias (.loc 5))) (.seq (.writeAttr 13 (.alias (.loc 4))) (.seq (.writeAttr 12 (.alias (.loc 3))) (.seq (.writeAttr 11 (.alias (.loc 2))) (.seq (.writeAttr 10 (.alias (.loc 1))) (.seq (.writeAttr 9 (.alias (.loc 0))) .skip)))))))
def CognitiveDualQueryStrategyFixUn_query_b46 : Prog :=
  .seq (.readAttr 13) (.seq (.bind 4 (.copy (.attr 13))) (.seq (.readAttr 12) (.seq (.bind 3 (.copy (.attr 12))) (.seq (.readAttr 11) (.seq (.bind 2 (.copy (.attr 11))) (.seq (.readAttr 10) (.seq (.bind 1 (.copy (.attr 10))) (.seq (.readAttr 9) (.seq (.bind 0 (.copy (.attr 9))) CognitiveDualQueryStrategyFixUn_query_b45)))))))))
def CognitiveDualQueryStrategyFixUn_query_b47 : Prog :=
  .seq (.writeAttr 17 (.fresh [])) .abort
def CognitiveDualQueryStrategyFixUn_query_b48 : Prog :=
  .seq (.writeAttr 12 (.fresh [])) .skip
def CognitiveDualQueryStrategyFixUn_query_b49 : Prog :=
  .ite CognitiveDualQueryStrategyFixUn_query_b48 .skip (.seq (.bind 18 (.alias (.loc 19))) .skip)
def CognitiveDualQueryStrategyFixUn_query_b50 : Prog :=
  .seq (.writeAttr 13 (.fresh [])) .skip
def CognitiveDualQueryStrategyFixUn_query_b51 : Prog :=
  .ite CognitiveDualQueryStrategyFixUn_query_b50 .skip CognitiveDualQueryStrategyFixUn_query_b49
def CognitiveDualQueryStrategyFixUn_query_b52 : Prog :=
  .seq (.writeAttr 14 (.fresh [])) .skip
def CognitiveDualQueryStrategyFixUn_query_b53 : Prog :=
  .ite CognitiveDualQueryStrategyFixUn_query_b52 .skip CognitiveDualQueryStrategyFixUn_query_b51
def CognitiveDualQueryStrategyFixUn_query_b54 : Prog :=
  .seq (.writeAttr 11 (.fresh [])) .skip
def CognitiveDualQueryStrategyFixUn_query_b55 : Prog :=
  .ite CognitiveDualQueryStrategyFixUn_query_b54 .skip CognitiveDualQueryStrategyFixUn_query_b53
def CognitiveDualQueryStrategyFixUn_query_b56 : Prog :=
  .seq (.writeAttr 15 (.fresh [])) .skip
def CognitiveDualQueryStrategyFixUn_query_b57 : Prog :=
  .ite CognitiveDualQueryStrategyFixUn_query_b56 .skip CognitiveDualQueryStrategyFixUn_query_b55
def CognitiveDualQueryStrategyFixUn_query_b58 : Prog :=
  .seq (.writeAttr 9 (.fresh [])) .skip
def CognitiveDualQueryStrategyFixUn_query_b59 : Prog :=
  .ite CognitiveDualQueryStrategyFixUn_query_b58 .skip CognitiveDualQueryStrategyFixUn_query_b57
def CognitiveDualQueryStrategyFixUn_query_b60 : Prog :=
  .seq (.writeAttr 10 (.fresh [])) .skip
def CognitiveDualQueryStrategyFixUn_query_b61 : Prog :=
  .ite CognitiveDualQueryStrategyFixUn_query_b60 .skip CognitiveDualQueryStrategyFixUn_query_b59
def CognitiveDualQueryStrategyFixUn_query_b62 : Prog :=
  .ite CognitiveDualQueryStrategyFixUn_query_b47 CognitiveDualQueryStrategyFixUn_query_b61 .skip
def CognitiveDualQueryStrategyFixUn_query_b63 : Prog :=
  .seq (.bind 20 (.alias (.attr 3))) .skip
def CognitiveDualQueryStrategyFixUn_query_b64 : Prog :=
  .seq (.bind 20 (.fresh [])) .skip
def CognitiveDualQueryStrategyFixUn_query_b65 : Prog :=
  .ite CognitiveDualQueryStrategyFixUn_query_b63 CognitiveDualQueryStrategyFixUn_query_b64 (.seq (.writeAttr 17 (.alias (.loc 20))) (.seq (.readAttr 17) CognitiveDualQueryStrategyFixUn_query_b62))
def CognitiveDualQueryStrategyFixUn_query_b66 : Prog :=
  .ite .abort CognitiveDualQueryStrategyFixUn_query_b65 (.seq (.bind 17 (.alias (.loc 18))) (.seq (.readAttr 15) (.seq (.bind 6 (.copy (.attr 15))) (.seq (.readAttr 14) (.seq (.bind 5 (.copy (.attr 14))) CognitiveDualQueryStrategyFixUn_query_b46)))))
def CognitiveDualQueryStrategyFixUn_query_b67 : Prog :=
  .seq (.writeAttr 18 (.fresh [])) .skip
def CognitiveDualQueryStrategyFixUn_query_b68 : Prog :=
  .seq (.writeAttr 18 (.alias (.attr 2))) .skip
def CognitiveDualQueryStrategyFixUn_query_b69 : Prog :=
  .ite CognitiveDualQueryStrategyFixUn_query_b67 CognitiveDualQueryStrategyFixUn_query_b68 (.seq (.readAttr 18) CognitiveDualQueryStrategyFixUn_query_b66)
def CognitiveDualQueryStrategyFixUn_query_b70 : Prog :=
  .seq (.bind 22 (.fresh [(.loc 23), (.sub (.loc 24) 0)])) .skip
def CognitiveDualQueryStrategyFixUn_query_b71 : Prog :=
  .seq (.bind 22 (.deep (.loc 25))) .skip
def CognitiveDualQueryStrategyFixUn_query_b72 : Prog :=
  .ite CognitiveDualQueryStrategyFixUn_query_b70 CognitiveDualQueryStrategyFixUn_query_b71 (.seq (.bind 21 (.alias (.loc 22))) (.seq (.writeAttr 16 (.alias (.loc 21))) .skip))
def CognitiveDualQueryStrategyFixUn_query_b73 : Prog :=
  .seq (.bind 24 (.fresh [])) .skip
def CognitiveDualQueryStrategyFixUn_query_b74 : Prog :=
  .seq (.mutate (.loc 24) []) .skip
def CognitiveDualQueryStrategyFixUn_query_b75 : Prog :=
  .ite CognitiveDualQueryStrategyFixUn_query_b74 .skip .skip
def CognitiveDualQueryStrategyFixUn_query_b76 : Prog :=
  .ite CognitiveDualQueryStrategyFixUn_query_b73 CognitiveDualQueryStrategyFixUn_query_b75 CognitiveDualQueryStrategyFixUn_query_b72
def CognitiveDualQueryStrategyFixUn_query_b77 : Prog :=
  .seq (.readAttr 19) (.seq (.bind 27 (.fresh [])) (.seq (.bind 28 (.fresh [(.attr 0)])) (.seq (.bind 26 (.alias (.loc 28))) (.seq (.mutate (.loc 26) [(.loc 27)]) (.seq (.bind 23 (.alias (.attr 6))) (.seq (.bind 25 (.alias (.attr 8))) (.seq (.bind 24 (.alias (.loc 26))) CognitiveDualQueryStrategyFixUn_query_b76)))))))
def CognitiveDualQueryStrategyFixUn_query_b78 : Prog :=
  .ite CognitiveDualQueryStrategyFixUn_query_b77 .skip CognitiveDualQueryStrategyFixUn_query_b69
def CognitiveDualQueryStrategyFixUn_query_b79 : Prog :=
  .seq (.bind 31 (.deep (.loc 30))) (.seq (.callFit (.loc 31)) (.seq (.bind 30 (.alias (.loc 31))) .skip))
def CognitiveDualQueryStrategyFixUn_query_b80 : Prog :=
  .seq (.bind 32 (.deep (.loc 30))) (.seq (.callFit (.loc 32)) (.seq (.bind 30 (.alias (.loc 32))) .skip))
def CognitiveDualQueryStrategyFixUn_query_b81 : Prog :=
  .ite CognitiveDualQueryStrategyFixUn_query_b79 CognitiveDualQueryStrategyFixUn_query_b80 .skip
def CognitiveDualQueryStrategyFixUn_query_b82 : Prog :=
  .ite CognitiveDualQueryStrategyFixUn_query_b81 .skip (.seq (.bind 29 (.alias (.loc 30))) (.seq (.bind 19 (.alias (.loc 29))) (.seq (.readAttr 16) (.seq (.readAttr 16) CognitiveDualQueryStrategyFixUn_query_b78))))
def CognitiveDualQueryStrategyFixUn_query_b83 : Prog :=
  .seq (.writeAttr 19 (.deep (.attr 7))) .skip
def CognitiveDualQueryStrategyFixUn_query_b84 : Prog :=
  .ite CognitiveDualQueryStrategyFixUn_query_b83 .skip (.seq (.readAttr 19) (.seq (.bind 34 (.alias (.attr 19))) (.seq (.bind 33 (.alias (.loc 34))) (.seq (.writeAttr 19 (.alias (.loc 33))) (.seq (.bind 30 (.alias (.loc 19))) CognitiveDualQueryStrategyFixUn_query_b82)))))
def CognitiveDualQueryStrategyFixUn_query_b85 : Prog :=
  .seq (.writeAttr 20 (.alias (.attr 6))) .skip
def CognitiveDualQueryStrategyFixUn_query_b86 : Prog :=
  .seq (.writeAttr 20 (.fresh [])) .skip
def CognitiveDualQueryStrategyFixUn_query_b87 : Prog :=
  .ite CognitiveDualQueryStrategyFixUn_query_b85 CognitiveDualQueryStrategyFixUn_query_b86 (.seq (.readAttr 20) CognitiveDualQueryStrategyFixUn_query_b84)
def CognitiveDualQueryStrategyFixUn_query_b88 : Prog :=
  .seq (.writeAttr 19 (.deep (.attr 7))) .skip
def CognitiveDualQueryStrategyFixUn_query_b89 : Prog :=
  .ite CognitiveDualQueryStrategyFixUn_query_b88 .skip (.seq (.readAttr 19) (.seq (.bind 36 (.alias (.attr 19))) (.seq (.bind 35 (.alias (.loc 36))) (.seq (.writeAttr 19 (.alias (.loc 35))) CognitiveDualQueryStrategyFixUn_query_b87))))
def CognitiveDualQueryStrategyFixUn_query_b90 : Prog :=
  .seq (.bind 0 (.fresh [])) (.seq (.bind 14 (.fresh [])) (.seq (.bind 9 (.fresh [])) (.seq (.bind 6 (.fresh [])) (.seq (.bind 4 (.fresh [])) (.seq (.bind 3 (.fresh [])) (.seq (.bind 5 (.fresh [])) (.seq (.bind 10 (.fresh [])) (.seq (.bind 19 (.alias (.loc 17))) (.seq (.writeAttr 21 (.fresh [])) CognitiveDualQueryStrategyFixUn_query_b89)))))))))
def CognitiveDualQueryStrategyFixUn_query_b91 : Prog :=
  .seq (.bind 16 (.fresh [])) (.seq (.bind 12 (.fresh [])) (.seq (.bind 2 (.fresh [])) (.seq (.bind 8 (.fresh [])) (.seq (.bind 1 (.fresh [])) (.seq (.bind 27 (.fresh [])) (.seq (.bind 36 (.fresh [])) (.seq (.bind 34 (.fresh [])) (.seq (.bind 15 (.fresh [])) (.seq (.bind 11 (.fresh [])) CognitiveDualQueryStrategyFixUn_query_b90)))))))))
def CognitiveDualQueryStrategyFixUn_query_b92 : Prog :=
  .seq (.bind 32 (.fresh [])) (.seq (.bind 13 (.fresh [])) (.seq (.bind 7 (.fresh [])) (.seq (.bind 23 (.fresh [])) (.seq (.bind 25 (.fresh [])) (.seq (.bind 22 (.fresh [])) (.seq (.bind 30 (.fresh [])) (.seq (.bind 19 (.fresh [])) (.seq (.bind 24 (.fresh [])) (.seq (.bind 26 (.fresh [])) CognitiveDualQueryStrategyFixUn_query_b91)))))))))
def CognitiveDualQueryStrategyFixUn_query_b93 : Prog :=
  .seq (.bind 20 (.fresh [])) (.seq (.bind 35 (.fresh [])) (.seq (.bind 33 (.fresh [])) (.seq (.bind 29 (.fresh [])) (.seq (.bind 28 (.fresh [])) (.seq (.bind 21 (.fresh [])) (.seq (.bind 18 (.fresh [])) (.seq (.bind 31 (.fresh [])) CognitiveDualQueryStrategyFixUn_query_b92)))))))
def summary_CognitiveDualQueryStrategyFixUn_query : Summary :=
  { params := [0, 1, 2, 3, 4, 5, 6, 7, 8], closedAttrs := [], safeAttrs := [16, 15, 11, 10, 21, 19, 13, 9, 12, 14], body := CognitiveDualQueryStrategyFixUn_query_b93 }
theorem effects_CognitiveDualQueryStrategyFixUn_query : FrameOK summary_CognitiveDualQueryStrategyFixUn_query = true := by decide +kernel

-- CognitiveDualQueryStrategyFixUn.update: locals 0=$t13 1=x_cand 2=new_positions 3=$t14 4=t_x@_calculate_ldf8 5=remove_index@_calculate_ldf8 6=distances@_calculate_ldf8 7=candidates 8=$t10 9=$t11 10=t_x@_calculate_ldf7 11=remove_index@_calculate_ldf7 12=distances@_calculate_ldf7 13=$c7 14=$ret6 15=budget_manager_@check_budget_manager6 16=budget@check_budget_manager6 17=default_budget_manager_dict@check_budget_manager6 18=budget_manager@check_budget_manager6 19=default_budget_manager_kwargs 20=random_seed 21=$ret4 22=$ret3 23=random_state@check_random_state3
def CognitiveDualQueryStrategyFixUn_update_b0 : Prog :=
  .seq (.writeAttr 17 (.fresh [])) .abort
def CognitiveDualQueryStrategyFixUn_update_b1 : Prog :=
  .ite .skip .abort (.seq (.readAttr 16) .skip)
def CognitiveDualQueryStrategyFixUn_update_b2 : Prog :=
  .seq (.mutate (.loc 2) []) (.seq (.bind 0 (.fresh [])) (.seq (.mutate (.loc 0) [(.loc 1)]) .skip))
def CognitiveDualQueryStrategyFixUn_update_b3 : Prog :=
  .seq (.mutate (.loc 2) []) (.seq (.bind 3 (.fresh [])) (.seq (.mutate (.loc 3) []) .skip))
def CognitiveDualQueryStrategyFixUn_update_b4 : Prog :=
  .ite CognitiveDualQueryStrategyFixUn_update_b3 .skip .skip
def CognitiveDualQueryStrategyFixUn_update_b5 : Prog :=
  .ite CognitiveDualQueryStrategyFixUn_update_b2 CognitiveDualQueryStrategyFixUn_update_b4 (.seq (.readAttr 9) (.seq (.writeAttr 9 (.fresh [])) .skip))
def CognitiveDualQueryStrategyFixUn_update_b6 : Prog :=
  .seq (.readAttr 15) (.seq (.mutate (.attr 15) [(.loc 1)]) (.seq (.readAttr 14) (.seq (.mutate (.attr 14) []) (.seq (.readAttr 13) (.seq (.mutate (.attr 13) []) (.seq (.readAttr 12) (.seq (.mutate (.attr 12) [(.loc 4)]) (.seq (.readAttr 11) (.seq (.mutate (.attr 11) []) CognitiveDualQueryStrategyFixUn_update_b5)))))))))
def CognitiveDualQueryStrategyFixUn_update_b7 : Prog :=
  .seq (.readAttr 14) (.seq (.mutate (.attr 14) [(.loc 5)]) (.seq (.readAttr 13) (.seq (.mutate (.attr 13) [(.loc 5)]) (.seq (.readAttr 12) (.seq (.mutate (.attr 12) [(.loc 5)]) (.seq (.readAttr 11) (.seq (.mutate (.attr 11) [(.loc 5)]) (.seq (.readAttr 10) (.seq (.mutate (.attr 10) [(.loc 5)]) .skip)))))))))
def CognitiveDualQueryStrategyFixUn_update_b8 : Prog :=
  .seq (.readAttr 13) (.seq (.bind 5 (.fresh [])) (.seq (.readAttr 15) (.seq (.mutate (.attr 15) [(.loc 5)]) CognitiveDualQueryStrategyFixUn_update_b7)))
def CognitiveDualQueryStrategyFixUn_update_b9 : Prog :=
  .ite CognitiveDualQueryStrategyFixUn_update_b8 .skip CognitiveDualQueryStrategyFixUn_update_b6
def CognitiveDualQueryStrategyFixUn_update_b10 : Prog :=
  .seq (.readAttr 15) (.seq (.readAttr 14) (.seq (.readAttr 11) (.seq (.mutate (.attr 11) []) (.seq (.readAttr 11) (.seq (.readAttr 12) (.seq (.readAttr 13) (.seq (.mutate (.attr 13) []) .skip)))))))
def CognitiveDualQueryStrategyFixUn_update_b11 : Prog :=
  .ite CognitiveDualQueryStrategyFixUn_update_b10 .skip .skip
def CognitiveDualQueryStrategyFixUn_update_b12 : Prog :=
  .seq (.readAttr 15) (.seq (.readAttr 14) (.seq (.readAttr 11) (.seq (.mutate (.attr 11) []) (.seq (.readAttr 11) (.seq (.readAttr 12) (.seq (.readAttr 13) (.seq (.mutate (.attr 13) []) CognitiveDualQueryStrategyFixUn_update_b11)))))))
def CognitiveDualQueryStrategyFixUn_update_b13 : Prog :=
  .ite CognitiveDualQueryStrategyFixUn_update_b12 .skip (.seq (.readAttr 15) CognitiveDualQueryStrategyFixUn_update_b9)
def CognitiveDualQueryStrategyFixUn_update_b14 : Prog :=
  .seq (.readAttr 12) (.seq (.mutate (.attr 12) [(.loc 4)]) (.seq (.readAttr 14) (.seq (.mutate (.attr 14) []) (.seq (.readAttr 10) (.seq (.mutate (.attr 10) [(.sub (.loc 6) 0)]) .skip)))))
def CognitiveDualQueryStrategyFixUn_update_b15 : Prog :=
  .ite CognitiveDualQueryStrategyFixUn_update_b14 .skip .skip
def CognitiveDualQueryStrategyFixUn_update_b16 : Prog :=
  .seq (.readAttr 12) (.seq (.mutate (.attr 12) [(.loc 4)]) (.seq (.readAttr 14) (.seq (.mutate (.attr 14) []) (.seq (.readAttr 10) (.seq (.mutate (.attr 10) [(.sub (.loc 6) 0)]) CognitiveDualQueryStrategyFixUn_update_b15)))))
def CognitiveDualQueryStrategyFixUn_update_b17 : Prog :=
  .ite CognitiveDualQueryStrategyFixUn_update_b16 .skip (.seq (.readAttr 10) (.seq (.mutate (.attr 10) []) .skip))
def CognitiveDualQueryStrategyFixUn_update_b18 : Prog :=
  .seq (.readAttr 15) (.seq (.bind 6 (.fresh [(.attr 15), (.loc 1)])) (.seq (.readAttr 10) CognitiveDualQueryStrategyFixUn_update_b17))
def CognitiveDualQueryStrategyFixUn_update_b19 : Prog :=
  .seq (.readAttr 10) (.seq (.mutate (.attr 10) []) .skip)
def CognitiveDualQueryStrategyFixUn_update_b20 : Prog :=
  .ite CognitiveDualQueryStrategyFixUn_update_b18 CognitiveDualQueryStrategyFixUn_update_b19 (.seq (.readAttr 15) CognitiveDualQueryStrategyFixUn_update_b13)
def CognitiveDualQueryStrategyFixUn_update_b21 : Prog :=
  .seq (.bind 1 (.alias (.sub (.loc 7) 0))) (.seq (.readAttr 9) (.seq (.bind 4 (.alias (.attr 9))) (.seq (.readAttr 15) CognitiveDualQueryStrategyFixUn_update_b20)))
def CognitiveDualQueryStrategyFixUn_update_b22 : Prog :=
  .ite CognitiveDualQueryStrategyFixUn_update_b21 .skip .skip
def CognitiveDualQueryStrategyFixUn_update_b23 : Prog :=
  .seq (.mutate (.loc 2) []) (.seq (.bind 8 (.fresh [])) (.seq (.mutate (.loc 8) [(.loc 1)]) .skip))
def CognitiveDualQueryStrategyFixUn_update_b24 : Prog :=
  .seq (.mutate (.loc 2) []) (.seq (.bind 9 (.fresh [])) (.seq (.mutate (.loc 9) []) .skip))
def CognitiveDualQueryStrategyFixUn_update_b25 : Prog :=
  .ite CognitiveDualQueryStrategyFixUn_update_b24 .skip .skip
def CognitiveDualQueryStrategyFixUn_update_b26 : Prog :=
  .ite CognitiveDualQueryStrategyFixUn_update_b23 CognitiveDualQueryStrategyFixUn_update_b25 (.seq (.readAttr 9) (.seq (.writeAttr 9 (.fresh [])) CognitiveDualQueryStrategyFixUn_update_b22))
def CognitiveDualQueryStrategyFixUn_update_b27 : Prog :=
  .seq (.readAttr 15) (.seq (.mutate (.attr 15) [(.loc 1)]) (.seq (.readAttr 14) (.seq (.mutate (.attr 14) []) (.seq (.readAttr 13) (.seq (.mutate (.attr 13) []) (.seq (.readAttr 12) (.seq (.mutate (.attr 12) [(.loc 10)]) (.seq (.readAttr 11) (.seq (.mutate (.attr 11) []) CognitiveDualQueryStrategyFixUn_update_b26)))))))))
def CognitiveDualQueryStrategyFixUn_update_b28 : Prog :=
  .seq (.readAttr 14) (.seq (.mutate (.attr 14) [(.loc 11)]) (.seq (.readAttr 13) (.seq (.mutate (.attr 13) [(.loc 11)]) (.seq (.readAttr 12) (.seq (.mutate (.attr 12) [(.loc 11)]) (.seq (.readAttr 11) (.seq (.mutate (.attr 11) [(.loc 11)]) (.seq (.readAttr 10) (.seq (.mutate (.attr 10) [(.loc 11)]) .skip)))))))))
def CognitiveDualQueryStrategyFixUn_update_b29 : Prog :=
  .seq (.readAttr 13) (.seq (.bind 11 (.fresh [])) (.seq (.readAttr 15) (.seq (.mutate (.attr 15) [(.loc 11)]) CognitiveDualQueryStrategyFixUn_update_b28)))
def CognitiveDualQueryStrategyFixUn_update_b30 : Prog :=
  .ite CognitiveDualQueryStrategyFixUn_update_b29 .skip CognitiveDualQueryStrategyFixUn_update_b27
def CognitiveDualQueryStrategyFixUn_update_b31 : Prog :=
  .seq (.readAttr 15) (.seq (.readAttr 14) (.seq (.readAttr 11) (.seq (.mutate (.attr 11) []) (.seq (.readAttr 11) (.seq (.readAttr 12) (.seq (.readAttr 13) (.seq (.mutate (.attr 13) []) .skip)))))))
def CognitiveDualQueryStrategyFixUn_update_b32 : Prog :=
  .ite CognitiveDualQueryStrategyFixUn_update_b31 .skip .skip
def CognitiveDualQueryStrategyFixUn_update_b33 : Prog :=
  .seq (.readAttr 15) (.seq (.readAttr 14) (.seq (.readAttr 11) (.seq (.mutate (.attr 11) []) (.seq (.readAttr 11) (.seq (.readAttr 12) (.seq (.readAttr 13) (.seq (.mutate (.attr 13) []) CognitiveDualQueryStrategyFixUn_update_b32)))))))
def CognitiveDualQueryStrategyFixUn_update_b34 : Prog :=
  .ite CognitiveDualQueryStrategyFixUn_update_b33 .skip (.seq (.readAttr 15) CognitiveDualQueryStrategyFixUn_update_b30)
def CognitiveDualQueryStrategyFixUn_update_b35 : Prog :=
  .seq (.readAttr 12) (.seq (.mutate (.attr 12) [(.loc 10)]) (.seq (.readAttr 14) (.seq (.mutate (.attr 14) []) (.seq (.readAttr 10) (.seq (.mutate (.attr 10) [(.sub (.loc 12) 0)]) .skip)))))
def CognitiveDualQueryStrategyFixUn_update_b36 : Prog :=
  .ite CognitiveDualQueryStrategyFixUn_update_b35 .skip .skip
def CognitiveDualQueryStrategyFixUn_update_b37 : Prog :=
  .seq (.readAttr 12) (.seq (.mutate (.attr 12) [(.loc 10)]) (.seq (.readAttr 14) (.seq (.mutate (.attr 14) []) (.seq (.readAttr 10) (.seq (.mutate (.attr 10) [(.sub (.loc 12) 0)]) CognitiveDualQueryStrategyFixUn_update_b36)))))
def CognitiveDualQueryStrategyFixUn_update_b38 : Prog :=
  .ite CognitiveDualQueryStrategyFixUn_update_b37 .skip (.seq (.readAttr 10) (.seq (.mutate (.attr 10) []) .skip))
def CognitiveDualQueryStrategyFixUn_update_b39 : Prog :=
  .seq (.readAttr 15) (.seq (.bind 12 (.fresh [(.attr 15), (.loc 1)])) (.seq (.readAttr 10) CognitiveDualQueryStrategyFixUn_update_b38))
def CognitiveDualQueryStrategyFixUn_update_b40 : Prog :=
  .seq (.readAttr 10) (.seq (.mutate (.attr 10) []) .skip)
def CognitiveDualQueryStrategyFixUn_update_b41 : Prog :=
  .ite CognitiveDualQueryStrategyFixUn_update_b39 CognitiveDualQueryStrategyFixUn_update_b40 (.seq (.readAttr 15) CognitiveDualQueryStrategyFixUn_update_b34)
def CognitiveDualQueryStrategyFixUn_update_b42 : Prog :=
  .seq (.bind 1 (.alias (.sub (.loc 7) 0))) (.seq (.readAttr 9) (.seq (.bind 10 (.alias (.attr 9))) (.seq (.readAttr 15) CognitiveDualQueryStrategyFixUn_update_b41)))
def CognitiveDualQueryStrategyFixUn_update_b43 : Prog :=
  .ite CognitiveDualQueryStrategyFixUn_update_b42 .skip CognitiveDualQueryStrategyFixUn_update_b1
def CognitiveDualQueryStrategyFixUn_update_b44 : Prog :=
  .seq (.writeAttr 12 (.fresh [])) .skip
def CognitiveDualQueryStrategyFixUn_update_b45 : Prog :=
  .ite CognitiveDualQueryStrategyFixUn_update_b44 .skip (.seq (.bind 2 (.fresh [])) CognitiveDualQueryStrategyFixUn_update_b43)
def CognitiveDualQueryStrategyFixUn_update_b46 : Prog :=
  .seq (.writeAttr 13 (.fresh [])) .skip
def CognitiveDualQueryStrategyFixUn_update_b47 : Prog :=
  .ite CognitiveDualQueryStrategyFixUn_update_b46 .skip CognitiveDualQueryStrategyFixUn_update_b45
def CognitiveDualQueryStrategyFixUn_update_b48 : Prog :=
  .seq (.writeAttr 14 (.fresh [])) .skip
def CognitiveDualQueryStrategyFixUn_update_b49 : Prog :=
  .ite CognitiveDualQueryStrategyFixUn_update_b48 .skip CognitiveDualQueryStrategyFixUn_update_b47
def CognitiveDualQueryStrategyFixUn_update_b50 : Prog :=
  .seq (.writeAttr 11 (.fresh [])) .skip
def CognitiveDualQueryStrategyFixUn_update_b51 : Prog :=
  .ite CognitiveDualQueryStrategyFixUn_update_b50 .skip CognitiveDualQueryStrategyFixUn_update_b49
def CognitiveDualQueryStrategyFixUn_update_b52 : Prog :=
  .seq (.writeAttr 15 (.fresh [])) .skip
def CognitiveDualQueryStrategyFixUn_update_b53 : Prog :=
  .ite CognitiveDualQueryStrategyFixUn_update_b52 .skip CognitiveDualQueryStrategyFixUn_update_b51
def CognitiveDualQueryStrategyFixUn_update_b54 : Prog :=
  .seq (.writeAttr 9 (.fresh [])) .skip
def CognitiveDualQueryStrategyFixUn_update_b55 : Prog :=
  .ite CognitiveDualQueryStrategyFixUn_update_b54 .skip CognitiveDualQueryStrategyFixUn_update_b53
def CognitiveDualQueryStrategyFixUn_update_b56 : Prog :=
  .seq (.writeAttr 10 (.fresh [])) .skip
def CognitiveDualQueryStrategyFixUn_update_b57 : Prog :=
  .ite CognitiveDualQueryStrategyFixUn_update_b56 .skip CognitiveDualQueryStrategyFixUn_update_b55
def CognitiveDualQueryStrategyFixUn_update_b58 : Prog :=
  .ite CognitiveDualQueryStrategyFixUn_update_b0 CognitiveDualQueryStrategyFixUn_update_b57 .skip
def CognitiveDualQueryStrategyFixUn_update_b59 : Prog :=
  .seq (.bind 13 (.alias (.attr 3))) .skip
def CognitiveDualQueryStrategyFixUn_update_b60 : Prog :=
  .seq (.bind 13 (.fresh [])) .skip
def CognitiveDualQueryStrategyFixUn_update_b61 : Prog :=
  .ite CognitiveDualQueryStrategyFixUn_update_b59 CognitiveDualQueryStrategyFixUn_update_b60 (.seq (.writeAttr 17 (.alias (.loc 13))) (.seq (.readAttr 17) CognitiveDualQueryStrategyFixUn_update_b58))
def CognitiveDualQueryStrategyFixUn_update_b62 : Prog :=
  .ite .abort CognitiveDualQueryStrategyFixUn_update_b61 .skip
def CognitiveDualQueryStrategyFixUn_update_b63 : Prog :=
  .seq (.writeAttr 18 (.fresh [])) .skip
def CognitiveDualQueryStrategyFixUn_update_b64 : Prog :=
  .seq (.writeAttr 18 (.alias (.attr 2))) .skip
def CognitiveDualQueryStrategyFixUn_update_b65 : Prog :=
  .ite CognitiveDualQueryStrategyFixUn_update_b63 CognitiveDualQueryStrategyFixUn_update_b64 (.seq (.readAttr 18) CognitiveDualQueryStrategyFixUn_update_b62)
def CognitiveDualQueryStrategyFixUn_update_b66 : Prog :=
  .seq (.bind 15 (.fresh [(.loc 16), (.sub (.loc 17) 0)])) .skip
def CognitiveDualQueryStrategyFixUn_update_b67 : Prog :=
  .seq (.bind 15 (.deep (.loc 18))) .skip
def CognitiveDualQueryStrategyFixUn_update_b68 : Prog :=
  .ite CognitiveDualQueryStrategyFixUn_update_b66 CognitiveDualQueryStrategyFixUn_update_b67 (.seq (.bind 14 (.alias (.loc 15))) (.seq (.writeAttr 16 (.alias (.loc 14))) .skip))
def CognitiveDualQueryStrategyFixUn_update_b69 : Prog :=
  .seq (.bind 17 (.fresh [])) .skip
def CognitiveDualQueryStrategyFixUn_update_b70 : Prog :=
  .seq (.mutate (.loc 17) []) .skip
def CognitiveDualQueryStrategyFixUn_update_b71 : Prog :=
  .ite CognitiveDualQueryStrategyFixUn_update_b70 .skip .skip
def CognitiveDualQueryStrategyFixUn_update_b72 : Prog :=
  .ite CognitiveDualQueryStrategyFixUn_update_b69 CognitiveDualQueryStrategyFixUn_update_b71 CognitiveDualQueryStrategyFixUn_update_b68
def CognitiveDualQueryStrategyFixUn_update_b73 : Prog :=
  .seq (.bind 22 (.alias (.loc 23))) (.seq (.writeAttr 19 (.alias (.loc 22))) (.seq (.readAttr 19) (.seq (.bind 20 (.fresh [])) (.seq (.bind 21 (.fresh [(.attr 0)])) (.seq (.bind 19 (.alias (.loc 21))) (.seq (.mutate (.loc 19) [(.loc 20)]) (.seq (.bind 16 (.alias (.attr 6))) (.seq (.bind 18 (.alias (.attr 8))) (.seq (.bind 17 (.alias (.loc 19))) CognitiveDualQueryStrategyFixUn_update_b72)))))))))
def CognitiveDualQueryStrategyFixUn_update_b74 : Prog :=
  .seq (.writeAttr 19 (.deep (.attr 7))) .skip
def CognitiveDualQueryStrategyFixUn_update_b75 : Prog :=
  .ite CognitiveDualQueryStrategyFixUn_update_b74 .skip (.seq (.readAttr 19) (.seq (.bind 23 (.alias (.attr 19))) CognitiveDualQueryStrategyFixUn_update_b73))
def CognitiveDualQueryStrategyFixUn_update_b76 : Prog :=
  .ite CognitiveDualQueryStrategyFixUn_update_b75 .skip CognitiveDualQueryStrategyFixUn_update_b65
def CognitiveDualQueryStrategyFixUn_update_b77 : Prog :=
  .seq (.bind 2 (.fresh [])) (.seq (.bind 20 (.fresh [])) (.seq (.bind 23 (.fresh [])) (.seq (.bind 11 (.fresh [])) (.seq (.bind 5 (.fresh [])) (.seq (.bind 10 (.fresh [])) (.seq (.bind 4 (.fresh [])) (.seq (.bind 1 (.fresh [])) (.seq (.readAttr 16) (.seq (.readAttr 16) CognitiveDualQueryStrategyFixUn_update_b76)))))))))
def CognitiveDualQueryStrategyFixUn_update_b78 : Prog :=
  .seq (.bind 9 (.fresh [])) (.seq (.bind 0 (.fresh [])) (.seq (.bind 3 (.fresh [])) (.seq (.bind 16 (.fresh [])) (.seq (.bind 18 (.fresh [])) (.seq (.bind 15 (.fresh [])) (.seq (.bind 17 (.fresh [])) (.seq (.bind 19 (.fresh [])) (.seq (.bind 12 (.fresh [])) (.seq (.bind 6 (.fresh [])) CognitiveDualQueryStrategyFixUn_update_b77)))))))))
def CognitiveDualQueryStrategyFixUn_update_b79 : Prog :=
  .seq (.bind 13 (.fresh [])) (.seq (.bind 22 (.fresh [])) (.seq (.bind 21 (.fresh [])) (.seq (.bind 14 (.fresh [])) (.seq (.bind 8 (.fresh [])) CognitiveDualQueryStrategyFixUn_update_b78))))
def summary_CognitiveDualQueryStrategyFixUn_update : Summary :=
  { params := [0, 1, 2, 3, 4, 5, 6, 7, 8], closedAttrs := [], safeAttrs := [16, 15, 11, 10, 21, 19, 13, 9, 12, 14], body := CognitiveDualQueryStrategyFixUn_update_b79 }
theorem effects_CognitiveDualQueryStrategyFixUn_update : FrameOK summary_CognitiveDualQueryStrategyFixUn_update = true := by decide +kernel

/-! ### EstimatedBudgetZliobaite  (skactiveml/stream/budgetmanager/_estimated_budget_zliobaite.py)
attributes: 0=w 1=budget 2=u_t_ 3=budget_
keys: 0=* -/
-- EstimatedBudgetZliobaite.update: locals 0=queried
def EstimatedBudgetZliobaite_update_b0 : Prog :=
  .seq (.readAttr 2) (.seq (.writeAttr 2 (.fresh [])) .skip)
def EstimatedBudgetZliobaite_update_b1 : Prog :=
  .ite EstimatedBudgetZliobaite_update_b0 .skip .skip
def EstimatedBudgetZliobaite_update_b2 : Prog :=
  .seq (.readAttr 2) (.seq (.writeAttr 2 (.fresh [])) EstimatedBudgetZliobaite_update_b1)
def EstimatedBudgetZliobaite_update_b3 : Prog :=
  .ite EstimatedBudgetZliobaite_update_b2 .skip .skip
def EstimatedBudgetZliobaite_update_b4 : Prog :=
  .seq (.writeAttr 2 (.fresh [])) .skip
def EstimatedBudgetZliobaite_update_b5 : Prog :=
  .ite EstimatedBudgetZliobaite_update_b4 .skip EstimatedBudgetZliobaite_update_b3
def EstimatedBudgetZliobaite_update_b6 : Prog :=
  .seq (.writeAttr 3 (.alias (.attr 1))) .skip
def EstimatedBudgetZliobaite_update_b7 : Prog :=
  .seq (.writeAttr 3 (.fresh [])) .skip
def EstimatedBudgetZliobaite_update_b8 : Prog :=
  .ite EstimatedBudgetZliobaite_update_b6 EstimatedBudgetZliobaite_update_b7 (.seq (.readAttr 3) .skip)
def EstimatedBudgetZliobaite_update_b9 : Prog :=
  .ite .abort EstimatedBudgetZliobaite_update_b8 EstimatedBudgetZliobaite_update_b5
def EstimatedBudgetZliobaite_update_b10 : Prog :=
  .seq (.bind 0 (.fresh [])) (.seq (.bind 0 (.fresh [])) (.seq (.mutate (.loc 0) []) EstimatedBudgetZliobaite_update_b9))
def summary_EstimatedBudgetZliobaite_update : Summary :=
  { params := [0, 1], closedAttrs := [2], safeAttrs := [], body := EstimatedBudgetZliobaite_update_b10 }
theorem effects_EstimatedBudgetZliobaite_update : FrameOK summary_EstimatedBudgetZliobaite_update = true := by decide +kernel

-- EstimatedBudgetZliobaite.query_by_utility: locals 
def summary_EstimatedBudgetZliobaite_query_by_utility : Summary :=
  { params := [0, 1], closedAttrs := [2], safeAttrs := [], body := .abort }
theorem effects_EstimatedBudgetZliobaite_query_by_utility : FrameOK summary_EstimatedBudgetZliobaite_query_by_utility = true := by decide +kernel

/-! ### FixedUncertaintyBudgetManager  (skactiveml/stream/budgetmanager/_estimated_budget_zliobaite.py)
attributes: 0=classes 1=w 2=budget 3=budget_ 4=u_t_
keys: 0=* -/
-- FixedUncertaintyBudgetManager.query_by_utility: locals 0=$t10 1=i 2=$t8 3=$t7 4=$t5
def FixedUncertaintyBudgetManager_query_by_utility_b0 : Prog :=
  .seq (.bind 0 (.fresh [])) (.seq (.mutate (.loc 0) [(.loc 1)]) .skip)
def FixedUncertaintyBudgetManager_query_by_utility_b1 : Prog :=
  .ite FixedUncertaintyBudgetManager_query_by_utility_b0 .skip .skip
def FixedUncertaintyBudgetManager_query_by_utility_b2 : Prog :=
  .seq (.bind 1 (.fresh [])) (.seq (.readAttr 3) (.seq (.bind 2 (.fresh [])) (.seq (.mutate (.loc 2) []) FixedUncertaintyBudgetManager_query_by_utility_b1)))
def FixedUncertaintyBudgetManager_query_by_utility_b3 : Prog :=
  .ite FixedUncertaintyBudgetManager_query_by_utility_b2 .skip .skip
def FixedUncertaintyBudgetManager_query_by_utility_b4 : Prog :=
  .seq (.bind 3 (.fresh [])) (.seq (.mutate (.loc 3) [(.loc 1)]) .skip)
def FixedUncertaintyBudgetManager_query_by_utility_b5 : Prog :=
  .ite FixedUncertaintyBudgetManager_query_by_utility_b4 .skip FixedUncertaintyBudgetManager_query_by_utility_b3
def FixedUncertaintyBudgetManager_query_by_utility_b6 : Prog :=
  .seq (.bind 1 (.fresh [])) (.seq (.readAttr 3) (.seq (.bind 4 (.fresh [])) (.seq (.mutate (.loc 4) []) FixedUncertaintyBudgetManager_query_by_utility_b5)))
def FixedUncertaintyBudgetManager_query_by_utility_b7 : Prog :=
  .ite FixedUncertaintyBudgetManager_query_by_utility_b6 .skip .skip
def FixedUncertaintyBudgetManager_query_by_utility_b8 : Prog :=
  .seq (.writeAttr 4 (.fresh [])) .skip
def FixedUncertaintyBudgetManager_query_by_utility_b9 : Prog :=
  .ite FixedUncertaintyBudgetManager_query_by_utility_b8 .skip (.seq (.readAttr 3) (.seq (.readAttr 4) FixedUncertaintyBudgetManager_query_by_utility_b7))
def FixedUncertaintyBudgetManager_query_by_utility_b10 : Prog :=
  .seq (.writeAttr 3 (.alias (.attr 2))) .skip
def FixedUncertaintyBudgetManager_query_by_utility_b11 : Prog :=
  .seq (.writeAttr 3 (.fresh [])) .skip
def FixedUncertaintyBudgetManager_query_by_utility_b12 : Prog :=
  .ite FixedUncertaintyBudgetManager_query_by_utility_b10 FixedUncertaintyBudgetManager_query_by_utility_b11 (.seq (.readAttr 3) .skip)
def FixedUncertaintyBudgetManager_query_by_utility_b13 : Prog :=
  .ite .abort FixedUncertaintyBudgetManager_query_by_utility_b12 FixedUncertaintyBudgetManager_query_by_utility_b9
def FixedUncertaintyBudgetManager_query_by_utility_b14 : Prog :=
  .seq (.bind 0 (.fresh [])) (.seq (.bind 4 (.fresh [])) (.seq (.bind 3 (.fresh [])) (.seq (.bind 2 (.fresh [])) (.seq (.bind 1 (.fresh [])) FixedUncertaintyBudgetManager_query_by_utility_b13))))
def summary_FixedUncertaintyBudgetManager_query_by_utility : Summary :=
  { params := [0, 1, 2], closedAttrs := [4], safeAttrs := [], body := FixedUncertaintyBudgetManager_query_by_utility_b14 }
theorem effects_FixedUncertaintyBudgetManager_query_by_utility : FrameOK summary_FixedUncertaintyBudgetManager_query_by_utility = true := by decide +kernel

-- FixedUncertaintyBudgetManager.update: locals 0=queried@update1
def FixedUncertaintyBudgetManager_update_b0 : Prog :=
  .seq (.readAttr 4) (.seq (.writeAttr 4 (.fresh [])) .skip)
def FixedUncertaintyBudgetManager_update_b1 : Prog :=
  .ite FixedUncertaintyBudgetManager_update_b0 .skip .skip
def FixedUncertaintyBudgetManager_update_b2 : Prog :=
  .seq (.readAttr 4) (.seq (.writeAttr 4 (.fresh [])) FixedUncertaintyBudgetManager_update_b1)
def FixedUncertaintyBudgetManager_update_b3 : Prog :=
  .ite FixedUncertaintyBudgetManager_update_b2 .skip .skip
def FixedUncertaintyBudgetManager_update_b4 : Prog :=
  .seq (.writeAttr 4 (.fresh [])) .skip
def FixedUncertaintyBudgetManager_update_b5 : Prog :=
  .ite FixedUncertaintyBudgetManager_update_b4 .skip FixedUncertaintyBudgetManager_update_b3
def FixedUncertaintyBudgetManager_update_b6 : Prog :=
  .seq (.writeAttr 3 (.alias (.attr 2))) .skip
def FixedUncertaintyBudgetManager_update_b7 : Prog :=
  .seq (.writeAttr 3 (.fresh [])) .skip
def FixedUncertaintyBudgetManager_update_b8 : Prog :=
  .ite FixedUncertaintyBudgetManager_update_b6 FixedUncertaintyBudgetManager_update_b7 (.seq (.readAttr 3) .skip)
def FixedUncertaintyBudgetManager_update_b9 : Prog :=
  .ite .abort FixedUncertaintyBudgetManager_update_b8 FixedUncertaintyBudgetManager_update_b5
def FixedUncertaintyBudgetManager_update_b10 : Prog :=
  .seq (.bind 0 (.fresh [])) (.seq (.bind 0 (.fresh [])) (.seq (.mutate (.loc 0) []) FixedUncertaintyBudgetManager_update_b9))
def summary_FixedUncertaintyBudgetManager_update : Summary :=
  { params := [0, 1, 2], closedAttrs := [4], safeAttrs := [], body := FixedUncertaintyBudgetManager_update_b10 }
theorem effects_FixedUncertaintyBudgetManager_update : FrameOK summary_FixedUncertaintyBudgetManager_update = true := by decide +kernel

/-! ### VariableUncertaintyBudgetManager  (skactiveml/stream/budgetmanager/_estimated_budget_zliobaite.py)
attributes: 0=theta 1=s 2=w 3=budget 4=budget_ 5=theta_ 6=u_t_
keys: 0=* -/
-- VariableUncertaintyBudgetManager.query_by_utility: locals 0=$t11 1=i 2=$t9 3=$t8 4=$t6
def VariableUncertaintyBudgetManager_query_by_utility_b0 : Prog :=
  .seq (.bind 0 (.fresh [])) (.seq (.mutate (.loc 0) [(.loc 1)]) .skip)
def VariableUncertaintyBudgetManager_query_by_utility_b1 : Prog :=
  .ite VariableUncertaintyBudgetManager_query_by_utility_b0 .skip .skip
def VariableUncertaintyBudgetManager_query_by_utility_b2 : Prog :=
  .ite .skip VariableUncertaintyBudgetManager_query_by_utility_b1 .skip
def VariableUncertaintyBudgetManager_query_by_utility_b3 : Prog :=
  .seq (.bind 1 (.fresh [])) (.seq (.readAttr 4) (.seq (.bind 2 (.fresh [])) (.seq (.mutate (.loc 2) []) VariableUncertaintyBudgetManager_query_by_utility_b2)))
def VariableUncertaintyBudgetManager_query_by_utility_b4 : Prog :=
  .ite VariableUncertaintyBudgetManager_query_by_utility_b3 .skip .skip
def VariableUncertaintyBudgetManager_query_by_utility_b5 : Prog :=
  .seq (.bind 3 (.fresh [])) (.seq (.mutate (.loc 3) [(.loc 1)]) .skip)
def VariableUncertaintyBudgetManager_query_by_utility_b6 : Prog :=
  .ite VariableUncertaintyBudgetManager_query_by_utility_b5 .skip .skip
def VariableUncertaintyBudgetManager_query_by_utility_b7 : Prog :=
  .ite .skip VariableUncertaintyBudgetManager_query_by_utility_b6 VariableUncertaintyBudgetManager_query_by_utility_b4
def VariableUncertaintyBudgetManager_query_by_utility_b8 : Prog :=
  .seq (.bind 1 (.fresh [])) (.seq (.readAttr 4) (.seq (.bind 4 (.fresh [])) (.seq (.mutate (.loc 4) []) VariableUncertaintyBudgetManager_query_by_utility_b7)))
def VariableUncertaintyBudgetManager_query_by_utility_b9 : Prog :=
  .ite VariableUncertaintyBudgetManager_query_by_utility_b8 .skip .skip
def VariableUncertaintyBudgetManager_query_by_utility_b10 : Prog :=
  .seq (.writeAttr 5 (.alias (.attr 0))) .skip
def VariableUncertaintyBudgetManager_query_by_utility_b11 : Prog :=
  .ite VariableUncertaintyBudgetManager_query_by_utility_b10 .skip (.seq (.readAttr 6) (.seq (.readAttr 5) VariableUncertaintyBudgetManager_query_by_utility_b9))
def VariableUncertaintyBudgetManager_query_by_utility_b12 : Prog :=
  .seq (.writeAttr 6 (.fresh [])) .skip
def VariableUncertaintyBudgetManager_query_by_utility_b13 : Prog :=
  .ite VariableUncertaintyBudgetManager_query_by_utility_b12 .skip VariableUncertaintyBudgetManager_query_by_utility_b11
def VariableUncertaintyBudgetManager_query_by_utility_b14 : Prog :=
  .seq (.writeAttr 4 (.alias (.attr 3))) .skip
def VariableUncertaintyBudgetManager_query_by_utility_b15 : Prog :=
  .seq (.writeAttr 4 (.fresh [])) .skip
def VariableUncertaintyBudgetManager_query_by_utility_b16 : Prog :=
  .ite VariableUncertaintyBudgetManager_query_by_utility_b14 VariableUncertaintyBudgetManager_query_by_utility_b15 (.seq (.readAttr 4) .skip)
def VariableUncertaintyBudgetManager_query_by_utility_b17 : Prog :=
  .ite .abort VariableUncertaintyBudgetManager_query_by_utility_b16 VariableUncertaintyBudgetManager_query_by_utility_b13
def VariableUncertaintyBudgetManager_query_by_utility_b18 : Prog :=
  .seq (.bind 0 (.fresh [])) (.seq (.bind 4 (.fresh [])) (.seq (.bind 3 (.fresh [])) (.seq (.bind 2 (.fresh [])) (.seq (.bind 1 (.fresh [])) VariableUncertaintyBudgetManager_query_by_utility_b17))))
def summary_VariableUncertaintyBudgetManager_query_by_utility : Summary :=
  { params := [0, 1, 2, 3], closedAttrs := [6], safeAttrs := [], body := VariableUncertaintyBudgetManager_query_by_utility_b18 }
theorem effects_VariableUncertaintyBudgetManager_query_by_utility : FrameOK summary_VariableUncertaintyBudgetManager_query_by_utility = true := by decide +kernel

-- VariableUncertaintyBudgetManager.update: locals 0=queried@update6 1=queried
def VariableUncertaintyBudgetManager_update_b0 : Prog :=
  .seq (.readAttr 6) (.seq (.writeAttr 6 (.fresh [])) .skip)
def VariableUncertaintyBudgetManager_update_b1 : Prog :=
  .ite VariableUncertaintyBudgetManager_update_b0 .skip .skip
def VariableUncertaintyBudgetManager_update_b2 : Prog :=
  .seq (.readAttr 6) (.seq (.writeAttr 6 (.fresh [])) VariableUncertaintyBudgetManager_update_b1)
def VariableUncertaintyBudgetManager_update_b3 : Prog :=
  .ite VariableUncertaintyBudgetManager_update_b2 .skip .skip
def VariableUncertaintyBudgetManager_update_b4 : Prog :=
  .seq (.writeAttr 5 (.alias (.attr 0))) .skip
def VariableUncertaintyBudgetManager_update_b5 : Prog :=
  .ite VariableUncertaintyBudgetManager_update_b4 .skip VariableUncertaintyBudgetManager_update_b3
def VariableUncertaintyBudgetManager_update_b6 : Prog :=
  .seq (.writeAttr 6 (.fresh [])) .skip
def VariableUncertaintyBudgetManager_update_b7 : Prog :=
  .ite VariableUncertaintyBudgetManager_update_b6 .skip VariableUncertaintyBudgetManager_update_b5
def VariableUncertaintyBudgetManager_update_b8 : Prog :=
  .seq (.writeAttr 4 (.alias (.attr 3))) .skip
def VariableUncertaintyBudgetManager_update_b9 : Prog :=
  .seq (.writeAttr 4 (.fresh [])) .skip
def VariableUncertaintyBudgetManager_update_b10 : Prog :=
  .ite VariableUncertaintyBudgetManager_update_b8 VariableUncertaintyBudgetManager_update_b9 (.seq (.readAttr 4) .skip)
def VariableUncertaintyBudgetManager_update_b11 : Prog :=
  .ite .abort VariableUncertaintyBudgetManager_update_b10 VariableUncertaintyBudgetManager_update_b7
def VariableUncertaintyBudgetManager_update_b12 : Prog :=
  .seq (.readAttr 5) (.seq (.writeAttr 5 (.fresh [])) .skip)
def VariableUncertaintyBudgetManager_update_b13 : Prog :=
  .seq (.readAttr 5) (.seq (.writeAttr 5 (.fresh [])) .skip)
def VariableUncertaintyBudgetManager_update_b14 : Prog :=
  .ite VariableUncertaintyBudgetManager_update_b12 VariableUncertaintyBudgetManager_update_b13 .skip
def VariableUncertaintyBudgetManager_update_b15 : Prog :=
  .ite VariableUncertaintyBudgetManager_update_b14 .skip .skip
def VariableUncertaintyBudgetManager_update_b16 : Prog :=
  .seq (.readAttr 4) VariableUncertaintyBudgetManager_update_b15
def VariableUncertaintyBudgetManager_update_b17 : Prog :=
  .ite VariableUncertaintyBudgetManager_update_b16 .skip .skip
def VariableUncertaintyBudgetManager_update_b18 : Prog :=
  .seq (.readAttr 5) (.seq (.writeAttr 5 (.fresh [])) .skip)
def VariableUncertaintyBudgetManager_update_b19 : Prog :=
  .seq (.readAttr 5) (.seq (.writeAttr 5 (.fresh [])) .skip)
def VariableUncertaintyBudgetManager_update_b20 : Prog :=
  .ite VariableUncertaintyBudgetManager_update_b18 VariableUncertaintyBudgetManager_update_b19 .skip
def VariableUncertaintyBudgetManager_update_b21 : Prog :=
  .ite VariableUncertaintyBudgetManager_update_b20 .skip VariableUncertaintyBudgetManager_update_b17
def VariableUncertaintyBudgetManager_update_b22 : Prog :=
  .seq (.readAttr 4) VariableUncertaintyBudgetManager_update_b21
def VariableUncertaintyBudgetManager_update_b23 : Prog :=
  .ite VariableUncertaintyBudgetManager_update_b22 .skip (.seq (.bind 0 (.fresh [])) (.seq (.mutate (.loc 0) []) VariableUncertaintyBudgetManager_update_b11))
def VariableUncertaintyBudgetManager_update_b24 : Prog :=
  .seq (.writeAttr 5 (.alias (.attr 0))) .skip
def VariableUncertaintyBudgetManager_update_b25 : Prog :=
  .ite VariableUncertaintyBudgetManager_update_b24 .skip (.seq (.bind 1 (.fresh [])) (.seq (.mutate (.loc 1) []) (.seq (.readAttr 6) VariableUncertaintyBudgetManager_update_b23)))
def VariableUncertaintyBudgetManager_update_b26 : Prog :=
  .seq (.writeAttr 6 (.fresh [])) .skip
def VariableUncertaintyBudgetManager_update_b27 : Prog :=
  .ite VariableUncertaintyBudgetManager_update_b26 .skip VariableUncertaintyBudgetManager_update_b25
def VariableUncertaintyBudgetManager_update_b28 : Prog :=
  .seq (.writeAttr 4 (.alias (.attr 3))) .skip
def VariableUncertaintyBudgetManager_update_b29 : Prog :=
  .seq (.writeAttr 4 (.fresh [])) .skip
def VariableUncertaintyBudgetManager_update_b30 : Prog :=
  .ite VariableUncertaintyBudgetManager_update_b28 VariableUncertaintyBudgetManager_update_b29 (.seq (.readAttr 4) .skip)
def VariableUncertaintyBudgetManager_update_b31 : Prog :=
  .ite .abort VariableUncertaintyBudgetManager_update_b30 VariableUncertaintyBudgetManager_update_b27
def VariableUncertaintyBudgetManager_update_b32 : Prog :=
  .seq (.bind 1 (.fresh [])) (.seq (.bind 0 (.fresh [])) VariableUncertaintyBudgetManager_update_b31)
def summary_VariableUncertaintyBudgetManager_update : Summary :=
  { params := [0, 1, 2, 3], closedAttrs := [6], safeAttrs := [], body := VariableUncertaintyBudgetManager_update_b32 }
theorem effects_VariableUncertaintyBudgetManager_update : FrameOK summary_VariableUncertaintyBudgetManager_update = true := by decide +kernel

/-! ### SplitBudgetManager  (skactiveml/stream/budgetmanager/_estimated_budget_zliobaite.py)
attributes: 0=v 1=theta 2=s 3=random_state 4=w 5=budget 6=random_state_ 7=budget_ 8=theta_ 9=u_t_
keys: 0=* -/
-- SplitBudgetManager.query_by_utility: locals 0=$t13 1=i 2=$t11 3=$t10 4=$t8 5=$ret7 6=random_state@check_random_state7
def SplitBudgetManager_query_by_utility_b0 : Prog :=
  .seq (.bind 0 (.fresh [])) (.seq (.mutate (.loc 0) [(.loc 1)]) .skip)
def SplitBudgetManager_query_by_utility_b1 : Prog :=
  .ite SplitBudgetManager_query_by_utility_b0 .skip .skip
def SplitBudgetManager_query_by_utility_b2 : Prog :=
  .seq (.readAttr 6) (.seq (.readAttr 7) .skip)
def SplitBudgetManager_query_by_utility_b3 : Prog :=
  .ite SplitBudgetManager_query_by_utility_b2 .skip SplitBudgetManager_query_by_utility_b1
def SplitBudgetManager_query_by_utility_b4 : Prog :=
  .seq (.readAttr 6) SplitBudgetManager_query_by_utility_b3
def SplitBudgetManager_query_by_utility_b5 : Prog :=
  .ite .skip SplitBudgetManager_query_by_utility_b4 .skip
def SplitBudgetManager_query_by_utility_b6 : Prog :=
  .seq (.bind 1 (.fresh [])) (.seq (.readAttr 7) (.seq (.bind 2 (.fresh [])) (.seq (.mutate (.loc 2) []) SplitBudgetManager_query_by_utility_b5)))
def SplitBudgetManager_query_by_utility_b7 : Prog :=
  .ite SplitBudgetManager_query_by_utility_b6 .skip .skip
def SplitBudgetManager_query_by_utility_b8 : Prog :=
  .seq (.bind 3 (.fresh [])) (.seq (.mutate (.loc 3) [(.loc 1)]) .skip)
def SplitBudgetManager_query_by_utility_b9 : Prog :=
  .ite SplitBudgetManager_query_by_utility_b8 .skip .skip
def SplitBudgetManager_query_by_utility_b10 : Prog :=
  .seq (.readAttr 6) (.seq (.readAttr 7) .skip)
def SplitBudgetManager_query_by_utility_b11 : Prog :=
  .ite SplitBudgetManager_query_by_utility_b10 .skip SplitBudgetManager_query_by_utility_b9
def SplitBudgetManager_query_by_utility_b12 : Prog :=
  .seq (.readAttr 6) SplitBudgetManager_query_by_utility_b11
def SplitBudgetManager_query_by_utility_b13 : Prog :=
  .ite .skip SplitBudgetManager_query_by_utility_b12 SplitBudgetManager_query_by_utility_b7
def SplitBudgetManager_query_by_utility_b14 : Prog :=
  .seq (.bind 1 (.fresh [])) (.seq (.readAttr 7) (.seq (.bind 4 (.fresh [])) (.seq (.mutate (.loc 4) []) SplitBudgetManager_query_by_utility_b13)))
def SplitBudgetManager_query_by_utility_b15 : Prog :=
  .ite SplitBudgetManager_query_by_utility_b14 .skip (.seq (.readAttr 6) .skip)
def SplitBudgetManager_query_by_utility_b16 : Prog :=
  .seq (.writeAttr 6 (.deep (.attr 3))) .skip
def SplitBudgetManager_query_by_utility_b17 : Prog :=
  .ite SplitBudgetManager_query_by_utility_b16 .skip (.seq (.readAttr 6) (.seq (.bind 6 (.alias (.attr 6))) (.seq (.bind 5 (.alias (.loc 6))) (.seq (.writeAttr 6 (.alias (.loc 5))) (.seq (.readAttr 9) (.seq (.readAttr 8) (.seq (.readAttr 6) SplitBudgetManager_query_by_utility_b15)))))))
def SplitBudgetManager_query_by_utility_b18 : Prog :=
  .seq (.writeAttr 8 (.alias (.attr 1))) .skip
def SplitBudgetManager_query_by_utility_b19 : Prog :=
  .ite SplitBudgetManager_query_by_utility_b18 .skip SplitBudgetManager_query_by_utility_b17
def SplitBudgetManager_query_by_utility_b20 : Prog :=
  .seq (.writeAttr 9 (.fresh [])) .skip
def SplitBudgetManager_query_by_utility_b21 : Prog :=
  .ite SplitBudgetManager_query_by_utility_b20 .skip SplitBudgetManager_query_by_utility_b19
def SplitBudgetManager_query_by_utility_b22 : Prog :=
  .seq (.writeAttr 7 (.alias (.attr 5))) .skip
def SplitBudgetManager_query_by_utility_b23 : Prog :=
  .seq (.writeAttr 7 (.fresh [])) .skip
def SplitBudgetManager_query_by_utility_b24 : Prog :=
  .ite SplitBudgetManager_query_by_utility_b22 SplitBudgetManager_query_by_utility_b23 (.seq (.readAttr 7) .skip)
def SplitBudgetManager_query_by_utility_b25 : Prog :=
  .ite .abort SplitBudgetManager_query_by_utility_b24 SplitBudgetManager_query_by_utility_b21
def SplitBudgetManager_query_by_utility_b26 : Prog :=
  .seq (.bind 5 (.fresh [])) (.seq (.bind 3 (.fresh [])) (.seq (.bind 2 (.fresh [])) (.seq (.bind 0 (.fresh [])) (.seq (.bind 4 (.fresh [])) (.seq (.bind 1 (.fresh [])) (.seq (.bind 6 (.fresh [])) SplitBudgetManager_query_by_utility_b25))))))
def summary_SplitBudgetManager_query_by_utility : Summary :=
  { params := [0, 1, 2, 3, 4, 5], closedAttrs := [6, 9], safeAttrs := [], body := SplitBudgetManager_query_by_utility_b26 }
theorem effects_SplitBudgetManager_query_by_utility : FrameOK summary_SplitBudgetManager_query_by_utility = true := by decide +kernel

-- SplitBudgetManager.update: locals 0=$ret25 1=random_state@check_random_state23 2=queried@update16 3=$ret16 4=random_state@check_random_state15 5=queried@update8 6=queried 7=$ret7 8=random_state@check_random_state7
def SplitBudgetManager_update_b0 : Prog :=
  .seq (.readAttr 9) (.seq (.writeAttr 9 (.fresh [])) .skip)
def SplitBudgetManager_update_b1 : Prog :=
  .ite SplitBudgetManager_update_b0 .skip .skip
def SplitBudgetManager_update_b2 : Prog :=
  .seq (.readAttr 9) (.seq (.writeAttr 9 (.fresh [])) SplitBudgetManager_update_b1)
def SplitBudgetManager_update_b3 : Prog :=
  .ite SplitBudgetManager_update_b2 .skip .skip
def SplitBudgetManager_update_b4 : Prog :=
  .seq (.writeAttr 6 (.deep (.attr 3))) .skip
def SplitBudgetManager_update_b5 : Prog :=
  .ite SplitBudgetManager_update_b4 .skip (.seq (.readAttr 6) (.seq (.bind 1 (.alias (.attr 6))) (.seq (.bind 0 (.alias (.loc 1))) (.seq (.writeAttr 6 (.alias (.loc 0))) SplitBudgetManager_update_b3))))
def SplitBudgetManager_update_b6 : Prog :=
  .seq (.writeAttr 8 (.alias (.attr 1))) .skip
def SplitBudgetManager_update_b7 : Prog :=
  .ite SplitBudgetManager_update_b6 .skip SplitBudgetManager_update_b5
def SplitBudgetManager_update_b8 : Prog :=
  .seq (.writeAttr 9 (.fresh [])) .skip
def SplitBudgetManager_update_b9 : Prog :=
  .ite SplitBudgetManager_update_b8 .skip SplitBudgetManager_update_b7
def SplitBudgetManager_update_b10 : Prog :=
  .seq (.writeAttr 7 (.alias (.attr 5))) .skip
def SplitBudgetManager_update_b11 : Prog :=
  .seq (.writeAttr 7 (.fresh [])) .skip
def SplitBudgetManager_update_b12 : Prog :=
  .ite SplitBudgetManager_update_b10 SplitBudgetManager_update_b11 (.seq (.readAttr 7) .skip)
def SplitBudgetManager_update_b13 : Prog :=
  .ite .abort SplitBudgetManager_update_b12 SplitBudgetManager_update_b9
def SplitBudgetManager_update_b14 : Prog :=
  .seq (.readAttr 6) .skip
def SplitBudgetManager_update_b15 : Prog :=
  .seq (.readAttr 8) (.seq (.writeAttr 8 (.fresh [])) .skip)
def SplitBudgetManager_update_b16 : Prog :=
  .seq (.readAttr 8) (.seq (.writeAttr 8 (.fresh [])) .skip)
def SplitBudgetManager_update_b17 : Prog :=
  .ite SplitBudgetManager_update_b15 SplitBudgetManager_update_b16 .skip
def SplitBudgetManager_update_b18 : Prog :=
  .ite SplitBudgetManager_update_b14 SplitBudgetManager_update_b17 .skip
def SplitBudgetManager_update_b19 : Prog :=
  .seq (.readAttr 6) SplitBudgetManager_update_b18
def SplitBudgetManager_update_b20 : Prog :=
  .ite SplitBudgetManager_update_b19 .skip (.seq (.bind 2 (.fresh [])) (.seq (.mutate (.loc 2) []) SplitBudgetManager_update_b13))
def SplitBudgetManager_update_b21 : Prog :=
  .seq (.readAttr 9) (.seq (.readAttr 7) SplitBudgetManager_update_b20)
def SplitBudgetManager_update_b22 : Prog :=
  .ite SplitBudgetManager_update_b21 .skip .skip
def SplitBudgetManager_update_b23 : Prog :=
  .seq (.readAttr 9) (.seq (.writeAttr 9 (.fresh [])) .skip)
def SplitBudgetManager_update_b24 : Prog :=
  .ite SplitBudgetManager_update_b23 .skip .skip
def SplitBudgetManager_update_b25 : Prog :=
  .seq (.readAttr 9) (.seq (.writeAttr 9 (.fresh [])) SplitBudgetManager_update_b24)
def SplitBudgetManager_update_b26 : Prog :=
  .ite SplitBudgetManager_update_b25 .skip SplitBudgetManager_update_b22
def SplitBudgetManager_update_b27 : Prog :=
  .seq (.writeAttr 6 (.deep (.attr 3))) .skip
def SplitBudgetManager_update_b28 : Prog :=
  .ite SplitBudgetManager_update_b27 .skip (.seq (.readAttr 6) (.seq (.bind 4 (.alias (.attr 6))) (.seq (.bind 3 (.alias (.loc 4))) (.seq (.writeAttr 6 (.alias (.loc 3))) SplitBudgetManager_update_b26))))
def SplitBudgetManager_update_b29 : Prog :=
  .seq (.writeAttr 8 (.alias (.attr 1))) .skip
def SplitBudgetManager_update_b30 : Prog :=
  .ite SplitBudgetManager_update_b29 .skip SplitBudgetManager_update_b28
def SplitBudgetManager_update_b31 : Prog :=
  .seq (.writeAttr 9 (.fresh [])) .skip
def SplitBudgetManager_update_b32 : Prog :=
  .ite SplitBudgetManager_update_b31 .skip SplitBudgetManager_update_b30
def SplitBudgetManager_update_b33 : Prog :=
  .seq (.writeAttr 7 (.alias (.attr 5))) .skip
def SplitBudgetManager_update_b34 : Prog :=
  .seq (.writeAttr 7 (.fresh [])) .skip
def SplitBudgetManager_update_b35 : Prog :=
  .ite SplitBudgetManager_update_b33 SplitBudgetManager_update_b34 (.seq (.readAttr 7) .skip)
def SplitBudgetManager_update_b36 : Prog :=
  .ite .abort SplitBudgetManager_update_b35 SplitBudgetManager_update_b32
def SplitBudgetManager_update_b37 : Prog :=
  .seq (.readAttr 6) .skip
def SplitBudgetManager_update_b38 : Prog :=
  .seq (.readAttr 8) (.seq (.writeAttr 8 (.fresh [])) .skip)
def SplitBudgetManager_update_b39 : Prog :=
  .seq (.readAttr 8) (.seq (.writeAttr 8 (.fresh [])) .skip)
def SplitBudgetManager_update_b40 : Prog :=
  .ite SplitBudgetManager_update_b38 SplitBudgetManager_update_b39 .skip
def SplitBudgetManager_update_b41 : Prog :=
  .ite SplitBudgetManager_update_b37 SplitBudgetManager_update_b40 .skip
def SplitBudgetManager_update_b42 : Prog :=
  .seq (.readAttr 6) SplitBudgetManager_update_b41
def SplitBudgetManager_update_b43 : Prog :=
  .ite SplitBudgetManager_update_b42 .skip (.seq (.bind 5 (.fresh [])) (.seq (.mutate (.loc 5) []) SplitBudgetManager_update_b36))
def SplitBudgetManager_update_b44 : Prog :=
  .seq (.readAttr 9) (.seq (.readAttr 7) SplitBudgetManager_update_b43)
def SplitBudgetManager_update_b45 : Prog :=
  .ite SplitBudgetManager_update_b44 .skip .skip
def SplitBudgetManager_update_b46 : Prog :=
  .seq (.writeAttr 6 (.deep (.attr 3))) .skip
def SplitBudgetManager_update_b47 : Prog :=
  .ite SplitBudgetManager_update_b46 .skip (.seq (.readAttr 6) (.seq (.bind 8 (.alias (.attr 6))) (.seq (.bind 7 (.alias (.loc 8))) (.seq (.writeAttr 6 (.alias (.loc 7))) (.seq (.bind 6 (.fresh [])) (.seq (.mutate (.loc 6) []) SplitBudgetManager_update_b45))))))
def SplitBudgetManager_update_b48 : Prog :=
  .seq (.writeAttr 8 (.alias (.attr 1))) .skip
def SplitBudgetManager_update_b49 : Prog :=
  .ite SplitBudgetManager_update_b48 .skip SplitBudgetManager_update_b47
def SplitBudgetManager_update_b50 : Prog :=
  .seq (.writeAttr 9 (.fresh [])) .skip
def SplitBudgetManager_update_b51 : Prog :=
  .ite SplitBudgetManager_update_b50 .skip SplitBudgetManager_update_b49
def SplitBudgetManager_update_b52 : Prog :=
  .seq (.writeAttr 7 (.alias (.attr 5))) .skip
def SplitBudgetManager_update_b53 : Prog :=
  .seq (.writeAttr 7 (.fresh [])) .skip
def SplitBudgetManager_update_b54 : Prog :=
  .ite SplitBudgetManager_update_b52 SplitBudgetManager_update_b53 (.seq (.readAttr 7) .skip)
def SplitBudgetManager_update_b55 : Prog :=
  .ite .abort SplitBudgetManager_update_b54 SplitBudgetManager_update_b51
def SplitBudgetManager_update_b56 : Prog :=
  .seq (.bind 3 (.fresh [])) (.seq (.bind 0 (.fresh [])) (.seq (.bind 7 (.fresh [])) (.seq (.bind 6 (.fresh [])) (.seq (.bind 2 (.fresh [])) (.seq (.bind 5 (.fresh [])) (.seq (.bind 4 (.fresh [])) (.seq (.bind 1 (.fresh [])) (.seq (.bind 8 (.fresh [])) SplitBudgetManager_update_b55))))))))
def summary_SplitBudgetManager_update : Summary :=
  { params := [0, 1, 2, 3, 4, 5], closedAttrs := [6, 9], safeAttrs := [], body := SplitBudgetManager_update_b56 }
theorem effects_SplitBudgetManager_update : FrameOK summary_SplitBudgetManager_update = true := by decide +kernel

/-! ### BalancedIncrementalQuantileFilter  (skactiveml/stream/budgetmanager/_balanced_incremental_quantile_filter.py)
attributes: 0=w 1=w_tol 2=budget 3=budget_ 4=history_sorted_ 5=observed_samples_ 6=queried_samples_
keys: 0=* -/
-- BalancedIncrementalQuantileFilter.query_by_utility: locals 0=$t5 1=i 2=tmp_history_sorted_ 3=u 4=utilities 5=$t4 6=$ret1 7=utilities@_validate_data1 8=$ret2 9=utilities@_validate_data2
def BalancedIncrementalQuantileFilter_query_by_utility_b0 : Prog :=
  .seq (.bind 0 (.fresh [])) (.seq (.mutate (.loc 0) [(.loc 1)]) .skip)
def BalancedIncrementalQuantileFilter_query_by_utility_b1 : Prog :=
  .ite BalancedIncrementalQuantileFilter_query_by_utility_b0 .skip .skip
def BalancedIncrementalQuantileFilter_query_by_utility_b2 : Prog :=
  .seq (.bind 1 (.fresh [])) (.seq (.bind 3 (.alias (.sub (.loc 4) 0))) (.seq (.mutate (.loc 2) [(.loc 3)]) (.seq (.readAttr 3) (.seq (.readAttr 3) BalancedIncrementalQuantileFilter_query_by_utility_b1))))
def BalancedIncrementalQuantileFilter_query_by_utility_b3 : Prog :=
  .ite BalancedIncrementalQuantileFilter_query_by_utility_b2 .skip .skip
def BalancedIncrementalQuantileFilter_query_by_utility_b4 : Prog :=
  .seq (.bind 5 (.fresh [])) (.seq (.mutate (.loc 5) [(.loc 1)]) .skip)
def BalancedIncrementalQuantileFilter_query_by_utility_b5 : Prog :=
  .ite BalancedIncrementalQuantileFilter_query_by_utility_b4 .skip BalancedIncrementalQuantileFilter_query_by_utility_b3
def BalancedIncrementalQuantileFilter_query_by_utility_b6 : Prog :=
  .seq (.bind 1 (.fresh [])) (.seq (.bind 3 (.alias (.sub (.loc 4) 0))) (.seq (.mutate (.loc 2) [(.loc 3)]) (.seq (.readAttr 3) (.seq (.readAttr 3) BalancedIncrementalQuantileFilter_query_by_utility_b5))))
def BalancedIncrementalQuantileFilter_query_by_utility_b7 : Prog :=
  .ite BalancedIncrementalQuantileFilter_query_by_utility_b6 .skip .skip
def BalancedIncrementalQuantileFilter_query_by_utility_b8 : Prog :=
  .seq (.writeAttr 4 (.fresh [])) .skip
def BalancedIncrementalQuantileFilter_query_by_utility_b9 : Prog :=
  .ite BalancedIncrementalQuantileFilter_query_by_utility_b8 .skip (.seq (.bind 6 (.alias (.loc 7))) (.seq (.bind 4 (.alias (.loc 6))) (.seq (.readAttr 6) (.seq (.readAttr 5) (.seq (.readAttr 4) (.seq (.bind 2 (.copy (.attr 4))) BalancedIncrementalQuantileFilter_query_by_utility_b7))))))
def BalancedIncrementalQuantileFilter_query_by_utility_b10 : Prog :=
  .seq (.writeAttr 6 (.fresh [])) .skip
def BalancedIncrementalQuantileFilter_query_by_utility_b11 : Prog :=
  .ite BalancedIncrementalQuantileFilter_query_by_utility_b10 .skip BalancedIncrementalQuantileFilter_query_by_utility_b9
def BalancedIncrementalQuantileFilter_query_by_utility_b12 : Prog :=
  .seq (.writeAttr 5 (.fresh [])) .skip
def BalancedIncrementalQuantileFilter_query_by_utility_b13 : Prog :=
  .ite BalancedIncrementalQuantileFilter_query_by_utility_b12 .skip BalancedIncrementalQuantileFilter_query_by_utility_b11
def BalancedIncrementalQuantileFilter_query_by_utility_b14 : Prog :=
  .seq (.bind 9 (.fresh [])) .abort
def BalancedIncrementalQuantileFilter_query_by_utility_b15 : Prog :=
  .seq (.writeAttr 3 (.alias (.attr 2))) .skip
def BalancedIncrementalQuantileFilter_query_by_utility_b16 : Prog :=
  .seq (.writeAttr 3 (.fresh [])) .skip
def BalancedIncrementalQuantileFilter_query_by_utility_b17 : Prog :=
  .ite BalancedIncrementalQuantileFilter_query_by_utility_b15 BalancedIncrementalQuantileFilter_query_by_utility_b16 (.seq (.readAttr 3) (.seq (.bind 8 (.alias (.loc 9))) .skip))
def BalancedIncrementalQuantileFilter_query_by_utility_b18 : Prog :=
  .ite BalancedIncrementalQuantileFilter_query_by_utility_b14 BalancedIncrementalQuantileFilter_query_by_utility_b17 (.seq (.bind 7 (.alias (.loc 8))) BalancedIncrementalQuantileFilter_query_by_utility_b13)
def BalancedIncrementalQuantileFilter_query_by_utility_b19 : Prog :=
  .seq (.bind 8 (.fresh [])) (.seq (.bind 5 (.fresh [])) (.seq (.bind 0 (.fresh [])) (.seq (.bind 1 (.fresh [])) (.seq (.bind 2 (.fresh [])) (.seq (.bind 3 (.fresh [])) (.seq (.bind 7 (.fresh [])) (.seq (.bind 9 (.fresh [])) (.seq (.bind 7 (.alias (.loc 4))) (.seq (.bind 9 (.alias (.loc 7))) BalancedIncrementalQuantileFilter_query_by_utility_b18)))))))))
def BalancedIncrementalQuantileFilter_query_by_utility_b20 : Prog :=
  .seq (.bind 6 (.fresh [])) BalancedIncrementalQuantileFilter_query_by_utility_b19
def summary_BalancedIncrementalQuantileFilter_query_by_utility : Summary :=
  { params := [0, 1, 2], closedAttrs := [], safeAttrs := [4, 5, 6], body := BalancedIncrementalQuantileFilter_query_by_utility_b20 }
theorem effects_BalancedIncrementalQuantileFilter_query_by_utility : FrameOK summary_BalancedIncrementalQuantileFilter_query_by_utility = true := by decide +kernel

-- BalancedIncrementalQuantileFilter.update: locals 0=utilities 1=queried
def BalancedIncrementalQuantileFilter_update_b0 : Prog :=
  .seq (.writeAttr 4 (.fresh [])) .skip
def BalancedIncrementalQuantileFilter_update_b1 : Prog :=
  .ite BalancedIncrementalQuantileFilter_update_b0 .skip (.seq (.bind 1 (.fresh [])) (.seq (.mutate (.loc 1) []) (.seq (.readAttr 5) (.seq (.writeAttr 5 (.fresh [])) (.seq (.readAttr 6) (.seq (.writeAttr 6 (.fresh [])) (.seq (.readAttr 4) (.seq (.mutate (.attr 4) [(.loc 0)]) .skip))))))))
def BalancedIncrementalQuantileFilter_update_b2 : Prog :=
  .seq (.writeAttr 6 (.fresh [])) .skip
def BalancedIncrementalQuantileFilter_update_b3 : Prog :=
  .ite BalancedIncrementalQuantileFilter_update_b2 .skip BalancedIncrementalQuantileFilter_update_b1
def BalancedIncrementalQuantileFilter_update_b4 : Prog :=
  .seq (.writeAttr 5 (.fresh [])) .skip
def BalancedIncrementalQuantileFilter_update_b5 : Prog :=
  .ite BalancedIncrementalQuantileFilter_update_b4 .skip BalancedIncrementalQuantileFilter_update_b3
def BalancedIncrementalQuantileFilter_update_b6 : Prog :=
  .seq (.writeAttr 3 (.alias (.attr 2))) .skip
def BalancedIncrementalQuantileFilter_update_b7 : Prog :=
  .seq (.writeAttr 3 (.fresh [])) .skip
def BalancedIncrementalQuantileFilter_update_b8 : Prog :=
  .ite BalancedIncrementalQuantileFilter_update_b6 BalancedIncrementalQuantileFilter_update_b7 (.seq (.readAttr 3) .skip)
def BalancedIncrementalQuantileFilter_update_b9 : Prog :=
  .ite .abort BalancedIncrementalQuantileFilter_update_b8 BalancedIncrementalQuantileFilter_update_b5
def BalancedIncrementalQuantileFilter_update_b10 : Prog :=
  .seq (.bind 1 (.fresh [])) BalancedIncrementalQuantileFilter_update_b9
def summary_BalancedIncrementalQuantileFilter_update : Summary :=
  { params := [0, 1, 2], closedAttrs := [], safeAttrs := [4, 5, 6], body := BalancedIncrementalQuantileFilter_update_b10 }
theorem effects_BalancedIncrementalQuantileFilter_update : FrameOK summary_BalancedIncrementalQuantileFilter_update = true := by decide +kernel

/-! ### RandomVariableUncertaintyBudgetManager  (skactiveml/stream/budgetmanager/_estimated_budget_zliobaite.py)
attributes: 0=delta 1=theta 2=s 3=random_state 4=w 5=budget 6=random_state_ 7=budget_ 8=theta_ 9=u_t_
keys: 0=* -/
-- RandomVariableUncertaintyBudgetManager.query_by_utility: locals 0=$t13 1=i 2=$t11 3=$t10 4=$t8 5=$ret7 6=random_state@check_random_state7
def RandomVariableUncertaintyBudgetManager_query_by_utility_b0 : Prog :=
  .seq (.bind 0 (.fresh [])) (.seq (.mutate (.loc 0) [(.loc 1)]) .skip)
def RandomVariableUncertaintyBudgetManager_query_by_utility_b1 : Prog :=
  .ite RandomVariableUncertaintyBudgetManager_query_by_utility_b0 .skip .skip
def RandomVariableUncertaintyBudgetManager_query_by_utility_b2 : Prog :=
  .seq (.readAttr 6) RandomVariableUncertaintyBudgetManager_query_by_utility_b1
def RandomVariableUncertaintyBudgetManager_query_by_utility_b3 : Prog :=
  .ite .skip RandomVariableUncertaintyBudgetManager_query_by_utility_b2 .skip
def RandomVariableUncertaintyBudgetManager_query_by_utility_b4 : Prog :=
  .seq (.bind 1 (.fresh [])) (.seq (.readAttr 7) (.seq (.bind 2 (.fresh [])) (.seq (.mutate (.loc 2) []) RandomVariableUncertaintyBudgetManager_query_by_utility_b3)))
def RandomVariableUncertaintyBudgetManager_query_by_utility_b5 : Prog :=
  .ite RandomVariableUncertaintyBudgetManager_query_by_utility_b4 .skip .skip
def RandomVariableUncertaintyBudgetManager_query_by_utility_b6 : Prog :=
  .seq (.bind 3 (.fresh [])) (.seq (.mutate (.loc 3) [(.loc 1)]) .skip)
def RandomVariableUncertaintyBudgetManager_query_by_utility_b7 : Prog :=
  .ite RandomVariableUncertaintyBudgetManager_query_by_utility_b6 .skip .skip
def RandomVariableUncertaintyBudgetManager_query_by_utility_b8 : Prog :=
  .seq (.readAttr 6) RandomVariableUncertaintyBudgetManager_query_by_utility_b7
def RandomVariableUncertaintyBudgetManager_query_by_utility_b9 : Prog :=
  .ite .skip RandomVariableUncertaintyBudgetManager_query_by_utility_b8 RandomVariableUncertaintyBudgetManager_query_by_utility_b5
def RandomVariableUncertaintyBudgetManager_query_by_utility_b10 : Prog :=
  .seq (.bind 1 (.fresh [])) (.seq (.readAttr 7) (.seq (.bind 4 (.fresh [])) (.seq (.mutate (.loc 4) []) RandomVariableUncertaintyBudgetManager_query_by_utility_b9)))
def RandomVariableUncertaintyBudgetManager_query_by_utility_b11 : Prog :=
  .ite RandomVariableUncertaintyBudgetManager_query_by_utility_b10 .skip (.seq (.readAttr 6) .skip)
def RandomVariableUncertaintyBudgetManager_query_by_utility_b12 : Prog :=
  .seq (.writeAttr 6 (.deep (.attr 3))) .skip
def RandomVariableUncertaintyBudgetManager_query_by_utility_b13 : Prog :=
  .ite RandomVariableUncertaintyBudgetManager_query_by_utility_b12 .skip (.seq (.readAttr 6) (.seq (.bind 6 (.alias (.attr 6))) (.seq (.bind 5 (.alias (.loc 6))) (.seq (.writeAttr 6 (.alias (.loc 5))) (.seq (.readAttr 9) (.seq (.readAttr 8) (.seq (.readAttr 6) RandomVariableUncertaintyBudgetManager_query_by_utility_b11)))))))
def RandomVariableUncertaintyBudgetManager_query_by_utility_b14 : Prog :=
  .seq (.writeAttr 8 (.alias (.attr 1))) .skip
def RandomVariableUncertaintyBudgetManager_query_by_utility_b15 : Prog :=
  .ite RandomVariableUncertaintyBudgetManager_query_by_utility_b14 .skip RandomVariableUncertaintyBudgetManager_query_by_utility_b13
def RandomVariableUncertaintyBudgetManager_query_by_utility_b16 : Prog :=
  .seq (.writeAttr 9 (.fresh [])) .skip
def RandomVariableUncertaintyBudgetManager_query_by_utility_b17 : Prog :=
  .ite RandomVariableUncertaintyBudgetManager_query_by_utility_b16 .skip RandomVariableUncertaintyBudgetManager_query_by_utility_b15
def RandomVariableUncertaintyBudgetManager_query_by_utility_b18 : Prog :=
  .seq (.writeAttr 7 (.alias (.attr 5))) .skip
def RandomVariableUncertaintyBudgetManager_query_by_utility_b19 : Prog :=
  .seq (.writeAttr 7 (.fresh [])) .skip
def RandomVariableUncertaintyBudgetManager_query_by_utility_b20 : Prog :=
  .ite RandomVariableUncertaintyBudgetManager_query_by_utility_b18 RandomVariableUncertaintyBudgetManager_query_by_utility_b19 (.seq (.readAttr 7) .skip)
def RandomVariableUncertaintyBudgetManager_query_by_utility_b21 : Prog :=
  .ite .abort RandomVariableUncertaintyBudgetManager_query_by_utility_b20 RandomVariableUncertaintyBudgetManager_query_by_utility_b17
def RandomVariableUncertaintyBudgetManager_query_by_utility_b22 : Prog :=
  .seq (.bind 5 (.fresh [])) (.seq (.bind 3 (.fresh [])) (.seq (.bind 2 (.fresh [])) (.seq (.bind 0 (.fresh [])) (.seq (.bind 4 (.fresh [])) (.seq (.bind 1 (.fresh [])) (.seq (.bind 6 (.fresh [])) RandomVariableUncertaintyBudgetManager_query_by_utility_b21))))))
def summary_RandomVariableUncertaintyBudgetManager_query_by_utility : Summary :=
  { params := [0, 1, 2, 3, 4, 5], closedAttrs := [6, 9], safeAttrs := [], body := RandomVariableUncertaintyBudgetManager_query_by_utility_b22 }
theorem effects_RandomVariableUncertaintyBudgetManager_query_by_utility : FrameOK summary_RandomVariableUncertaintyBudgetManager_query_by_utility = true := by decide +kernel

-- RandomVariableUncertaintyBudgetManager.update: locals 0=$ret15 1=random_state@check_random_state15 2=queried@update8 3=queried 4=$ret7 5=random_state@check_random_state7
def RandomVariableUncertaintyBudgetManager_update_b0 : Prog :=
  .seq (.readAttr 9) (.seq (.writeAttr 9 (.fresh [])) .skip)
def RandomVariableUncertaintyBudgetManager_update_b1 : Prog :=
  .ite RandomVariableUncertaintyBudgetManager_update_b0 .skip .skip
def RandomVariableUncertaintyBudgetManager_update_b2 : Prog :=
  .seq (.readAttr 9) (.seq (.writeAttr 9 (.fresh [])) RandomVariableUncertaintyBudgetManager_update_b1)
def RandomVariableUncertaintyBudgetManager_update_b3 : Prog :=
  .ite RandomVariableUncertaintyBudgetManager_update_b2 .skip .skip
def RandomVariableUncertaintyBudgetManager_update_b4 : Prog :=
  .seq (.writeAttr 6 (.deep (.attr 3))) .skip
def RandomVariableUncertaintyBudgetManager_update_b5 : Prog :=
  .ite RandomVariableUncertaintyBudgetManager_update_b4 .skip (.seq (.readAttr 6) (.seq (.bind 1 (.alias (.attr 6))) (.seq (.bind 0 (.alias (.loc 1))) (.seq (.writeAttr 6 (.alias (.loc 0))) RandomVariableUncertaintyBudgetManager_update_b3))))
def RandomVariableUncertaintyBudgetManager_update_b6 : Prog :=
  .seq (.writeAttr 8 (.alias (.attr 1))) .skip
def RandomVariableUncertaintyBudgetManager_update_b7 : Prog :=
  .ite RandomVariableUncertaintyBudgetManager_update_b6 .skip RandomVariableUncertaintyBudgetManager_update_b5
def RandomVariableUncertaintyBudgetManager_update_b8 : Prog :=
  .seq (.writeAttr 9 (.fresh [])) .skip
def RandomVariableUncertaintyBudgetManager_update_b9 : Prog :=
  .ite RandomVariableUncertaintyBudgetManager_update_b8 .skip RandomVariableUncertaintyBudgetManager_update_b7
def RandomVariableUncertaintyBudgetManager_update_b10 : Prog :=
  .seq (.writeAttr 7 (.alias (.attr 5))) .skip
def RandomVariableUncertaintyBudgetManager_update_b11 : Prog :=
  .seq (.writeAttr 7 (.fresh [])) .skip
def RandomVariableUncertaintyBudgetManager_update_b12 : Prog :=
  .ite RandomVariableUncertaintyBudgetManager_update_b10 RandomVariableUncertaintyBudgetManager_update_b11 (.seq (.readAttr 7) .skip)
def RandomVariableUncertaintyBudgetManager_update_b13 : Prog :=
  .ite .abort RandomVariableUncertaintyBudgetManager_update_b12 RandomVariableUncertaintyBudgetManager_update_b9
def RandomVariableUncertaintyBudgetManager_update_b14 : Prog :=
  .seq (.readAttr 8) (.seq (.writeAttr 8 (.fresh [])) .skip)
def RandomVariableUncertaintyBudgetManager_update_b15 : Prog :=
  .seq (.readAttr 8) (.seq (.writeAttr 8 (.fresh [])) .skip)
def RandomVariableUncertaintyBudgetManager_update_b16 : Prog :=
  .ite RandomVariableUncertaintyBudgetManager_update_b14 RandomVariableUncertaintyBudgetManager_update_b15 .skip
def RandomVariableUncertaintyBudgetManager_update_b17 : Prog :=
  .ite RandomVariableUncertaintyBudgetManager_update_b16 .skip .skip
def RandomVariableUncertaintyBudgetManager_update_b18 : Prog :=
  .seq (.readAttr 7) RandomVariableUncertaintyBudgetManager_update_b17
def RandomVariableUncertaintyBudgetManager_update_b19 : Prog :=
  .ite RandomVariableUncertaintyBudgetManager_update_b18 .skip .skip
def RandomVariableUncertaintyBudgetManager_update_b20 : Prog :=
  .seq (.readAttr 8) (.seq (.writeAttr 8 (.fresh [])) .skip)
def RandomVariableUncertaintyBudgetManager_update_b21 : Prog :=
  .seq (.readAttr 8) (.seq (.writeAttr 8 (.fresh [])) .skip)
def RandomVariableUncertaintyBudgetManager_update_b22 : Prog :=
  .ite RandomVariableUncertaintyBudgetManager_update_b20 RandomVariableUncertaintyBudgetManager_update_b21 .skip
def RandomVariableUncertaintyBudgetManager_update_b23 : Prog :=
  .ite RandomVariableUncertaintyBudgetManager_update_b22 .skip RandomVariableUncertaintyBudgetManager_update_b19
def RandomVariableUncertaintyBudgetManager_update_b24 : Prog :=
  .seq (.readAttr 7) RandomVariableUncertaintyBudgetManager_update_b23
def RandomVariableUncertaintyBudgetManager_update_b25 : Prog :=
  .ite RandomVariableUncertaintyBudgetManager_update_b24 .skip (.seq (.bind 2 (.fresh [])) (.seq (.mutate (.loc 2) []) RandomVariableUncertaintyBudgetManager_update_b13))
def RandomVariableUncertaintyBudgetManager_update_b26 : Prog :=
  .seq (.writeAttr 6 (.deep (.attr 3))) .skip
def RandomVariableUncertaintyBudgetManager_update_b27 : Prog :=
  .ite RandomVariableUncertaintyBudgetManager_update_b26 .skip (.seq (.readAttr 6) (.seq (.bind 5 (.alias (.attr 6))) (.seq (.bind 4 (.alias (.loc 5))) (.seq (.writeAttr 6 (.alias (.loc 4))) (.seq (.bind 3 (.fresh [])) (.seq (.mutate (.loc 3) []) (.seq (.readAttr 6) (.seq (.readAttr 9) RandomVariableUncertaintyBudgetManager_update_b25))))))))
def RandomVariableUncertaintyBudgetManager_update_b28 : Prog :=
  .seq (.writeAttr 8 (.alias (.attr 1))) .skip
def RandomVariableUncertaintyBudgetManager_update_b29 : Prog :=
  .ite RandomVariableUncertaintyBudgetManager_update_b28 .skip RandomVariableUncertaintyBudgetManager_update_b27
def RandomVariableUncertaintyBudgetManager_update_b30 : Prog :=
  .seq (.writeAttr 9 (.fresh [])) .skip
def RandomVariableUncertaintyBudgetManager_update_b31 : Prog :=
  .ite RandomVariableUncertaintyBudgetManager_update_b30 .skip RandomVariableUncertaintyBudgetManager_update_b29
def RandomVariableUncertaintyBudgetManager_update_b32 : Prog :=
  .seq (.writeAttr 7 (.alias (.attr 5))) .skip
def RandomVariableUncertaintyBudgetManager_update_b33 : Prog :=
  .seq (.writeAttr 7 (.fresh [])) .skip
def RandomVariableUncertaintyBudgetManager_update_b34 : Prog :=
  .ite RandomVariableUncertaintyBudgetManager_update_b32 RandomVariableUncertaintyBudgetManager_update_b33 (.seq (.readAttr 7) .skip)
def RandomVariableUncertaintyBudgetManager_update_b35 : Prog :=
  .ite .abort RandomVariableUncertaintyBudgetManager_update_b34 RandomVariableUncertaintyBudgetManager_update_b31
def RandomVariableUncertaintyBudgetManager_update_b36 : Prog :=
  .seq (.bind 0 (.fresh [])) (.seq (.bind 4 (.fresh [])) (.seq (.bind 3 (.fresh [])) (.seq (.bind 2 (.fresh [])) (.seq (.bind 1 (.fresh [])) (.seq (.bind 5 (.fresh [])) RandomVariableUncertaintyBudgetManager_update_b35)))))
def summary_RandomVariableUncertaintyBudgetManager_update : Summary :=
  { params := [0, 1, 2, 3, 4, 5], closedAttrs := [6, 9], safeAttrs := [], body := RandomVariableUncertaintyBudgetManager_update_b36 }
theorem effects_RandomVariableUncertaintyBudgetManager_update : FrameOK summary_RandomVariableUncertaintyBudgetManager_update = true := by decide +kernel

/-! ### DensityBasedSplitBudgetManager  (skactiveml/stream/budgetmanager/_threshold_budget.py)
attributes: 0=theta 1=s 2=delta 3=random_state 4=budget 5=random_state_ 6=budget_ 7=theta_ 8=t_ 9=u_
keys: 0=* -/
-- DensityBasedSplitBudgetManager.query_by_utility: locals 0=$t8 1=i 2=$t7 3=$ret6 4=random_state@check_random_state6
def DensityBasedSplitBudgetManager_query_by_utility_b0 : Prog :=
  .seq (.bind 0 (.fresh [])) (.seq (.mutate (.loc 0) [(.loc 1)]) .skip)
def DensityBasedSplitBudgetManager_query_by_utility_b1 : Prog :=
  .ite DensityBasedSplitBudgetManager_query_by_utility_b0 .skip .skip
def DensityBasedSplitBudgetManager_query_by_utility_b2 : Prog :=
  .seq (.readAttr 5) DensityBasedSplitBudgetManager_query_by_utility_b1
def DensityBasedSplitBudgetManager_query_by_utility_b3 : Prog :=
  .ite .skip DensityBasedSplitBudgetManager_query_by_utility_b2 .skip
def DensityBasedSplitBudgetManager_query_by_utility_b4 : Prog :=
  .seq (.bind 1 (.fresh [])) (.seq (.readAttr 6) DensityBasedSplitBudgetManager_query_by_utility_b3)
def DensityBasedSplitBudgetManager_query_by_utility_b5 : Prog :=
  .ite DensityBasedSplitBudgetManager_query_by_utility_b4 .skip .skip
def DensityBasedSplitBudgetManager_query_by_utility_b6 : Prog :=
  .seq (.bind 2 (.fresh [])) (.seq (.mutate (.loc 2) [(.loc 1)]) .skip)
def DensityBasedSplitBudgetManager_query_by_utility_b7 : Prog :=
  .ite DensityBasedSplitBudgetManager_query_by_utility_b6 .skip .skip
def DensityBasedSplitBudgetManager_query_by_utility_b8 : Prog :=
  .seq (.readAttr 5) DensityBasedSplitBudgetManager_query_by_utility_b7
def DensityBasedSplitBudgetManager_query_by_utility_b9 : Prog :=
  .ite .skip DensityBasedSplitBudgetManager_query_by_utility_b8 DensityBasedSplitBudgetManager_query_by_utility_b5
def DensityBasedSplitBudgetManager_query_by_utility_b10 : Prog :=
  .seq (.bind 1 (.fresh [])) (.seq (.readAttr 6) DensityBasedSplitBudgetManager_query_by_utility_b9)
def DensityBasedSplitBudgetManager_query_by_utility_b11 : Prog :=
  .ite DensityBasedSplitBudgetManager_query_by_utility_b10 .skip (.seq (.readAttr 5) .skip)
def DensityBasedSplitBudgetManager_query_by_utility_b12 : Prog :=
  .seq (.writeAttr 5 (.deep (.attr 3))) .skip
def DensityBasedSplitBudgetManager_query_by_utility_b13 : Prog :=
  .ite DensityBasedSplitBudgetManager_query_by_utility_b12 .skip (.seq (.readAttr 5) (.seq (.bind 4 (.alias (.attr 5))) (.seq (.bind 3 (.alias (.loc 4))) (.seq (.writeAttr 5 (.alias (.loc 3))) (.seq (.readAttr 9) (.seq (.readAttr 8) (.seq (.readAttr 7) (.seq (.readAttr 5) DensityBasedSplitBudgetManager_query_by_utility_b11))))))))
def DensityBasedSplitBudgetManager_query_by_utility_b14 : Prog :=
  .seq (.writeAttr 8 (.fresh [])) .skip
def DensityBasedSplitBudgetManager_query_by_utility_b15 : Prog :=
  .ite DensityBasedSplitBudgetManager_query_by_utility_b14 .skip DensityBasedSplitBudgetManager_query_by_utility_b13
def DensityBasedSplitBudgetManager_query_by_utility_b16 : Prog :=
  .seq (.writeAttr 9 (.fresh [])) .skip
def DensityBasedSplitBudgetManager_query_by_utility_b17 : Prog :=
  .ite DensityBasedSplitBudgetManager_query_by_utility_b16 .skip DensityBasedSplitBudgetManager_query_by_utility_b15
def DensityBasedSplitBudgetManager_query_by_utility_b18 : Prog :=
  .seq (.writeAttr 7 (.alias (.attr 0))) .skip
def DensityBasedSplitBudgetManager_query_by_utility_b19 : Prog :=
  .ite DensityBasedSplitBudgetManager_query_by_utility_b18 .skip DensityBasedSplitBudgetManager_query_by_utility_b17
def DensityBasedSplitBudgetManager_query_by_utility_b20 : Prog :=
  .seq (.writeAttr 6 (.alias (.attr 4))) .skip
def DensityBasedSplitBudgetManager_query_by_utility_b21 : Prog :=
  .seq (.writeAttr 6 (.fresh [])) .skip
def DensityBasedSplitBudgetManager_query_by_utility_b22 : Prog :=
  .ite DensityBasedSplitBudgetManager_query_by_utility_b20 DensityBasedSplitBudgetManager_query_by_utility_b21 (.seq (.readAttr 6) .skip)
def DensityBasedSplitBudgetManager_query_by_utility_b23 : Prog :=
  .ite .abort DensityBasedSplitBudgetManager_query_by_utility_b22 DensityBasedSplitBudgetManager_query_by_utility_b19
def DensityBasedSplitBudgetManager_query_by_utility_b24 : Prog :=
  .seq (.bind 3 (.fresh [])) (.seq (.bind 2 (.fresh [])) (.seq (.bind 0 (.fresh [])) (.seq (.bind 1 (.fresh [])) (.seq (.bind 4 (.fresh [])) DensityBasedSplitBudgetManager_query_by_utility_b23))))
def summary_DensityBasedSplitBudgetManager_query_by_utility : Summary :=
  { params := [0, 1, 2, 3, 4], closedAttrs := [5, 8, 9], safeAttrs := [], body := DensityBasedSplitBudgetManager_query_by_utility_b24 }
theorem effects_DensityBasedSplitBudgetManager_query_by_utility : FrameOK summary_DensityBasedSplitBudgetManager_query_by_utility = true := by decide +kernel

-- DensityBasedSplitBudgetManager.update: locals 0=queried 1=$ret6 2=random_state@check_random_state6
def DensityBasedSplitBudgetManager_update_b0 : Prog :=
  .seq (.readAttr 7) (.seq (.writeAttr 7 (.fresh [])) .skip)
def DensityBasedSplitBudgetManager_update_b1 : Prog :=
  .seq (.readAttr 7) (.seq (.writeAttr 7 (.fresh [])) .skip)
def DensityBasedSplitBudgetManager_update_b2 : Prog :=
  .ite DensityBasedSplitBudgetManager_update_b0 DensityBasedSplitBudgetManager_update_b1 .skip
def DensityBasedSplitBudgetManager_update_b3 : Prog :=
  .ite DensityBasedSplitBudgetManager_update_b2 .skip (.seq (.readAttr 9) (.seq (.writeAttr 9 (.fresh [])) .skip))
def DensityBasedSplitBudgetManager_update_b4 : Prog :=
  .seq (.readAttr 8) (.seq (.writeAttr 8 (.fresh [])) (.seq (.readAttr 6) (.seq (.readAttr 9) (.seq (.readAttr 8) DensityBasedSplitBudgetManager_update_b3))))
def DensityBasedSplitBudgetManager_update_b5 : Prog :=
  .ite DensityBasedSplitBudgetManager_update_b4 .skip .skip
def DensityBasedSplitBudgetManager_update_b6 : Prog :=
  .seq (.readAttr 7) (.seq (.writeAttr 7 (.fresh [])) .skip)
def DensityBasedSplitBudgetManager_update_b7 : Prog :=
  .seq (.readAttr 7) (.seq (.writeAttr 7 (.fresh [])) .skip)
def DensityBasedSplitBudgetManager_update_b8 : Prog :=
  .ite DensityBasedSplitBudgetManager_update_b6 DensityBasedSplitBudgetManager_update_b7 .skip
def DensityBasedSplitBudgetManager_update_b9 : Prog :=
  .ite DensityBasedSplitBudgetManager_update_b8 .skip (.seq (.readAttr 9) (.seq (.writeAttr 9 (.fresh [])) DensityBasedSplitBudgetManager_update_b5))
def DensityBasedSplitBudgetManager_update_b10 : Prog :=
  .seq (.readAttr 8) (.seq (.writeAttr 8 (.fresh [])) (.seq (.readAttr 6) (.seq (.readAttr 9) (.seq (.readAttr 8) DensityBasedSplitBudgetManager_update_b9))))
def DensityBasedSplitBudgetManager_update_b11 : Prog :=
  .ite DensityBasedSplitBudgetManager_update_b10 .skip .skip
def DensityBasedSplitBudgetManager_update_b12 : Prog :=
  .seq (.writeAttr 5 (.deep (.attr 3))) .skip
def DensityBasedSplitBudgetManager_update_b13 : Prog :=
  .ite DensityBasedSplitBudgetManager_update_b12 .skip (.seq (.readAttr 5) (.seq (.bind 2 (.alias (.attr 5))) (.seq (.bind 1 (.alias (.loc 2))) (.seq (.writeAttr 5 (.alias (.loc 1))) (.seq (.bind 0 (.fresh [])) (.seq (.mutate (.loc 0) []) (.seq (.readAttr 5) DensityBasedSplitBudgetManager_update_b11)))))))
def DensityBasedSplitBudgetManager_update_b14 : Prog :=
  .seq (.writeAttr 8 (.fresh [])) .skip
def DensityBasedSplitBudgetManager_update_b15 : Prog :=
  .ite DensityBasedSplitBudgetManager_update_b14 .skip DensityBasedSplitBudgetManager_update_b13
def DensityBasedSplitBudgetManager_update_b16 : Prog :=
  .seq (.writeAttr 9 (.fresh [])) .skip
def DensityBasedSplitBudgetManager_update_b17 : Prog :=
  .ite DensityBasedSplitBudgetManager_update_b16 .skip DensityBasedSplitBudgetManager_update_b15
def DensityBasedSplitBudgetManager_update_b18 : Prog :=
  .seq (.writeAttr 7 (.alias (.attr 0))) .skip
def DensityBasedSplitBudgetManager_update_b19 : Prog :=
  .ite DensityBasedSplitBudgetManager_update_b18 .skip DensityBasedSplitBudgetManager_update_b17
def DensityBasedSplitBudgetManager_update_b20 : Prog :=
  .seq (.writeAttr 6 (.alias (.attr 4))) .skip
def DensityBasedSplitBudgetManager_update_b21 : Prog :=
  .seq (.writeAttr 6 (.fresh [])) .skip
def DensityBasedSplitBudgetManager_update_b22 : Prog :=
  .ite DensityBasedSplitBudgetManager_update_b20 DensityBasedSplitBudgetManager_update_b21 (.seq (.readAttr 6) .skip)
def DensityBasedSplitBudgetManager_update_b23 : Prog :=
  .ite .abort DensityBasedSplitBudgetManager_update_b22 DensityBasedSplitBudgetManager_update_b19
def DensityBasedSplitBudgetManager_update_b24 : Prog :=
  .seq (.bind 1 (.fresh [])) (.seq (.bind 0 (.fresh [])) (.seq (.bind 2 (.fresh [])) DensityBasedSplitBudgetManager_update_b23))
def summary_DensityBasedSplitBudgetManager_update : Summary :=
  { params := [0, 1, 2, 3, 4], closedAttrs := [5, 8, 9], safeAttrs := [], body := DensityBasedSplitBudgetManager_update_b24 }
theorem effects_DensityBasedSplitBudgetManager_update : FrameOK summary_DensityBasedSplitBudgetManager_update = true := by decide +kernel

/-! ### RandomBudgetManager  (skactiveml/stream/budgetmanager/_estimated_budget_zliobaite.py)
attributes: 0=random_state 1=w 2=budget 3=random_state_ 4=budget_ 5=u_t_
keys: 0=* -/
-- RandomBudgetManager.query_by_utility: locals 0=$t14 1=i 2=$t10 3=$ret6 4=random_state@check_random_state6
def RandomBudgetManager_query_by_utility_b0 : Prog :=
  .seq (.bind 0 (.fresh [])) (.seq (.mutate (.loc 0) [(.loc 1)]) .skip)
def RandomBudgetManager_query_by_utility_b1 : Prog :=
  .ite RandomBudgetManager_query_by_utility_b0 .skip .skip
def RandomBudgetManager_query_by_utility_b2 : Prog :=
  .seq (.bind 1 (.fresh [])) (.seq (.readAttr 4) RandomBudgetManager_query_by_utility_b1)
def RandomBudgetManager_query_by_utility_b3 : Prog :=
  .ite RandomBudgetManager_query_by_utility_b2 .skip .skip
def RandomBudgetManager_query_by_utility_b4 : Prog :=
  .seq (.bind 2 (.fresh [])) (.seq (.mutate (.loc 2) [(.loc 1)]) .skip)
def RandomBudgetManager_query_by_utility_b5 : Prog :=
  .ite RandomBudgetManager_query_by_utility_b4 .skip RandomBudgetManager_query_by_utility_b3
def RandomBudgetManager_query_by_utility_b6 : Prog :=
  .seq (.bind 1 (.fresh [])) (.seq (.readAttr 4) RandomBudgetManager_query_by_utility_b5)
def RandomBudgetManager_query_by_utility_b7 : Prog :=
  .ite RandomBudgetManager_query_by_utility_b6 .skip (.seq (.readAttr 3) .skip)
def RandomBudgetManager_query_by_utility_b8 : Prog :=
  .seq (.writeAttr 3 (.deep (.attr 0))) .skip
def RandomBudgetManager_query_by_utility_b9 : Prog :=
  .ite RandomBudgetManager_query_by_utility_b8 .skip (.seq (.readAttr 3) (.seq (.bind 4 (.alias (.attr 3))) (.seq (.bind 3 (.alias (.loc 4))) (.seq (.writeAttr 3 (.alias (.loc 3))) (.seq (.readAttr 5) (.seq (.readAttr 3) (.seq (.readAttr 3) (.seq (.readAttr 4) RandomBudgetManager_query_by_utility_b7))))))))
def RandomBudgetManager_query_by_utility_b10 : Prog :=
  .seq (.writeAttr 5 (.fresh [])) .skip
def RandomBudgetManager_query_by_utility_b11 : Prog :=
  .ite RandomBudgetManager_query_by_utility_b10 .skip RandomBudgetManager_query_by_utility_b9
def RandomBudgetManager_query_by_utility_b12 : Prog :=
  .seq (.writeAttr 4 (.alias (.attr 2))) .skip
def RandomBudgetManager_query_by_utility_b13 : Prog :=
  .seq (.writeAttr 4 (.fresh [])) .skip
def RandomBudgetManager_query_by_utility_b14 : Prog :=
  .ite RandomBudgetManager_query_by_utility_b12 RandomBudgetManager_query_by_utility_b13 (.seq (.readAttr 4) .skip)
def RandomBudgetManager_query_by_utility_b15 : Prog :=
  .ite .abort RandomBudgetManager_query_by_utility_b14 RandomBudgetManager_query_by_utility_b11
def RandomBudgetManager_query_by_utility_b16 : Prog :=
  .seq (.bind 3 (.fresh [])) (.seq (.bind 2 (.fresh [])) (.seq (.bind 0 (.fresh [])) (.seq (.bind 1 (.fresh [])) (.seq (.bind 4 (.fresh [])) RandomBudgetManager_query_by_utility_b15))))
def summary_RandomBudgetManager_query_by_utility : Summary :=
  { params := [0, 1, 2], closedAttrs := [3, 5], safeAttrs := [], body := RandomBudgetManager_query_by_utility_b16 }
theorem effects_RandomBudgetManager_query_by_utility : FrameOK summary_RandomBudgetManager_query_by_utility = true := by decide +kernel

-- RandomBudgetManager.update: locals 0=$ret13 1=random_state@check_random_state13 2=queried@update7 3=$ret6 4=random_state@check_random_state6
def RandomBudgetManager_update_b0 : Prog :=
  .seq (.readAttr 5) (.seq (.writeAttr 5 (.fresh [])) .skip)
def RandomBudgetManager_update_b1 : Prog :=
  .ite RandomBudgetManager_update_b0 .skip .skip
def RandomBudgetManager_update_b2 : Prog :=
  .seq (.readAttr 5) (.seq (.writeAttr 5 (.fresh [])) RandomBudgetManager_update_b1)
def RandomBudgetManager_update_b3 : Prog :=
  .ite RandomBudgetManager_update_b2 .skip .skip
def RandomBudgetManager_update_b4 : Prog :=
  .seq (.writeAttr 3 (.deep (.attr 0))) .skip
def RandomBudgetManager_update_b5 : Prog :=
  .ite RandomBudgetManager_update_b4 .skip (.seq (.readAttr 3) (.seq (.bind 1 (.alias (.attr 3))) (.seq (.bind 0 (.alias (.loc 1))) (.seq (.writeAttr 3 (.alias (.loc 0))) RandomBudgetManager_update_b3))))
def RandomBudgetManager_update_b6 : Prog :=
  .seq (.writeAttr 5 (.fresh [])) .skip
def RandomBudgetManager_update_b7 : Prog :=
  .ite RandomBudgetManager_update_b6 .skip RandomBudgetManager_update_b5
def RandomBudgetManager_update_b8 : Prog :=
  .seq (.writeAttr 4 (.alias (.attr 2))) .skip
def RandomBudgetManager_update_b9 : Prog :=
  .seq (.writeAttr 4 (.fresh [])) .skip
def RandomBudgetManager_update_b10 : Prog :=
  .ite RandomBudgetManager_update_b8 RandomBudgetManager_update_b9 (.seq (.readAttr 4) .skip)
def RandomBudgetManager_update_b11 : Prog :=
  .ite .abort RandomBudgetManager_update_b10 RandomBudgetManager_update_b7
def RandomBudgetManager_update_b12 : Prog :=
  .seq (.writeAttr 3 (.deep (.attr 0))) .skip
def RandomBudgetManager_update_b13 : Prog :=
  .ite RandomBudgetManager_update_b12 .skip (.seq (.readAttr 3) (.seq (.bind 4 (.alias (.attr 3))) (.seq (.bind 3 (.alias (.loc 4))) (.seq (.writeAttr 3 (.alias (.loc 3))) (.seq (.readAttr 3) (.seq (.bind 2 (.fresh [])) (.seq (.mutate (.loc 2) []) RandomBudgetManager_update_b11)))))))
def RandomBudgetManager_update_b14 : Prog :=
  .seq (.writeAttr 5 (.fresh [])) .skip
def RandomBudgetManager_update_b15 : Prog :=
  .ite RandomBudgetManager_update_b14 .skip RandomBudgetManager_update_b13
def RandomBudgetManager_update_b16 : Prog :=
  .seq (.writeAttr 4 (.alias (.attr 2))) .skip
def RandomBudgetManager_update_b17 : Prog :=
  .seq (.writeAttr 4 (.fresh [])) .skip
def RandomBudgetManager_update_b18 : Prog :=
  .ite RandomBudgetManager_update_b16 RandomBudgetManager_update_b17 (.seq (.readAttr 4) .skip)
def RandomBudgetManager_update_b19 : Prog :=
  .ite .abort RandomBudgetManager_update_b18 RandomBudgetManager_update_b15
def RandomBudgetManager_update_b20 : Prog :=
  .seq (.bind 0 (.fresh [])) (.seq (.bind 3 (.fresh [])) (.seq (.bind 2 (.fresh [])) (.seq (.bind 1 (.fresh [])) (.seq (.bind 4 (.fresh [])) RandomBudgetManager_update_b19))))
def summary_RandomBudgetManager_update : Summary :=
  { params := [0, 1, 2], closedAttrs := [3, 5], safeAttrs := [], body := RandomBudgetManager_update_b20 }
theorem effects_RandomBudgetManager_update : FrameOK summary_RandomBudgetManager_update = true := by decide +kernel

/-! ### IntervalEstimationAnnotModel  (skactiveml/pool/multiannotator/_interval_estimation_threshold.py)
attributes: 0=classes 1=missing_label 2=alpha 3=mode 4=random_state 5=A_perf_ 6=n_annotators_
keys: 0=* 1=shape 2=1 -/
-- IntervalEstimationAnnotModel.fit: locals 0=mean 1=t_value 2=y
def IntervalEstimationAnnotModel_fit_b0 : Prog :=
  .seq (.bind 0 (.fresh [])) (.seq (.bind 1 (.fresh [])) (.seq (.mutate (.loc 1) []) (.seq (.readAttr 5) (.seq (.mutate (.attr 5) []) (.seq (.readAttr 5) (.seq (.mutate (.attr 5) [(.loc 0)]) (.seq (.readAttr 5) (.seq (.mutate (.attr 5) []) .skip))))))))
def IntervalEstimationAnnotModel_fit_b1 : Prog :=
  .ite IntervalEstimationAnnotModel_fit_b0 .skip .skip
def IntervalEstimationAnnotModel_fit_b2 : Prog :=
  .seq (.bind 0 (.fresh [])) (.seq (.bind 1 (.fresh [])) (.seq (.mutate (.loc 1) []) (.seq (.readAttr 5) (.seq (.mutate (.attr 5) []) (.seq (.readAttr 5) (.seq (.mutate (.attr 5) [(.loc 0)]) (.seq (.readAttr 5) (.seq (.mutate (.attr 5) []) IntervalEstimationAnnotModel_fit_b1))))))))
def IntervalEstimationAnnotModel_fit_b3 : Prog :=
  .ite IntervalEstimationAnnotModel_fit_b2 .skip .skip
def IntervalEstimationAnnotModel_fit_b4 : Prog :=
  .seq (.writeAttr 6 (.alias (.sub (.sub (.loc 2) 1) 2))) (.seq (.readAttr 6) (.seq (.writeAttr 5 (.fresh [])) (.seq (.readAttr 6) IntervalEstimationAnnotModel_fit_b3)))
def IntervalEstimationAnnotModel_fit_b5 : Prog :=
  .ite .abort IntervalEstimationAnnotModel_fit_b4 .skip
def IntervalEstimationAnnotModel_fit_b6 : Prog :=
  .ite .abort IntervalEstimationAnnotModel_fit_b5 .skip
def IntervalEstimationAnnotModel_fit_b7 : Prog :=
  .seq (.bind 0 (.fresh [])) (.seq (.bind 1 (.fresh [])) IntervalEstimationAnnotModel_fit_b6)
def summary_IntervalEstimationAnnotModel_fit : Summary :=
  { params := [0, 1, 2, 3, 4], closedAttrs := [5], safeAttrs := [], body := IntervalEstimationAnnotModel_fit_b7 }
theorem effects_IntervalEstimationAnnotModel_fit : FrameOK summary_IntervalEstimationAnnotModel_fit = true := by decide +kernel
theorem fit_IntervalEstimationAnnotModel_historyFree : HistoryFree summary_IntervalEstimationAnnotModel_fit = true := by decide +kernel

-- IntervalEstimationAnnotModel.predict_annotator_perf: locals 
def IntervalEstimationAnnotModel_predict_annotator_perf_b0 : Prog :=
  .seq (.readAttr 5) .skip
def summary_IntervalEstimationAnnotModel_predict_annotator_perf : Summary :=
  { params := [0, 1, 2, 3, 4], closedAttrs := [5], safeAttrs := [], body := IntervalEstimationAnnotModel_predict_annotator_perf_b0 }
theorem effects_IntervalEstimationAnnotModel_predict_annotator_perf : FrameOK summary_IntervalEstimationAnnotModel_predict_annotator_perf = true := by decide +kernel
theorem pure_IntervalEstimationAnnotModel_predict_annotator_perf : pureReader summary_IntervalEstimationAnnotModel_predict_annotator_perf.body = true := by decide +kernel

end Ska.Gen.C13
