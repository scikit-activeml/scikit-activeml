import SkaModel.Core.Rng

/-! GENERATED by `harness/translate` from the current source tree — do not edit.
Property C06; one summary per class and public method, one `decide`d obligation each. -/

namespace Ska.Gen.C06
open Ska.Rng

/-! ### RandomSampling  (skactiveml/pool/_random_sampling.py) -/
def rng_RandomSampling_query : List Src := []
theorem rng_RandomSampling_query_noGlobal : NoGlobal rng_RandomSampling_query = true := by decide +kernel

/-! ### ProbabilisticAL  (skactiveml/pool/_probabilistic_al.py) -/
def rng_ProbabilisticAL_query : List Src := []
theorem rng_ProbabilisticAL_query_noGlobal : NoGlobal rng_ProbabilisticAL_query = true := by decide +kernel

/-! ### UncertaintySampling  (skactiveml/pool/_uncertainty_sampling.py) -/
def rng_UncertaintySampling_query : List Src := []
theorem rng_UncertaintySampling_query_noGlobal : NoGlobal rng_UncertaintySampling_query = true := by decide +kernel

/-! ### EpistemicUncertaintySampling  (skactiveml/pool/_epistemic_uncertainty_sampling.py) -/
def rng_EpistemicUncertaintySampling_query : List Src := []
theorem rng_EpistemicUncertaintySampling_query_noGlobal : NoGlobal rng_EpistemicUncertaintySampling_query = true := by decide +kernel

/-! ### MonteCarloEER  (skactiveml/pool/_expected_error_reduction.py) -/
def rng_MonteCarloEER_query : List Src := []
theorem rng_MonteCarloEER_query_noGlobal : NoGlobal rng_MonteCarloEER_query = true := by decide +kernel

/-! ### ValueOfInformationEER  (skactiveml/pool/_expected_error_reduction.py) -/
def rng_ValueOfInformationEER_query : List Src := []
theorem rng_ValueOfInformationEER_query_noGlobal : NoGlobal rng_ValueOfInformationEER_query = true := by decide +kernel

/-! ### QueryByCommittee  (skactiveml/pool/_query_by_committee.py) -/
-- own       skactiveml/pool/_query_by_committee.py:208  _check_ensemble(ensemble=ensemble, X=X, y=y, sample_weight=sample_weight, fit_ensemble=fit_ensemble,
-- derived   skactiveml/pool/_query_by_committee.py:499  dict(sample_predictions_dict, random_state=copy.deepcopy(random_state).randint(2 ** 31 - 1))
-- derived   skactiveml/pool/_query_by_committee.py:501  copy.deepcopy(random_state).randint(2 ** 31 - 1)
-- derived   skactiveml/pool/_query_by_committee.py:499  dict(sample_predictions_dict, random_state=copy.deepcopy(random_state).randint(2 ** 31 - 1))
-- derived   skactiveml/pool/_query_by_committee.py:501  copy.deepcopy(random_state).randint(2 ** 31 - 1)
-- derived   skactiveml/pool/_query_by_committee.py:235  sample_func(X_cand, **sample_dict)  [random_state put into the kwargs from the own generator]
-- derived   skactiveml/pool/_query_by_committee.py:243  sample_func(X_cand, **sample_dict)  [random_state put into the kwargs from the own generator]
-- derived   skactiveml/pool/_query_by_committee.py:255  sample_func(X_cand, **sample_dict)  [random_state put into the kwargs from the own generator]
def rng_QueryByCommittee_query : List Src := [.own, .derived, .derived, .derived, .derived, .derived, .derived, .derived]
theorem rng_QueryByCommittee_query_noGlobal : NoGlobal rng_QueryByCommittee_query = true := by decide +kernel

/-! ### Quire  (skactiveml/pool/_quire.py) -/
def rng_Quire_query : List Src := []
theorem rng_Quire_query_noGlobal : NoGlobal rng_Quire_query = true := by decide +kernel

/-! ### FourDs  (skactiveml/pool/_four_ds.py) -/
def rng_FourDs_query : List Src := []
theorem rng_FourDs_query_noGlobal : NoGlobal rng_FourDs_query = true := by decide +kernel

/-! ### CostEmbeddingAL  (skactiveml/pool/_cost_embedding_al.py) -/
-- derived   skactiveml/pool/_cost_embedding_al.py:785  [via MDSP.fit of a helper object] smacof_p(self.dissimilarity_matrix_, self.n_uq, metric=self.metric
-- derived   skactiveml/pool/_cost_embedding_al.py:613  [via MDSP.fit of a helper object] _smacof_single_p(similarities, n_uq, metric=metric, n_components=n
-- derived   skactiveml/pool/_cost_embedding_al.py:613  [via MDSP.fit of a helper object] _smacof_single_p(similarities, n_uq, metric=metric, n_components=n
-- derived   skactiveml/pool/_cost_embedding_al.py:631  [via MDSP.fit of a helper object] delayed(_smacof_single_p)(similarities, n_uq, metric=metric, n_com
def rng_CostEmbeddingAL_query : List Src := [.derived, .derived, .derived, .derived]
theorem rng_CostEmbeddingAL_query_noGlobal : NoGlobal rng_CostEmbeddingAL_query = true := by decide +kernel

/-! ### ExpectedModelChangeMaximization  (skactiveml/pool/_expected_model_change_maximization.py) -/
-- own       skactiveml/pool/_expected_model_change_maximization.py:161  _bootstrap_estimators(reg, X, y, bootstrap_size=self.bootstrap_size, n_train=self.n_train, sample_we
def rng_ExpectedModelChangeMaximization_query : List Src := [.own]
theorem rng_ExpectedModelChangeMaximization_query_noGlobal : NoGlobal rng_ExpectedModelChangeMaximization_query = true := by decide +kernel

/-! ### ExpectedModelOutputChange  (skactiveml/pool/_expected_model_output_change.py) -/
-- own       skactiveml/pool/_expected_model_output_change.py:191  _conditional_expect(X_cand, _model_output_change, reg, random_state=self.random_state_, **integratio
-- derived   skactiveml/pool/utils.py:1085  reg.sample_y(X=X, n_samples=n_integration_samples, random_state=random_state)
-- own       skactiveml/pool/_expected_model_output_change.py:205  simple_batch(utilities, batch_size=batch_size, random_state=self.random_state_, return_utilities=ret
def rng_ExpectedModelOutputChange_query : List Src := [.own, .derived, .own]
theorem rng_ExpectedModelOutputChange_query_noGlobal : NoGlobal rng_ExpectedModelOutputChange_query = true := by decide +kernel

/-! ### ExpectedModelVarianceReduction  (skactiveml/pool/_expected_model_variance.py) -/
-- own       skactiveml/pool/_expected_model_variance.py:160  _conditional_expect(X_cand, new_model_variance, reg, random_state=self.random_state_, **integration_
-- derived   skactiveml/pool/utils.py:1085  reg.sample_y(X=X, n_samples=n_integration_samples, random_state=random_state)
-- own       skactiveml/pool/_expected_model_variance.py:176  simple_batch(utilities, batch_size=batch_size, random_state=self.random_state_, return_utilities=ret
def rng_ExpectedModelVarianceReduction_query : List Src := [.own, .derived, .own]
theorem rng_ExpectedModelVarianceReduction_query_noGlobal : NoGlobal rng_ExpectedModelVarianceReduction_query = true := by decide +kernel

/-! ### KLDivergenceMaximization  (skactiveml/pool/_information_gain_maximization.py) -/
-- own       skactiveml/pool/_information_gain_maximization.py:253  _cross_entropy(X_eval, reg_new, reg, integration_dict=dict_cross_entropy, random_state=self.random_s
-- derived   skactiveml/pool/utils.py:677  expected_target_val(X_eval, dist.logpdf, reg=true_reg, random_state=random_state, **integration_dict
-- own       skactiveml/pool/_information_gain_maximization.py:263  _conditional_expect(X_cand, new_kl_divergence, reg, random_state=self.random_state_, **dict_target_v
-- derived   skactiveml/pool/utils.py:1085  reg.sample_y(X=X, n_samples=n_integration_samples, random_state=random_state)
def rng_KLDivergenceMaximization_query : List Src := [.own, .derived, .own, .derived]
theorem rng_KLDivergenceMaximization_query_noGlobal : NoGlobal rng_KLDivergenceMaximization_query = true := by decide +kernel

/-! ### GreedySamplingX  (skactiveml/pool/_greedy_sampling.py) -/
-- own       skactiveml/pool/_greedy_sampling.py:125  _greedy_sampling(X_cand, X_all, sample_indices, selected_indices, candidate_indices, batch_size, ran
-- own       skactiveml/pool/_greedy_sampling.py:424  rand_argmax(util, random_state=random_state)
-- own       skactiveml/pool/_greedy_sampling.py:424  rand_argmax(util, random_state=random_state)
def rng_GreedySamplingX_query : List Src := [.own, .own, .own]
theorem rng_GreedySamplingX_query_noGlobal : NoGlobal rng_GreedySamplingX_query = true := by decide +kernel

/-! ### GreedySamplingTarget  (skactiveml/pool/_greedy_sampling.py) -/
-- own       skactiveml/pool/_greedy_sampling.py:319  _greedy_sampling(X_cand=X_cand, y_cand=y_cand, X=X_all, y=y_all, sample_indices=sample_indices, sele
-- own       skactiveml/pool/_greedy_sampling.py:424  rand_argmax(util, random_state=random_state)
-- own       skactiveml/pool/_greedy_sampling.py:424  rand_argmax(util, random_state=random_state)
-- own       skactiveml/pool/_greedy_sampling.py:352  _greedy_sampling(X_cand=X_cand, y_cand=y_cand, X=X_all, y=y_all, sample_indices=sample_indices, sele
-- own       skactiveml/pool/_greedy_sampling.py:424  rand_argmax(util, random_state=random_state)
-- own       skactiveml/pool/_greedy_sampling.py:424  rand_argmax(util, random_state=random_state)
def rng_GreedySamplingTarget_query : List Src := [.own, .own, .own, .own, .own, .own]
theorem rng_GreedySamplingTarget_query_noGlobal : NoGlobal rng_GreedySamplingTarget_query = true := by decide +kernel

/-! ### DiscriminativeAL  (skactiveml/pool/_discriminative_al.py) -/
def rng_DiscriminativeAL_query : List Src := []
theorem rng_DiscriminativeAL_query_noGlobal : NoGlobal rng_DiscriminativeAL_query = true := by decide +kernel

/-! ### BatchBALD  (skactiveml/pool/_bald.py) -/
-- own       skactiveml/pool/_bald.py:191  _check_ensemble(ensemble=ensemble, X=X, y=y, sample_weight=sample_weight, fit_ensemble=fit_ensemble,
-- derived   skactiveml/pool/_query_by_committee.py:499  dict(sample_predictions_dict, random_state=copy.deepcopy(random_state).randint(2 ** 31 - 1))
-- derived   skactiveml/pool/_query_by_committee.py:501  copy.deepcopy(random_state).randint(2 ** 31 - 1)
-- derived   skactiveml/pool/_query_by_committee.py:499  dict(sample_predictions_dict, random_state=copy.deepcopy(random_state).randint(2 ** 31 - 1))
-- derived   skactiveml/pool/_query_by_committee.py:501  copy.deepcopy(random_state).randint(2 ** 31 - 1)
-- derived   skactiveml/pool/_bald.py:207  sample_func(X_cand, **sample_dict)  [random_state put into the kwargs from the own generator]
-- own       skactiveml/pool/_bald.py:216  batch_bald(probas=probas, batch_size=utils_batch_size, n_MC_samples=n_MC_samples_, eps=self.eps, ran
-- seededArg skactiveml/pool/_bald.py:483  rand_argmax(utilities[i], random_state=0)
-- seededArg skactiveml/pool/_bald.py:483  rand_argmax(utilities[i], random_state=0)
-- seededArg skactiveml/pool/_bald.py:242  rand_argmax(utilities_cand, random_state=0)
def rng_BatchBALD_query : List Src := [.own, .derived, .derived, .derived, .derived, .derived, .own, .seededArg, .seededArg, .seededArg]
theorem rng_BatchBALD_query_noGlobal : NoGlobal rng_BatchBALD_query = true := by decide +kernel

/-! ### Clue  (skactiveml/pool/_clue.py) -/
-- derived   skactiveml/pool/_clue.py:198  deepcopy(self.random_state_).randint(2 ** 31 - 1)
-- derived   skactiveml/pool/_clue.py:201  self.cluster_algo(**cluster_algo_dict)  [random_state put into the kwargs from the own generator]
-- own       skactiveml/pool/_clue.py:213  rand_argmax(utilities[b], random_state=self.random_state_)
-- own       skactiveml/pool/_clue.py:213  rand_argmax(utilities[b], random_state=self.random_state_)
def rng_Clue_query : List Src := [.derived, .derived, .own, .own]
theorem rng_Clue_query_noGlobal : NoGlobal rng_Clue_query = true := by decide +kernel

/-! ### DropQuery  (skactiveml/pool/_drop_query.py) -/
-- own       skactiveml/pool/_drop_query.py:206  self.random_state_.choice([True, False], size=X_dropout.shape, p=[self.dropout_rate, 1 - self.dropou
-- own       skactiveml/pool/_drop_query.py:206  self.random_state_.choice([True, False], size=X_dropout.shape, p=[self.dropout_rate, 1 - self.dropou
-- derived   skactiveml/pool/_drop_query.py:234  deepcopy(self.random_state_).randint(2 ** 31 - 1)
-- derived   skactiveml/pool/_drop_query.py:237  self.cluster_algo(**cluster_algo_dict)  [random_state put into the kwargs from the own generator]
-- own       skactiveml/pool/_drop_query.py:248  rand_argmax(utilities[b], random_state=self.random_state_)
-- own       skactiveml/pool/_drop_query.py:248  rand_argmax(utilities[b], random_state=self.random_state_)
def rng_DropQuery_query : List Src := [.own, .own, .derived, .derived, .own, .own]
theorem rng_DropQuery_query_noGlobal : NoGlobal rng_DropQuery_query = true := by decide +kernel

/-! ### CoreSet  (skactiveml/pool/_core_set.py) -/
-- derived   skactiveml/pool/_core_set.py:264  rand_argmax(utilities[i], random_state=random_state_)
-- derived   skactiveml/pool/_core_set.py:264  rand_argmax(utilities[i], random_state=random_state_)
-- derived   skactiveml/pool/_core_set.py:264  rand_argmax(utilities[i], random_state=random_state_)
-- derived   skactiveml/pool/_core_set.py:264  rand_argmax(utilities[i], random_state=random_state_)
def rng_CoreSet_query : List Src := [.derived, .derived, .derived, .derived]
theorem rng_CoreSet_query_noGlobal : NoGlobal rng_CoreSet_query = true := by decide +kernel

/-! ### TypiClust  (skactiveml/pool/_typi_clust.py) -/
-- derived   skactiveml/pool/_typi_clust.py:152  deepcopy(self.random_state_).randint(2 ** 31 - 1)
-- derived   skactiveml/pool/_typi_clust.py:155  self.cluster_algo(**cluster_algo_dict)  [random_state put into the kwargs from the own generator]
-- own       skactiveml/pool/_typi_clust.py:178  rand_argmax(cluster_sizes, random_state=self.random_state_)
-- own       skactiveml/pool/_typi_clust.py:186  rand_argmax(utilities[i, mapping], random_state=self.random_state_)
-- own       skactiveml/pool/_typi_clust.py:178  rand_argmax(cluster_sizes, random_state=self.random_state_)
-- own       skactiveml/pool/_typi_clust.py:186  rand_argmax(utilities[i, mapping], random_state=self.random_state_)
def rng_TypiClust_query : List Src := [.derived, .derived, .own, .own, .own, .own]
theorem rng_TypiClust_query_noGlobal : NoGlobal rng_TypiClust_query = true := by decide +kernel

/-! ### Badge  (skactiveml/pool/_badge.py) -/
-- own       skactiveml/pool/_badge.py:218  self.random_state_.choice(len(d_probas), 1, replace=False, p=d_probas)
-- own       skactiveml/pool/_badge.py:218  self.random_state_.choice(len(d_probas), 1, replace=False, p=d_probas)
def rng_Badge_query : List Src := [.own, .own]
theorem rng_Badge_query_noGlobal : NoGlobal rng_Badge_query = true := by decide +kernel

/-! ### ProbCover  (skactiveml/pool/_prob_cover.py) -/
-- derived   skactiveml/pool/_prob_cover.py:206  deepcopy(self.random_state_).randint(2 ** 31 - 1)
-- derived   skactiveml/pool/_prob_cover.py:209  self.cluster_algo(**cluster_algo_dict)  [random_state put into the kwargs from the own generator]
-- own       skactiveml/pool/_prob_cover.py:241  rand_argmax(utilities[b], random_state=self.random_state_)
-- own       skactiveml/pool/_prob_cover.py:241  rand_argmax(utilities[b], random_state=self.random_state_)
def rng_ProbCover_query : List Src := [.derived, .derived, .own, .own]
theorem rng_ProbCover_query_noGlobal : NoGlobal rng_ProbCover_query = true := by decide +kernel

/-! ### ContrastiveAL  (skactiveml/pool/_contrastive_al.py) -/
def rng_ContrastiveAL_query : List Src := []
theorem rng_ContrastiveAL_query_noGlobal : NoGlobal rng_ContrastiveAL_query = true := by decide +kernel

/-! ### GreedyBALD  (skactiveml/pool/_bald.py) -/
-- own       skactiveml/pool/_bald.py:191  _check_ensemble(ensemble=ensemble, X=X, y=y, sample_weight=sample_weight, fit_ensemble=fit_ensemble,
-- derived   skactiveml/pool/_query_by_committee.py:499  dict(sample_predictions_dict, random_state=copy.deepcopy(random_state).randint(2 ** 31 - 1))
-- derived   skactiveml/pool/_query_by_committee.py:501  copy.deepcopy(random_state).randint(2 ** 31 - 1)
-- derived   skactiveml/pool/_query_by_committee.py:499  dict(sample_predictions_dict, random_state=copy.deepcopy(random_state).randint(2 ** 31 - 1))
-- derived   skactiveml/pool/_query_by_committee.py:501  copy.deepcopy(random_state).randint(2 ** 31 - 1)
-- derived   skactiveml/pool/_bald.py:207  sample_func(X_cand, **sample_dict)  [random_state put into the kwargs from the own generator]
-- own       skactiveml/pool/_bald.py:216  batch_bald(probas=probas, batch_size=utils_batch_size, n_MC_samples=n_MC_samples_, eps=self.eps, ran
-- seededArg skactiveml/pool/_bald.py:483  rand_argmax(utilities[i], random_state=0)
-- seededArg skactiveml/pool/_bald.py:483  rand_argmax(utilities[i], random_state=0)
-- seededArg skactiveml/pool/_bald.py:242  rand_argmax(utilities_cand, random_state=0)
def rng_GreedyBALD_query : List Src := [.own, .derived, .derived, .derived, .derived, .derived, .own, .seededArg, .seededArg, .seededArg]
theorem rng_GreedyBALD_query_noGlobal : NoGlobal rng_GreedyBALD_query = true := by decide +kernel

/-! ### RegressionTreeBasedAL  (skactiveml/pool/_regression_tree_based_al.py) -/
-- own       skactiveml/pool/_regression_tree_based_al.py:368  random_state.choice(leaf_indices, p=n_k_rest / rest_size, size=batch_size - np.sum(np.round(n_k_disc
-- own       skactiveml/pool/_regression_tree_based_al.py:231  rand_argmax(batch_utilities_cand[len(query_indices)], random_state=self.random_state_)
-- own       skactiveml/pool/_regression_tree_based_al.py:231  rand_argmax(batch_utilities_cand[len(query_indices)], random_state=self.random_state_)
-- own       skactiveml/pool/_regression_tree_based_al.py:231  rand_argmax(batch_utilities_cand[len(query_indices)], random_state=self.random_state_)
-- own       skactiveml/pool/_regression_tree_based_al.py:231  rand_argmax(batch_utilities_cand[len(query_indices)], random_state=self.random_state_)
-- own       skactiveml/pool/_regression_tree_based_al.py:262  rand_argmax(batch_utilities_cand[len(query_indices)], random_state=self.random_state_)
-- own       skactiveml/pool/_regression_tree_based_al.py:262  rand_argmax(batch_utilities_cand[len(query_indices)], random_state=self.random_state_)
-- own       skactiveml/pool/_regression_tree_based_al.py:262  rand_argmax(batch_utilities_cand[len(query_indices)], random_state=self.random_state_)
-- own       skactiveml/pool/_regression_tree_based_al.py:262  rand_argmax(batch_utilities_cand[len(query_indices)], random_state=self.random_state_)
-- own       skactiveml/pool/_regression_tree_based_al.py:274  KMeans(n_k_discrete[leaf], random_state=self.random_state_)
-- own       skactiveml/pool/_regression_tree_based_al.py:274  KMeans(n_k_discrete[leaf], random_state=self.random_state_)
-- own       skactiveml/pool/_regression_tree_based_al.py:316  rand_argmax(batch_utilities_cand[l_idx], random_state=self.random_state_)
-- own       skactiveml/pool/_regression_tree_based_al.py:316  rand_argmax(batch_utilities_cand[l_idx], random_state=self.random_state_)
-- own       skactiveml/pool/_regression_tree_based_al.py:316  rand_argmax(batch_utilities_cand[l_idx], random_state=self.random_state_)
-- own       skactiveml/pool/_regression_tree_based_al.py:316  rand_argmax(batch_utilities_cand[l_idx], random_state=self.random_state_)
def rng_RegressionTreeBasedAL_query : List Src := [.own, .own, .own, .own, .own, .own, .own, .own, .own, .own, .own, .own, .own, .own, .own]
theorem rng_RegressionTreeBasedAL_query_noGlobal : NoGlobal rng_RegressionTreeBasedAL_query = true := by decide +kernel

/-! ### SubSamplingWrapper  (skactiveml/pool/_wrapper.py) -/
-- derived   skactiveml/pool/_wrapper.py:180  random_state.choice(a=candidate_indices, size=max_candidates, replace=False)
-- derived   skactiveml/pool/_wrapper.py:192  random_state.choice(a=candidates, size=max_candidates, replace=False)
-- derived   skactiveml/pool/_wrapper.py:198  random_state.choice(a=candidate_indices, size=max_candidates, replace=False)
def rng_SubSamplingWrapper_query : List Src := [.derived, .derived, .derived]
theorem rng_SubSamplingWrapper_query_noGlobal : NoGlobal rng_SubSamplingWrapper_query = true := by decide +kernel

/-! ### ParallelUtilityEstimationWrapper  (skactiveml/pool/_wrapper.py) -/
def rng_ParallelUtilityEstimationWrapper_query : List Src := []
theorem rng_ParallelUtilityEstimationWrapper_query_noGlobal : NoGlobal rng_ParallelUtilityEstimationWrapper_query = true := by decide +kernel

/-! ### Falcun  (skactiveml/pool/_falcun.py) -/
-- own       skactiveml/pool/_falcun.py:180  self.random_state_.choice(cand_indices, p=rel_cand, size=1)
-- own       skactiveml/pool/_falcun.py:180  self.random_state_.choice(cand_indices, p=rel_cand, size=1)
def rng_Falcun_query : List Src := [.own, .own]
theorem rng_Falcun_query_noGlobal : NoGlobal rng_Falcun_query = true := by decide +kernel

/-! ### IntervalEstimationThreshold  (skactiveml/pool/multiannotator/_interval_estimation_threshold.py) -/
-- own       skactiveml/pool/multiannotator/_interval_estimation_threshold.py:371  IntervalEstimationAnnotModel(classes=clf.classes_, missing_label=clf.missing_label, alpha=self.alpha
-- derived   skactiveml/pool/multiannotator/_interval_estimation_threshold.py:117  [via IntervalEstimationAnnotModel.fit of a helper object] majority_vote(y=y, w=sample_weight, classe
def rng_IntervalEstimationThreshold_query : List Src := [.own, .derived]
theorem rng_IntervalEstimationThreshold_query_noGlobal : NoGlobal rng_IntervalEstimationThreshold_query = true := by decide +kernel

/-! ### IntervalEstimationAnnotModel  (skactiveml/pool/multiannotator/_interval_estimation_threshold.py) -/
-- derived   skactiveml/pool/multiannotator/_interval_estimation_threshold.py:117  majority_vote(y=y, w=sample_weight, classes=self.classes, random_state=self.random_state, missing_la
def rng_IntervalEstimationAnnotModel_fit : List Src := [.derived]
theorem rng_IntervalEstimationAnnotModel_fit_noGlobal : NoGlobal rng_IntervalEstimationAnnotModel_fit = true := by decide +kernel

def rng_IntervalEstimationAnnotModel_predict_annotator_perf : List Src := []
theorem rng_IntervalEstimationAnnotModel_predict_annotator_perf_noGlobal : NoGlobal rng_IntervalEstimationAnnotModel_predict_annotator_perf = true := by decide +kernel

/-! ### SingleAnnotatorWrapper  (skactiveml/pool/multiannotator/_wrapper.py) -/
-- derived   skactiveml/pool/multiannotator/_wrapper.py:229  majority_vote(y, missing_label=self.missing_label_, random_state=random_state)
-- derived   skactiveml/pool/multiannotator/_wrapper.py:229  majority_vote(y, missing_label=self.missing_label_, random_state=random_state)
-- own       skactiveml/pool/multiannotator/_wrapper.py:309  random_state.rand(1, n_selectable_candidates, n_annotators)
-- own       skactiveml/pool/multiannotator/_wrapper.py:425  rand_argmax(utilities[batch_index], random_state=random_state)
-- own       skactiveml/pool/multiannotator/_wrapper.py:425  rand_argmax(utilities[batch_index], random_state=random_state)
def rng_SingleAnnotatorWrapper_query : List Src := [.derived, .derived, .own, .own, .own]
theorem rng_SingleAnnotatorWrapper_query_noGlobal : NoGlobal rng_SingleAnnotatorWrapper_query = true := by decide +kernel

/-! ### StreamRandomSampling  (skactiveml/stream/_stream_baselines.py) -/
-- own       skactiveml/stream/_stream_baselines.py:72  self.random_state_.random_sample(len(candidates))
def rng_StreamRandomSampling_query : List Src := [.own]
theorem rng_StreamRandomSampling_query_noGlobal : NoGlobal rng_StreamRandomSampling_query = true := by decide +kernel

-- own       skactiveml/stream/_stream_baselines.py:133  self.random_state_.random_sample(len(candidates))
def rng_StreamRandomSampling_update : List Src := [.own]
theorem rng_StreamRandomSampling_update_noGlobal : NoGlobal rng_StreamRandomSampling_update = true := by decide +kernel

/-! ### PeriodicSampling  (skactiveml/stream/_stream_baselines.py) -/
def rng_PeriodicSampling_query : List Src := []
theorem rng_PeriodicSampling_query_noGlobal : NoGlobal rng_PeriodicSampling_query = true := by decide +kernel

def rng_PeriodicSampling_update : List Src := []
theorem rng_PeriodicSampling_update_noGlobal : NoGlobal rng_PeriodicSampling_update = true := by decide +kernel

/-! ### FixedUncertainty  (skactiveml/stream/_uncertainty_zliobaite.py) -/
-- derived   skactiveml/stream/_uncertainty_zliobaite.py:281  deepcopy(self.random_state_).randint(2 ** 31 - 1)
def rng_FixedUncertainty_query : List Src := [.derived]
theorem rng_FixedUncertainty_query_noGlobal : NoGlobal rng_FixedUncertainty_query = true := by decide +kernel

-- derived   skactiveml/stream/_uncertainty_zliobaite.py:177  deepcopy(self.random_state_).randint(2 ** 31 - 1)
def rng_FixedUncertainty_update : List Src := [.derived]
theorem rng_FixedUncertainty_update_noGlobal : NoGlobal rng_FixedUncertainty_update = true := by decide +kernel

/-! ### VariableUncertainty  (skactiveml/stream/_uncertainty_zliobaite.py) -/
-- derived   skactiveml/stream/_uncertainty_zliobaite.py:281  deepcopy(self.random_state_).randint(2 ** 31 - 1)
def rng_VariableUncertainty_query : List Src := [.derived]
theorem rng_VariableUncertainty_query_noGlobal : NoGlobal rng_VariableUncertainty_query = true := by decide +kernel

-- derived   skactiveml/stream/_uncertainty_zliobaite.py:177  deepcopy(self.random_state_).randint(2 ** 31 - 1)
def rng_VariableUncertainty_update : List Src := [.derived]
theorem rng_VariableUncertainty_update_noGlobal : NoGlobal rng_VariableUncertainty_update = true := by decide +kernel

/-! ### Split  (skactiveml/stream/_uncertainty_zliobaite.py) -/
-- derived   skactiveml/stream/_uncertainty_zliobaite.py:281  deepcopy(self.random_state_).randint(2 ** 31 - 1)
def rng_Split_query : List Src := [.derived]
theorem rng_Split_query_noGlobal : NoGlobal rng_Split_query = true := by decide +kernel

-- derived   skactiveml/stream/_uncertainty_zliobaite.py:177  deepcopy(self.random_state_).randint(2 ** 31 - 1)
def rng_Split_update : List Src := [.derived]
theorem rng_Split_update_noGlobal : NoGlobal rng_Split_update = true := by decide +kernel

/-! ### StreamProbabilisticAL  (skactiveml/stream/_stream_probabilistic_al.py) -/
def rng_StreamProbabilisticAL_query : List Src := []
theorem rng_StreamProbabilisticAL_query_noGlobal : NoGlobal rng_StreamProbabilisticAL_query = true := by decide +kernel

def rng_StreamProbabilisticAL_update : List Src := []
theorem rng_StreamProbabilisticAL_update_noGlobal : NoGlobal rng_StreamProbabilisticAL_update = true := by decide +kernel

/-! ### RandomVariableUncertainty  (skactiveml/stream/_uncertainty_zliobaite.py) -/
-- derived   skactiveml/stream/_uncertainty_zliobaite.py:281  deepcopy(self.random_state_).randint(2 ** 31 - 1)
def rng_RandomVariableUncertainty_query : List Src := [.derived]
theorem rng_RandomVariableUncertainty_query_noGlobal : NoGlobal rng_RandomVariableUncertainty_query = true := by decide +kernel

-- derived   skactiveml/stream/_uncertainty_zliobaite.py:177  deepcopy(self.random_state_).randint(2 ** 31 - 1)
def rng_RandomVariableUncertainty_update : List Src := [.derived]
theorem rng_RandomVariableUncertainty_update_noGlobal : NoGlobal rng_RandomVariableUncertainty_update = true := by decide +kernel

/-! ### StreamDensityBasedAL  (skactiveml/stream/_density_uncertainty.py) -/
-- derived   skactiveml/stream/_density_uncertainty.py:372  deepcopy(self.random_state_).randint(2 ** 31 - 1)
def rng_StreamDensityBasedAL_query : List Src := [.derived]
theorem rng_StreamDensityBasedAL_query_noGlobal : NoGlobal rng_StreamDensityBasedAL_query = true := by decide +kernel

-- derived   skactiveml/stream/_density_uncertainty.py:221  deepcopy(self.random_state_).randint(2 ** 31 - 1)
def rng_StreamDensityBasedAL_update : List Src := [.derived]
theorem rng_StreamDensityBasedAL_update_noGlobal : NoGlobal rng_StreamDensityBasedAL_update = true := by decide +kernel

/-! ### CognitiveDualQueryStrategy  (skactiveml/stream/_density_uncertainty.py) -/
-- derived   skactiveml/stream/_density_uncertainty.py:927  deepcopy(self.random_state_).randint(2 ** 31 - 1)
def rng_CognitiveDualQueryStrategy_query : List Src := [.derived]
theorem rng_CognitiveDualQueryStrategy_query_noGlobal : NoGlobal rng_CognitiveDualQueryStrategy_query = true := by decide +kernel

-- derived   skactiveml/stream/_density_uncertainty.py:714  deepcopy(self.random_state_).randint(2 ** 31 - 1)
def rng_CognitiveDualQueryStrategy_update : List Src := [.derived]
theorem rng_CognitiveDualQueryStrategy_update_noGlobal : NoGlobal rng_CognitiveDualQueryStrategy_update = true := by decide +kernel

/-! ### CognitiveDualQueryStrategyRan  (skactiveml/stream/_density_uncertainty.py) -/
-- derived   skactiveml/stream/_density_uncertainty.py:927  deepcopy(self.random_state_).randint(2 ** 31 - 1)
def rng_CognitiveDualQueryStrategyRan_query : List Src := [.derived]
theorem rng_CognitiveDualQueryStrategyRan_query_noGlobal : NoGlobal rng_CognitiveDualQueryStrategyRan_query = true := by decide +kernel

-- derived   skactiveml/stream/_density_uncertainty.py:714  deepcopy(self.random_state_).randint(2 ** 31 - 1)
def rng_CognitiveDualQueryStrategyRan_update : List Src := [.derived]
theorem rng_CognitiveDualQueryStrategyRan_update_noGlobal : NoGlobal rng_CognitiveDualQueryStrategyRan_update = true := by decide +kernel

/-! ### CognitiveDualQueryStrategyRanVarUn  (skactiveml/stream/_density_uncertainty.py) -/
-- derived   skactiveml/stream/_density_uncertainty.py:927  deepcopy(self.random_state_).randint(2 ** 31 - 1)
def rng_CognitiveDualQueryStrategyRanVarUn_query : List Src := [.derived]
theorem rng_CognitiveDualQueryStrategyRanVarUn_query_noGlobal : NoGlobal rng_CognitiveDualQueryStrategyRanVarUn_query = true := by decide +kernel

-- derived   skactiveml/stream/_density_uncertainty.py:714  deepcopy(self.random_state_).randint(2 ** 31 - 1)
def rng_CognitiveDualQueryStrategyRanVarUn_update : List Src := [.derived]
theorem rng_CognitiveDualQueryStrategyRanVarUn_update_noGlobal : NoGlobal rng_CognitiveDualQueryStrategyRanVarUn_update = true := by decide +kernel

/-! ### CognitiveDualQueryStrategyVarUn  (skactiveml/stream/_density_uncertainty.py) -/
-- derived   skactiveml/stream/_density_uncertainty.py:927  deepcopy(self.random_state_).randint(2 ** 31 - 1)
def rng_CognitiveDualQueryStrategyVarUn_query : List Src := [.derived]
theorem rng_CognitiveDualQueryStrategyVarUn_query_noGlobal : NoGlobal rng_CognitiveDualQueryStrategyVarUn_query = true := by decide +kernel

-- derived   skactiveml/stream/_density_uncertainty.py:714  deepcopy(self.random_state_).randint(2 ** 31 - 1)
def rng_CognitiveDualQueryStrategyVarUn_update : List Src := [.derived]
theorem rng_CognitiveDualQueryStrategyVarUn_update_noGlobal : NoGlobal rng_CognitiveDualQueryStrategyVarUn_update = true := by decide +kernel

/-! ### CognitiveDualQueryStrategyFixUn  (skactiveml/stream/_density_uncertainty.py) -/
-- derived   skactiveml/stream/_density_uncertainty.py:927  deepcopy(self.random_state_).randint(2 ** 31 - 1)
def rng_CognitiveDualQueryStrategyFixUn_query : List Src := [.derived]
theorem rng_CognitiveDualQueryStrategyFixUn_query_noGlobal : NoGlobal rng_CognitiveDualQueryStrategyFixUn_query = true := by decide +kernel

-- derived   skactiveml/stream/_density_uncertainty.py:714  deepcopy(self.random_state_).randint(2 ** 31 - 1)
def rng_CognitiveDualQueryStrategyFixUn_update : List Src := [.derived]
theorem rng_CognitiveDualQueryStrategyFixUn_update_noGlobal : NoGlobal rng_CognitiveDualQueryStrategyFixUn_update = true := by decide +kernel

/-! ### EstimatedBudgetZliobaite  (skactiveml/stream/budgetmanager/_estimated_budget_zliobaite.py) -/
def rng_EstimatedBudgetZliobaite_update : List Src := []
theorem rng_EstimatedBudgetZliobaite_update_noGlobal : NoGlobal rng_EstimatedBudgetZliobaite_update = true := by decide +kernel

def rng_EstimatedBudgetZliobaite_query_by_utility : List Src := []
theorem rng_EstimatedBudgetZliobaite_query_by_utility_noGlobal : NoGlobal rng_EstimatedBudgetZliobaite_query_by_utility = true := by decide +kernel

/-! ### FixedUncertaintyBudgetManager  (skactiveml/stream/budgetmanager/_estimated_budget_zliobaite.py) -/
def rng_FixedUncertaintyBudgetManager_query_by_utility : List Src := []
theorem rng_FixedUncertaintyBudgetManager_query_by_utility_noGlobal : NoGlobal rng_FixedUncertaintyBudgetManager_query_by_utility = true := by decide +kernel

def rng_FixedUncertaintyBudgetManager_update : List Src := []
theorem rng_FixedUncertaintyBudgetManager_update_noGlobal : NoGlobal rng_FixedUncertaintyBudgetManager_update = true := by decide +kernel

/-! ### VariableUncertaintyBudgetManager  (skactiveml/stream/budgetmanager/_estimated_budget_zliobaite.py) -/
def rng_VariableUncertaintyBudgetManager_query_by_utility : List Src := []
theorem rng_VariableUncertaintyBudgetManager_query_by_utility_noGlobal : NoGlobal rng_VariableUncertaintyBudgetManager_query_by_utility = true := by decide +kernel

def rng_VariableUncertaintyBudgetManager_update : List Src := []
theorem rng_VariableUncertaintyBudgetManager_update_noGlobal : NoGlobal rng_VariableUncertaintyBudgetManager_update = true := by decide +kernel

/-! ### SplitBudgetManager  (skactiveml/stream/budgetmanager/_estimated_budget_zliobaite.py) -/
-- own       skactiveml/stream/budgetmanager/_estimated_budget_zliobaite.py:645  self.random_state_.random_sample()
-- own       skactiveml/stream/budgetmanager/_estimated_budget_zliobaite.py:647  self.random_state_.random_sample()
-- own       skactiveml/stream/budgetmanager/_estimated_budget_zliobaite.py:645  self.random_state_.random_sample()
-- own       skactiveml/stream/budgetmanager/_estimated_budget_zliobaite.py:647  self.random_state_.random_sample()
def rng_SplitBudgetManager_query_by_utility : List Src := [.own, .own, .own, .own]
theorem rng_SplitBudgetManager_query_by_utility_noGlobal : NoGlobal rng_SplitBudgetManager_query_by_utility = true := by decide +kernel

-- own       skactiveml/stream/budgetmanager/_estimated_budget_zliobaite.py:691  self.random_state_.random_sample()
-- own       skactiveml/stream/budgetmanager/_estimated_budget_zliobaite.py:692  self.random_state_.random_sample()
-- own       skactiveml/stream/budgetmanager/_estimated_budget_zliobaite.py:691  self.random_state_.random_sample()
-- own       skactiveml/stream/budgetmanager/_estimated_budget_zliobaite.py:692  self.random_state_.random_sample()
def rng_SplitBudgetManager_update : List Src := [.own, .own, .own, .own]
theorem rng_SplitBudgetManager_update_noGlobal : NoGlobal rng_SplitBudgetManager_update = true := by decide +kernel

/-! ### BalancedIncrementalQuantileFilter  (skactiveml/stream/budgetmanager/_balanced_incremental_quantile_filter.py) -/
def rng_BalancedIncrementalQuantileFilter_query_by_utility : List Src := []
theorem rng_BalancedIncrementalQuantileFilter_query_by_utility_noGlobal : NoGlobal rng_BalancedIncrementalQuantileFilter_query_by_utility = true := by decide +kernel

def rng_BalancedIncrementalQuantileFilter_update : List Src := []
theorem rng_BalancedIncrementalQuantileFilter_update_noGlobal : NoGlobal rng_BalancedIncrementalQuantileFilter_update = true := by decide +kernel

/-! ### RandomVariableUncertaintyBudgetManager  (skactiveml/stream/budgetmanager/_estimated_budget_zliobaite.py) -/
-- own       skactiveml/stream/budgetmanager/_estimated_budget_zliobaite.py:462  self.random_state_.normal(1, self.delta)
-- own       skactiveml/stream/budgetmanager/_estimated_budget_zliobaite.py:462  self.random_state_.normal(1, self.delta)
def rng_RandomVariableUncertaintyBudgetManager_query_by_utility : List Src := [.own, .own]
theorem rng_RandomVariableUncertaintyBudgetManager_query_by_utility_noGlobal : NoGlobal rng_RandomVariableUncertaintyBudgetManager_query_by_utility = true := by decide +kernel

-- own       skactiveml/stream/budgetmanager/_estimated_budget_zliobaite.py:500  self.random_state_.random_sample(len(candidates))
def rng_RandomVariableUncertaintyBudgetManager_update : List Src := [.own]
theorem rng_RandomVariableUncertaintyBudgetManager_update_noGlobal : NoGlobal rng_RandomVariableUncertaintyBudgetManager_update = true := by decide +kernel

/-! ### DensityBasedSplitBudgetManager  (skactiveml/stream/budgetmanager/_threshold_budget.py) -/
-- own       skactiveml/stream/budgetmanager/_threshold_budget.py:97  self.random_state_.normal(1, self.delta)
-- own       skactiveml/stream/budgetmanager/_threshold_budget.py:97  self.random_state_.normal(1, self.delta)
def rng_DensityBasedSplitBudgetManager_query_by_utility : List Src := [.own, .own]
theorem rng_DensityBasedSplitBudgetManager_query_by_utility_noGlobal : NoGlobal rng_DensityBasedSplitBudgetManager_query_by_utility = true := by decide +kernel

-- own       skactiveml/stream/budgetmanager/_threshold_budget.py:134  self.random_state_.random_sample(len(candidates))
def rng_DensityBasedSplitBudgetManager_update : List Src := [.own]
theorem rng_DensityBasedSplitBudgetManager_update_noGlobal : NoGlobal rng_DensityBasedSplitBudgetManager_update = true := by decide +kernel

/-! ### RandomBudgetManager  (skactiveml/stream/budgetmanager/_estimated_budget_zliobaite.py) -/
-- own       skactiveml/stream/budgetmanager/_estimated_budget_zliobaite.py:812  self.random_state_.random_sample(len(confidence))
def rng_RandomBudgetManager_query_by_utility : List Src := [.own]
theorem rng_RandomBudgetManager_query_by_utility_noGlobal : NoGlobal rng_RandomBudgetManager_query_by_utility = true := by decide +kernel

-- own       skactiveml/stream/budgetmanager/_estimated_budget_zliobaite.py:849  self.random_state_.random_sample(len(candidates))
def rng_RandomBudgetManager_update : List Src := [.own]
theorem rng_RandomBudgetManager_update_noGlobal : NoGlobal rng_RandomBudgetManager_update = true := by decide +kernel

/-! ### ParzenWindowClassifier  (skactiveml/classifier/_parzen_window_classifier.py) -/
def rng_ParzenWindowClassifier_fit : List Src := []
theorem rng_ParzenWindowClassifier_fit_noGlobal : NoGlobal rng_ParzenWindowClassifier_fit = true := by decide +kernel

def rng_ParzenWindowClassifier_predict_freq : List Src := []
theorem rng_ParzenWindowClassifier_predict_freq_noGlobal : NoGlobal rng_ParzenWindowClassifier_predict_freq = true := by decide +kernel

def rng_ParzenWindowClassifier_predict_proba : List Src := []
theorem rng_ParzenWindowClassifier_predict_proba_noGlobal : NoGlobal rng_ParzenWindowClassifier_predict_proba = true := by decide +kernel

-- seededArg skactiveml/base.py:1365  random_state.choice(np.array(R.shape[-1]), size=is_zero.sum())
def rng_ParzenWindowClassifier_sample_proba : List Src := [.seededArg]
theorem rng_ParzenWindowClassifier_sample_proba_noGlobal : NoGlobal rng_ParzenWindowClassifier_sample_proba = true := by decide +kernel

-- own       skactiveml/base.py:1122  rand_argmin(costs, random_state=self.random_state_, axis=1)
def rng_ParzenWindowClassifier_predict : List Src := [.own]
theorem rng_ParzenWindowClassifier_predict_noGlobal : NoGlobal rng_ParzenWindowClassifier_predict = true := by decide +kernel

/-! ### MixtureModelClassifier  (skactiveml/classifier/_mixture_model_classifier.py) -/
-- own       skactiveml/classifier/_mixture_model_classifier.py:124  BayesianGaussianMixture(n_components=len(self.classes_), random_state=self.random_state_)
def rng_MixtureModelClassifier_fit : List Src := [.own]
theorem rng_MixtureModelClassifier_fit_noGlobal : NoGlobal rng_MixtureModelClassifier_fit = true := by decide +kernel

def rng_MixtureModelClassifier_predict_freq : List Src := []
theorem rng_MixtureModelClassifier_predict_freq_noGlobal : NoGlobal rng_MixtureModelClassifier_predict_freq = true := by decide +kernel

def rng_MixtureModelClassifier_predict_proba : List Src := []
theorem rng_MixtureModelClassifier_predict_proba_noGlobal : NoGlobal rng_MixtureModelClassifier_predict_proba = true := by decide +kernel

-- seededArg skactiveml/base.py:1365  random_state.choice(np.array(R.shape[-1]), size=is_zero.sum())
def rng_MixtureModelClassifier_sample_proba : List Src := [.seededArg]
theorem rng_MixtureModelClassifier_sample_proba_noGlobal : NoGlobal rng_MixtureModelClassifier_sample_proba = true := by decide +kernel

-- own       skactiveml/base.py:1122  rand_argmin(costs, random_state=self.random_state_, axis=1)
def rng_MixtureModelClassifier_predict : List Src := [.own]
theorem rng_MixtureModelClassifier_predict_noGlobal : NoGlobal rng_MixtureModelClassifier_predict = true := by decide +kernel

/-! ### SklearnClassifier  (skactiveml/classifier/_wrapper.py) -/
def rng_SklearnClassifier_fit : List Src := []
theorem rng_SklearnClassifier_fit_noGlobal : NoGlobal rng_SklearnClassifier_fit = true := by decide +kernel

def rng_SklearnClassifier_partial_fit : List Src := []
theorem rng_SklearnClassifier_partial_fit_noGlobal : NoGlobal rng_SklearnClassifier_partial_fit = true := by decide +kernel

-- own       skactiveml/classifier/_wrapper.py:183  rand_argmin(costs, random_state=self.random_state_, axis=1)
-- own       skactiveml/classifier/_wrapper.py:190  rand_argmin(costs, random_state=self.random_state_, axis=1)
def rng_SklearnClassifier_predict : List Src := [.own, .own]
theorem rng_SklearnClassifier_predict_noGlobal : NoGlobal rng_SklearnClassifier_predict = true := by decide +kernel

def rng_SklearnClassifier_predict_proba : List Src := []
theorem rng_SklearnClassifier_predict_proba_noGlobal : NoGlobal rng_SklearnClassifier_predict_proba = true := by decide +kernel

/-! ### SlidingWindowClassifier  (skactiveml/classifier/_wrapper.py) -/
def rng_SlidingWindowClassifier_fit : List Src := []
theorem rng_SlidingWindowClassifier_fit_noGlobal : NoGlobal rng_SlidingWindowClassifier_fit = true := by decide +kernel

def rng_SlidingWindowClassifier_partial_fit : List Src := []
theorem rng_SlidingWindowClassifier_partial_fit_noGlobal : NoGlobal rng_SlidingWindowClassifier_partial_fit = true := by decide +kernel

def rng_SlidingWindowClassifier_predict : List Src := []
theorem rng_SlidingWindowClassifier_predict_noGlobal : NoGlobal rng_SlidingWindowClassifier_predict = true := by decide +kernel

def rng_SlidingWindowClassifier_predict_proba : List Src := []
theorem rng_SlidingWindowClassifier_predict_proba_noGlobal : NoGlobal rng_SlidingWindowClassifier_predict_proba = true := by decide +kernel

def rng_SlidingWindowClassifier_predict_freq : List Src := []
theorem rng_SlidingWindowClassifier_predict_freq_noGlobal : NoGlobal rng_SlidingWindowClassifier_predict_freq = true := by decide +kernel

/-! ### AnnotatorLogisticRegression  (skactiveml/classifier/multiannotator/_annotator_logistic_regression.py) -/
def rng_AnnotatorLogisticRegression_fit : List Src := []
theorem rng_AnnotatorLogisticRegression_fit_noGlobal : NoGlobal rng_AnnotatorLogisticRegression_fit = true := by decide +kernel

def rng_AnnotatorLogisticRegression_predict_proba : List Src := []
theorem rng_AnnotatorLogisticRegression_predict_proba_noGlobal : NoGlobal rng_AnnotatorLogisticRegression_predict_proba = true := by decide +kernel

def rng_AnnotatorLogisticRegression_predict_annotator_perf : List Src := []
theorem rng_AnnotatorLogisticRegression_predict_annotator_perf_noGlobal : NoGlobal rng_AnnotatorLogisticRegression_predict_annotator_perf = true := by decide +kernel

-- own       skactiveml/base.py:1122  rand_argmin(costs, random_state=self.random_state_, axis=1)
def rng_AnnotatorLogisticRegression_predict : List Src := [.own]
theorem rng_AnnotatorLogisticRegression_predict_noGlobal : NoGlobal rng_AnnotatorLogisticRegression_predict = true := by decide +kernel

/-! ### AnnotatorEnsembleClassifier  (skactiveml/classifier/multiannotator/_annotator_ensemble_classifier.py) -/
def rng_AnnotatorEnsembleClassifier_fit : List Src := []
theorem rng_AnnotatorEnsembleClassifier_fit_noGlobal : NoGlobal rng_AnnotatorEnsembleClassifier_fit = true := by decide +kernel

def rng_AnnotatorEnsembleClassifier_predict_proba : List Src := []
theorem rng_AnnotatorEnsembleClassifier_predict_proba_noGlobal : NoGlobal rng_AnnotatorEnsembleClassifier_predict_proba = true := by decide +kernel

-- own       skactiveml/base.py:1122  rand_argmin(costs, random_state=self.random_state_, axis=1)
def rng_AnnotatorEnsembleClassifier_predict : List Src := [.own]
theorem rng_AnnotatorEnsembleClassifier_predict_noGlobal : NoGlobal rng_AnnotatorEnsembleClassifier_predict = true := by decide +kernel

/-! ### NICKernelRegressor  (skactiveml/regressor/_nic_kernel_regressor.py) -/
def rng_NICKernelRegressor_fit : List Src := []
theorem rng_NICKernelRegressor_fit_noGlobal : NoGlobal rng_NICKernelRegressor_fit = true := by decide +kernel

def rng_NICKernelRegressor_predict_target_distribution : List Src := []
theorem rng_NICKernelRegressor_predict_target_distribution_noGlobal : NoGlobal rng_NICKernelRegressor_predict_target_distribution = true := by decide +kernel

def rng_NICKernelRegressor_predict : List Src := []
theorem rng_NICKernelRegressor_predict_noGlobal : NoGlobal rng_NICKernelRegressor_predict = true := by decide +kernel

-- seededArg skactiveml/base.py:1583  rv.rvs(size=(n_samples, len(X)), random_state=random_state)
def rng_NICKernelRegressor_sample_y : List Src := [.seededArg]
theorem rng_NICKernelRegressor_sample_y_noGlobal : NoGlobal rng_NICKernelRegressor_sample_y = true := by decide +kernel

/-! ### NadarayaWatsonRegressor  (skactiveml/regressor/_nic_kernel_regressor.py) -/
def rng_NadarayaWatsonRegressor_fit : List Src := []
theorem rng_NadarayaWatsonRegressor_fit_noGlobal : NoGlobal rng_NadarayaWatsonRegressor_fit = true := by decide +kernel

def rng_NadarayaWatsonRegressor_predict_target_distribution : List Src := []
theorem rng_NadarayaWatsonRegressor_predict_target_distribution_noGlobal : NoGlobal rng_NadarayaWatsonRegressor_predict_target_distribution = true := by decide +kernel

def rng_NadarayaWatsonRegressor_predict : List Src := []
theorem rng_NadarayaWatsonRegressor_predict_noGlobal : NoGlobal rng_NadarayaWatsonRegressor_predict = true := by decide +kernel

-- seededArg skactiveml/base.py:1583  rv.rvs(size=(n_samples, len(X)), random_state=random_state)
def rng_NadarayaWatsonRegressor_sample_y : List Src := [.seededArg]
theorem rng_NadarayaWatsonRegressor_sample_y_noGlobal : NoGlobal rng_NadarayaWatsonRegressor_sample_y = true := by decide +kernel

/-! ### SklearnRegressor  (skactiveml/regressor/_wrapper.py) -/
def rng_SklearnRegressor_fit : List Src := []
theorem rng_SklearnRegressor_fit_noGlobal : NoGlobal rng_SklearnRegressor_fit = true := by decide +kernel

def rng_SklearnRegressor_partial_fit : List Src := []
theorem rng_SklearnRegressor_partial_fit_noGlobal : NoGlobal rng_SklearnRegressor_partial_fit = true := by decide +kernel

def rng_SklearnRegressor_predict : List Src := []
theorem rng_SklearnRegressor_predict_noGlobal : NoGlobal rng_SklearnRegressor_predict = true := by decide +kernel

def rng_SklearnRegressor_sample_y : List Src := []
theorem rng_SklearnRegressor_sample_y_noGlobal : NoGlobal rng_SklearnRegressor_sample_y = true := by decide +kernel

def rng_SklearnRegressor_sample : List Src := []
theorem rng_SklearnRegressor_sample_noGlobal : NoGlobal rng_SklearnRegressor_sample = true := by decide +kernel

/-! ### SklearnNormalRegressor  (skactiveml/regressor/_wrapper.py) -/
def rng_SklearnNormalRegressor_predict_target_distribution : List Src := []
theorem rng_SklearnNormalRegressor_predict_target_distribution_noGlobal : NoGlobal rng_SklearnNormalRegressor_predict_target_distribution = true := by decide +kernel

def rng_SklearnNormalRegressor_predict : List Src := []
theorem rng_SklearnNormalRegressor_predict_noGlobal : NoGlobal rng_SklearnNormalRegressor_predict = true := by decide +kernel

-- seededArg skactiveml/base.py:1583  rv.rvs(size=(n_samples, len(X)), random_state=random_state)
def rng_SklearnNormalRegressor_sample_y : List Src := [.seededArg]
theorem rng_SklearnNormalRegressor_sample_y_noGlobal : NoGlobal rng_SklearnNormalRegressor_sample_y = true := by decide +kernel

def rng_SklearnNormalRegressor_fit : List Src := []
theorem rng_SklearnNormalRegressor_fit_noGlobal : NoGlobal rng_SklearnNormalRegressor_fit = true := by decide +kernel

def rng_SklearnNormalRegressor_partial_fit : List Src := []
theorem rng_SklearnNormalRegressor_partial_fit_noGlobal : NoGlobal rng_SklearnNormalRegressor_partial_fit = true := by decide +kernel

def rng_SklearnNormalRegressor_sample : List Src := []
theorem rng_SklearnNormalRegressor_sample_noGlobal : NoGlobal rng_SklearnNormalRegressor_sample = true := by decide +kernel

end Ska.Gen.C06
