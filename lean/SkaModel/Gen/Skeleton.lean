import SkaModel.Core.Skeleton

/-! GENERATED by harness/translate/skeleton.py from the current /repo source — do not edit. -/

namespace Ska.Gen.Skeleton
open Ska.Skeleton

def skel_Badge : Skel := { cls := "Badge", file := "_badge.py", retSimpleBatch := false, method := "none", noneBranchDirect := false, fullNaN := false, writeAtMapping := false, post := [], otherStores := 0 }
theorem skel_Badge_wf : (skel_Badge).wellFormed = false := by decide +kernel

def skel_Clue : Skel := { cls := "Clue", file := "_clue.py", retSimpleBatch := false, method := "none", noneBranchDirect := false, fullNaN := false, writeAtMapping := false, post := [], otherStores := 0 }
theorem skel_Clue_wf : (skel_Clue).wellFormed = false := by decide +kernel

def skel_ContrastiveAL : Skel := { cls := "ContrastiveAL", file := "_contrastive_al.py", retSimpleBatch := true, method := "max", noneBranchDirect := true, fullNaN := true, writeAtMapping := true, post := [], otherStores := 0 }
theorem skel_ContrastiveAL_wf : (skel_ContrastiveAL).wellFormed = true := by decide +kernel

def skel_CoreSet : Skel := { cls := "CoreSet", file := "_core_set.py", retSimpleBatch := false, method := "none", noneBranchDirect := false, fullNaN := false, writeAtMapping := false, post := [], otherStores := 0 }
theorem skel_CoreSet_wf : (skel_CoreSet).wellFormed = false := by decide +kernel

def skel_CostEmbeddingAL : Skel := { cls := "CostEmbeddingAL", file := "_cost_embedding_al.py", retSimpleBatch := true, method := "max", noneBranchDirect := true, fullNaN := true, writeAtMapping := true, post := [], otherStores := 0 }
theorem skel_CostEmbeddingAL_wf : (skel_CostEmbeddingAL).wellFormed = true := by decide +kernel

def skel_DiscriminativeAL : Skel := { cls := "DiscriminativeAL", file := "_discriminative_al.py", retSimpleBatch := false, method := "none", noneBranchDirect := false, fullNaN := false, writeAtMapping := false, post := [], otherStores := 0 }
theorem skel_DiscriminativeAL_wf : (skel_DiscriminativeAL).wellFormed = false := by decide +kernel

def skel_DropQuery : Skel := { cls := "DropQuery", file := "_drop_query.py", retSimpleBatch := false, method := "none", noneBranchDirect := false, fullNaN := false, writeAtMapping := false, post := [], otherStores := 0 }
theorem skel_DropQuery_wf : (skel_DropQuery).wellFormed = false := by decide +kernel

def skel_EpistemicUncertaintySampling : Skel := { cls := "EpistemicUncertaintySampling", file := "_epistemic_uncertainty_sampling.py", retSimpleBatch := true, method := "max", noneBranchDirect := true, fullNaN := true, writeAtMapping := true, post := [], otherStores := 0 }
theorem skel_EpistemicUncertaintySampling_wf : (skel_EpistemicUncertaintySampling).wellFormed = true := by decide +kernel

def skel_ExpectedErrorReduction : Skel := { cls := "ExpectedErrorReduction", file := "_expected_error_reduction.py", retSimpleBatch := true, method := "max", noneBranchDirect := true, fullNaN := true, writeAtMapping := true, post := [], otherStores := 0 }
theorem skel_ExpectedErrorReduction_wf : (skel_ExpectedErrorReduction).wellFormed = true := by decide +kernel

def skel_ExpectedModelChangeMaximization : Skel := { cls := "ExpectedModelChangeMaximization", file := "_expected_model_change_maximization.py", retSimpleBatch := true, method := "max", noneBranchDirect := true, fullNaN := true, writeAtMapping := true, post := [], otherStores := 0 }
theorem skel_ExpectedModelChangeMaximization_wf : (skel_ExpectedModelChangeMaximization).wellFormed = true := by decide +kernel

def skel_ExpectedModelOutputChange : Skel := { cls := "ExpectedModelOutputChange", file := "_expected_model_output_change.py", retSimpleBatch := true, method := "max", noneBranchDirect := true, fullNaN := true, writeAtMapping := true, post := [], otherStores := 0 }
theorem skel_ExpectedModelOutputChange_wf : (skel_ExpectedModelOutputChange).wellFormed = true := by decide +kernel

def skel_ExpectedModelVarianceReduction : Skel := { cls := "ExpectedModelVarianceReduction", file := "_expected_model_variance.py", retSimpleBatch := true, method := "max", noneBranchDirect := true, fullNaN := true, writeAtMapping := true, post := [], otherStores := 0 }
theorem skel_ExpectedModelVarianceReduction_wf : (skel_ExpectedModelVarianceReduction).wellFormed = true := by decide +kernel

def skel_Falcun : Skel := { cls := "Falcun", file := "_falcun.py", retSimpleBatch := false, method := "none", noneBranchDirect := false, fullNaN := false, writeAtMapping := false, post := [], otherStores := 0 }
theorem skel_Falcun_wf : (skel_Falcun).wellFormed = false := by decide +kernel

def skel_FourDs : Skel := { cls := "FourDs", file := "_four_ds.py", retSimpleBatch := false, method := "none", noneBranchDirect := false, fullNaN := false, writeAtMapping := false, post := [], otherStores := 0 }
theorem skel_FourDs_wf : (skel_FourDs).wellFormed = false := by decide +kernel

def skel_GreedySamplingTarget : Skel := { cls := "GreedySamplingTarget", file := "_greedy_sampling.py", retSimpleBatch := false, method := "none", noneBranchDirect := false, fullNaN := false, writeAtMapping := false, post := [], otherStores := 0 }
theorem skel_GreedySamplingTarget_wf : (skel_GreedySamplingTarget).wellFormed = false := by decide +kernel

def skel_GreedySamplingX : Skel := { cls := "GreedySamplingX", file := "_greedy_sampling.py", retSimpleBatch := false, method := "none", noneBranchDirect := false, fullNaN := false, writeAtMapping := false, post := [], otherStores := 0 }
theorem skel_GreedySamplingX_wf : (skel_GreedySamplingX).wellFormed = false := by decide +kernel

def skel_KLDivergenceMaximization : Skel := { cls := "KLDivergenceMaximization", file := "_information_gain_maximization.py", retSimpleBatch := true, method := "max", noneBranchDirect := true, fullNaN := true, writeAtMapping := true, post := [], otherStores := 0 }
theorem skel_KLDivergenceMaximization_wf : (skel_KLDivergenceMaximization).wellFormed = true := by decide +kernel

def skel_ParallelUtilityEstimationWrapper : Skel := { cls := "ParallelUtilityEstimationWrapper", file := "_wrapper.py", retSimpleBatch := true, method := "max", noneBranchDirect := true, fullNaN := true, writeAtMapping := true, post := [], otherStores := 0 }
theorem skel_ParallelUtilityEstimationWrapper_wf : (skel_ParallelUtilityEstimationWrapper).wellFormed = true := by decide +kernel

def skel_ProbCover : Skel := { cls := "ProbCover", file := "_prob_cover.py", retSimpleBatch := false, method := "none", noneBranchDirect := false, fullNaN := false, writeAtMapping := false, post := [], otherStores := 0 }
theorem skel_ProbCover_wf : (skel_ProbCover).wellFormed = false := by decide +kernel

def skel_ProbabilisticAL : Skel := { cls := "ProbabilisticAL", file := "_probabilistic_al.py", retSimpleBatch := true, method := "max", noneBranchDirect := true, fullNaN := true, writeAtMapping := true, post := ["mul_utility_weight"], otherStores := 0 }
theorem skel_ProbabilisticAL_wf : (skel_ProbabilisticAL).wellFormed = true := by decide +kernel

def skel_QueryByCommittee : Skel := { cls := "QueryByCommittee", file := "_query_by_committee.py", retSimpleBatch := true, method := "max", noneBranchDirect := true, fullNaN := true, writeAtMapping := true, post := [], otherStores := 0 }
theorem skel_QueryByCommittee_wf : (skel_QueryByCommittee).wellFormed = true := by decide +kernel

def skel_Quire : Skel := { cls := "Quire", file := "_quire.py", retSimpleBatch := true, method := "max", noneBranchDirect := false, fullNaN := false, writeAtMapping := false, post := ["other:L = np.linalg.inv(K + lmbda * np.eye(len", "other:L_aa_inv = _L_aa_inv(K, lmbda, mask_a, m", "other:utilities_cand = np.full(len(X), fill_va", "other:y_labeled_ovr = _one_versus_rest_transfo", "other:for i, s in enumerate(mapping): mask_u =", "other:utilities = -utilities_cand"], otherStores := 0 }
theorem skel_Quire_wf : (skel_Quire).wellFormed = false := by decide +kernel

def skel_RandomSampling : Skel := { cls := "RandomSampling", file := "_random_sampling.py", retSimpleBatch := true, method := "proportional", noneBranchDirect := true, fullNaN := true, writeAtMapping := true, post := [], otherStores := 0 }
theorem skel_RandomSampling_wf : (skel_RandomSampling).wellFormed = true := by decide +kernel

def skel_RegressionTreeBasedAL : Skel := { cls := "RegressionTreeBasedAL", file := "_regression_tree_based_al.py", retSimpleBatch := false, method := "none", noneBranchDirect := false, fullNaN := false, writeAtMapping := false, post := [], otherStores := 0 }
theorem skel_RegressionTreeBasedAL_wf : (skel_RegressionTreeBasedAL).wellFormed = false := by decide +kernel

def skel_SubSamplingWrapper : Skel := { cls := "SubSamplingWrapper", file := "_wrapper.py", retSimpleBatch := false, method := "none", noneBranchDirect := false, fullNaN := false, writeAtMapping := false, post := [], otherStores := 0 }
theorem skel_SubSamplingWrapper_wf : (skel_SubSamplingWrapper).wellFormed = false := by decide +kernel

def skel_TypiClust : Skel := { cls := "TypiClust", file := "_typi_clust.py", retSimpleBatch := false, method := "none", noneBranchDirect := false, fullNaN := false, writeAtMapping := false, post := [], otherStores := 0 }
theorem skel_TypiClust_wf : (skel_TypiClust).wellFormed = false := by decide +kernel

def skel_UncertaintySampling : Skel := { cls := "UncertaintySampling", file := "_uncertainty_sampling.py", retSimpleBatch := true, method := "max", noneBranchDirect := true, fullNaN := true, writeAtMapping := true, post := ["mul_utility_weight"], otherStores := 0 }
theorem skel_UncertaintySampling_wf : (skel_UncertaintySampling).wellFormed = true := by decide +kernel

def skel_ValueOfInformationEER : Skel := { cls := "ValueOfInformationEER", file := "_expected_error_reduction.py", retSimpleBatch := false, method := "none", noneBranchDirect := false, fullNaN := false, writeAtMapping := false, post := [], otherStores := 0 }
theorem skel_ValueOfInformationEER_wf : (skel_ValueOfInformationEER).wellFormed = false := by decide +kernel

def skel__GeneralBALD : Skel := { cls := "_GeneralBALD", file := "_bald.py", retSimpleBatch := false, method := "none", noneBranchDirect := false, fullNaN := false, writeAtMapping := false, post := [], otherStores := 0 }
theorem skel__GeneralBALD_wf : (skel__GeneralBALD).wellFormed = false := by decide +kernel

def all : List Skel := [skel_Badge, skel_Clue, skel_ContrastiveAL, skel_CoreSet, skel_CostEmbeddingAL, skel_DiscriminativeAL, skel_DropQuery, skel_EpistemicUncertaintySampling, skel_ExpectedErrorReduction, skel_ExpectedModelChangeMaximization, skel_ExpectedModelOutputChange, skel_ExpectedModelVarianceReduction, skel_Falcun, skel_FourDs, skel_GreedySamplingTarget, skel_GreedySamplingX, skel_KLDivergenceMaximization, skel_ParallelUtilityEstimationWrapper, skel_ProbCover, skel_ProbabilisticAL, skel_QueryByCommittee, skel_Quire, skel_RandomSampling, skel_RegressionTreeBasedAL, skel_SubSamplingWrapper, skel_TypiClust, skel_UncertaintySampling, skel_ValueOfInformationEER, skel__GeneralBALD]

end Ska.Gen.Skeleton
