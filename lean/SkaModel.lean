import SkaModel.Core.Selection
import SkaModel.Core.Proto
import SkaModel.Core.Pool
import SkaModel.Core.Loop
import SkaModel.Core.Wrapper
import SkaModel.Core.Budget
import SkaModel.Core.Stream
import SkaModel.Core.MultiAnnot
import SkaModel.Lemmas.Selection
import SkaModel.Lemmas.Pool
import SkaModel.Lemmas.SimLoop
import SkaModel.Lemmas.Budget
import SkaModel.Lemmas.MultiAnnot
import SkaModel.Props.C18
import SkaModel.Props.C02
import SkaModel.Props.C01
import SkaModel.Props.C14
import SkaModel.Props.C20
import SkaModel.Props.C03
import SkaModel.Props.C04
import SkaModel.Props.C10
import SkaModel.Props.C07
import SkaModel.Props.C08
import SkaModel.Core.IndexWrapper
import SkaModel.Lemmas.IndexWrapper
import SkaModel.Props.C19
import SkaModel.Core.Window
import SkaModel.Lemmas.Window
import SkaModel.Props.C13w
import SkaModel.Core.Label
import SkaModel.Core.Aggregation
import SkaModel.Lemmas.Label
import SkaModel.Lemmas.Basic
import SkaModel.Lemmas.Aggregation
import SkaModel.Props.C16
import SkaModel.Props.C17
import SkaModel.Props.C09
import SkaModel.Core.Skeleton
import SkaModel.Gen.Skeleton
import SkaModel.Core.SeqSelect
import SkaModel.Props.C01seq
import SkaModel.Core.Classifier
import SkaModel.Core.Fit
import SkaModel.Core.Regressor
import SkaModel.Lemmas.Classifier
import SkaModel.Lemmas.Fit
import SkaModel.Lemmas.Regressor
import SkaModel.Props.C11
import SkaModel.Props.C12
import SkaModel.Props.C15
import SkaModel.Core.Effects
import SkaModel.Core.Rng
import SkaModel.Lemmas.Effects
import SkaModel.Props.C05
import SkaModel.Props.C13
import SkaModel.Props.C06
import SkaModel.Gen.EffectsC05
import SkaModel.Gen.EffectsC13
import SkaModel.Gen.RngC06
import SkaModel.Core.SeqChoice
import SkaModel.Props.C01choice
import SkaModel.Props.C18choice
import SkaModel.Core.PyRt
import SkaModel.Gen.StreamBM
import SkaModel.Lemmas.StreamGen
import SkaModel.Lemmas.StreamSim
import SkaModel.Props.StreamGen
import SkaModel.Core.PySel
import SkaModel.Gen.SelectionGen
import SkaModel.Lemmas.SelectionGen
import SkaModel.Props.SelectionGen
import SkaModel.Core.Density
import SkaModel.Props.C03dens
import SkaModel.Core.Uncertainty
import SkaModel.Props.C08us
import SkaModel.Gen.DensityGen
import SkaModel.Lemmas.DensityGen
import SkaModel.Props.DensityGen
import SkaModel.Core.PyIW
import SkaModel.Gen.WrapperGen
import SkaModel.Lemmas.WrapperGen
import SkaModel.Props.WrapperGen
import SkaModel.Gen.AnnotGen
import SkaModel.Lemmas.AnnotGen
import SkaModel.Props.AnnotGen
import SkaModel.Core.PyRng
import SkaModel.Gen.RngGen
import SkaModel.Lemmas.RngGen
import SkaModel.Props.RngGen
